import ScalesModel.Core.Val
import ScalesModel.Core.Run
import ScalesModel.Proofs.VerdictLemmas
import ScalesModel.Proofs.RunLemmas
import ScalesModel.Proofs.BigEndian
import ScalesModel.Model.Async
import ScalesModel.Adapter.Async
import ScalesModel.Model.Heap
import ScalesModel.Adapter.Heap
import ScalesModel.Model.FrontEnd
import ScalesModel.Adapter.FrontEnd
import ScalesModel.Adapter.E2E
import ScalesModel.Proofs.AsyncLemmas
import ScalesModel.Proofs.HeapBasic
import ScalesModel.Proofs.HeapOrder
import ScalesModel.Proofs.HeapFix
import ScalesModel.Proofs.HeapInv
import ScalesModel.Proofs.FrontEndLemmas
import ScalesModel.Props.C01
import ScalesModel.Props.C03
import ScalesModel.Props.C04
import ScalesModel.Props.C17
import ScalesModel.Model.TagPool
import ScalesModel.Model.Mux
import ScalesModel.Adapter.TagPool
import ScalesModel.Proofs.TagPoolLemmas
import ScalesModel.Props.C11
import ScalesModel.Props.C12
import ScalesModel.Model.Shared
import ScalesModel.Adapter.Shared
import ScalesModel.Proofs.SharedLemmas
import ScalesModel.Props.C16
import ScalesModel.Model.KafkaCodec
import ScalesModel.Adapter.KafkaCodec
import ScalesModel.Proofs.KafkaCodecLemmas
import ScalesModel.Props.C15
import ScalesModel.Model.Varz
import ScalesModel.Adapter.Varz
import ScalesModel.Proofs.VarzLemmas
import ScalesModel.Props.C18
import ScalesModel.Model.Proxy
import ScalesModel.Adapter.Proxy
import ScalesModel.Model.Uri
import ScalesModel.Adapter.Uri
import ScalesModel.Proofs.ProxyLemmas
import ScalesModel.Proofs.UriLemmas
import ScalesModel.Props.C20
import ScalesModel.Model.TimerQueue
import ScalesModel.Adapter.TimerQueue
import ScalesModel.Proofs.TimerQueueLemmas
import ScalesModel.Proofs.TimerQueueWorker
import ScalesModel.Props.C10
import ScalesModel.Proofs.HeapPrim
import ScalesModel.Proofs.HeapOps
import ScalesModel.Proofs.HeapPut
import ScalesModel.Proofs.HeapGet
import ScalesModel.Proofs.HeapFacts
import ScalesModel.Proofs.HeapSim
import ScalesModel.Proofs.HeapSpec
import ScalesModel.Model.MuxCodec
import ScalesModel.Adapter.MuxCodec
import ScalesModel.Proofs.MuxCodecLemmas
import ScalesModel.Props.C13
import ScalesModel.Model.ThriftCodec
import ScalesModel.Adapter.ThriftCodec
import ScalesModel.Proofs.ThriftCodecLemmas
import ScalesModel.Props.C14
import ScalesModel.Model.Transport
import ScalesModel.Model.Serial
import ScalesModel.Adapter.Serial
import ScalesModel.Adapter.SerialC02
import ScalesModel.Adapter.SerialC12
import ScalesModel.Model.MuxT
import ScalesModel.Adapter.MuxT
import ScalesModel.Proofs.TransportLemmas
import ScalesModel.Proofs.SerialLemmas
import ScalesModel.Proofs.MuxTLemmas
import ScalesModel.Proofs.MuxTTheorems
import ScalesModel.Props.C08
import ScalesModel.Model.Watermark
import ScalesModel.Adapter.Watermark
import ScalesModel.Proofs.WatermarkView
import ScalesModel.Proofs.WatermarkInv
import ScalesModel.Proofs.WatermarkProcs
import ScalesModel.Proofs.WatermarkStep
import ScalesModel.Proofs.WatermarkLemmas
import ScalesModel.Props.C07
import ScalesModel.Model.ServerSet
import ScalesModel.Adapter.ServerSet
import ScalesModel.Proofs.ServerSetLemmas
import ScalesModel.Proofs.ServerSetSteps
import ScalesModel.Proofs.ServerSetRuns
import ScalesModel.Proofs.ServerSetInv
import ScalesModel.Props.C19
import ScalesModel.Proofs.TagPoolStep
import ScalesModel.Props.C02
import ScalesModel.Model.Ema
import ScalesModel.Model.LBBase
import ScalesModel.Model.Aperture
import ScalesModel.Adapter.LB
import ScalesModel.Proofs.HeapMember
import ScalesModel.Proofs.ApertureCalm
import ScalesModel.Proofs.ApertureInv
import ScalesModel.Proofs.ApertureSettle
import ScalesModel.Proofs.EmaLemmas
import ScalesModel.Proofs.LBBaseLemmas
import ScalesModel.Proofs.LBInv
import ScalesModel.Proofs.LBCalls
import ScalesModel.Proofs.LBSpec
import ScalesModel.Proofs.LBHeapTie
import ScalesModel.Props.C05
import ScalesModel.Props.C06
import ScalesModel.Model.Resurrector
import ScalesModel.Adapter.Resurrector
import ScalesModel.Model.ResChain
import ScalesModel.Adapter.ResPool
import ScalesModel.Proofs.ResBackoff
import ScalesModel.Proofs.ResurrectorInv
import ScalesModel.Proofs.ResurrectorOps
import ScalesModel.Proofs.ResurrectorFacts
import ScalesModel.Proofs.ResChainLemmas
import ScalesModel.Proofs.ResPoolLemmas
import ScalesModel.Props.C09
import ScalesModel.Proofs.LBGate
import ScalesModel.Proofs.LBTotal
import ScalesModel.Proofs.ServerSetKeys
import ScalesModel.Proofs.SharedProvLemmas
import ScalesModel.Proofs.SharedGuardLemmas
import ScalesModel.Proofs.SharedRefCountLemmas
import ScalesModel.Adapter.HeapC09
import ScalesModel.Proofs.HeapC09
import ScalesModel.Proofs.TagPoolHistory
import ScalesModel.Adapter.ApertureHeap
import ScalesModel.Proofs.HeapChans
import ScalesModel.Proofs.ApertureHeap
import ScalesModel.Model.ResMux
import ScalesModel.Adapter.ResMux
import ScalesModel.Proofs.ResMuxTransport
import ScalesModel.Proofs.ResMuxInv
import ScalesModel.Proofs.ResMuxSpec
import ScalesModel.Proofs.ResMuxFacts
import ScalesModel.Proofs.MuxTSpecLemmas
import ScalesModel.Proofs.MuxTParkedSpec
import ScalesModel.Model.ThriftShared
import ScalesModel.Adapter.ThriftShared
import ScalesModel.Proofs.ThriftSharedLemmas
import ScalesModel.Proofs.ServerSetSettle
import ScalesModel.Proofs.E2EMonitorLemmas
import ScalesModel.Proofs.E2EMonitorReadings
import ScalesModel.Props.E2EMonitor
import ScalesModel.Proofs.LBOwn
