/-
  Model/ServerSet.lean — scales/loadbalancer/zookeeper.py : ServerSet, together with the part of
  its environment that decides what it is told: the znode tree under the watched path,
  ZooKeeper's one-shot watches, and kazoo's DataWatch / ChildrenWatch recipes.

  Environment (harness/fakezk.py is the executable counterpart):
    * the watched path ("parent") exists or not; each creation is a new incarnation
      (its creation zxid); children are flat names; the path can only be deleted when it has
      no children (ZooKeeper);
    * `get`/`exists` on the path leave a one-shot data watch, `get_children` a one-shot child
      watch; creating/deleting the path fires the data watch (and, on deletion, after it, every
      child watch); creating/deleting a child fires every child watch;
    * fired events wait in a FIFO (`pending`) and are handed to the recipes one at a time
      (`deliver`) — kazoo runs watch callbacks sequentially from one queue;
    * reads done by the recipes are answered at once; the read of a *member* node by the
      notification worker is in flight: `requested`, then `served` (the tree is looked at), then
      returned (`ret`).

  Code (after the repair of F13): `_data_changed` (compares the path's creation zxid with the
  incarnation it is watching, `_watching`; starts a ChildrenWatch per incarnation, queues an
  empty child list when the path is gone), `_begin_watch`, `_on_set_changed` (ends a watch
  left over from an earlier incarnation; otherwise puts the filtered child list on the
  notification queue and remembers it in `_nodes`),
  `_notification_worker` (takes a child list, diffs it against `_members`, reads the new nodes
  one by one — each read is a yield point and may find the node gone —, then pops the removed
  members calling `on_leave` and calls `on_join` for the members read), callbacks that may raise.

  Listings by the consumer (`get_members()` / `__iter__`, what `ZooKeeperServerSetProvider.
  GetServers()` calls — every client does so once while it opens): `with self._cb_blocker:` list
  the children (answered at once, no watch), then read the members one by one (each read is in
  flight like the worker's: requested, served, returned; a member that vanished in between is
  skipped), return the members read.  Any number of listings may be in progress (`St.lists`;
  `_CallbackBlocker._count` is their number, its event is set iff there is none).  The worker
  calls `_cb_blocker.ensure_safe()` once per update, right after taking it from the queue: while
  a listing is in progress it does not *begin* an update (an update whose reads are already under
  way goes on and is delivered); it goes on when the last listing has returned.  In the model an
  update the worker has taken but is held back on stays at the head of `St.queue`
  (`_notification_queue` is `St.queue` without it).

  Names are natural numbers; `n < lim` is the member filter.  What a znode contains is
  `Cfg.keyOf`: the Member it carries up to `Member.__eq__` (endpoints, status, shard — not the
  znode name); different names may carry equal Members (a server that re-registered).  The
  ServerSet itself never compares Members, so the key only enters the observations (which Member
  each callback was handed) and the specification's view of a consumer that goes by Member
  equality.  Within one update the leaves are delivered before the joins (`finishJob`) — which
  is what keeps such a consumer right when one update removes a znode and adds another with an
  equal Member.  Import-free.
-/
import ScalesModel.Core.Val
namespace Scales.ServerSet

/-! ## the znode tree -/

structure Tree where
  gen : Nat              -- incarnations of the path handed out so far
  parent : Option Nat    -- incarnation of the path, `none` when it does not exist
  kids : List Nat        -- names of the children
  deriving Repr, DecidableEq

inductive TOp where
  | createParent
  | deleteParent
  | createChild (n : Nat)
  | deleteChild (n : Nat)
  deriving Repr, DecidableEq

def Tree.init : Tree := ⟨0, none, []⟩

def Tree.legal (t : Tree) : TOp → Bool
  | .createParent => t.parent.isNone
  | .deleteParent => t.parent.isSome && t.kids.isEmpty
  | .createChild n => t.parent.isSome && !t.kids.contains n
  | .deleteChild n => t.kids.contains n

def Tree.apply (t : Tree) : TOp → Tree
  | .createParent => { t with gen := t.gen + 1, parent := some (t.gen + 1) }
  | .deleteParent => { t with parent := none }
  | .createChild n => { t with kids := t.kids ++ [n] }
  | .deleteChild n => { t with kids := t.kids.erase n }

/-- the members currently present: children that pass the member filter -/
def Tree.present (lim : Nat) (t : Tree) : List Nat :=
  if t.parent.isSome then t.kids.filter (fun n => decide (n < lim)) else []

/-! ## configuration, events, worker -/

structure Cfg where
  lim : Nat                -- member filter: names below `lim` are members
  raiseJoin : List Nat     -- names for which the consumer's on_join raises
  raiseLeave : List Nat    -- names for which the consumer's on_leave raises
  keys : List Nat := []    -- content of the znodes: name `n` carries the Member `keys[n]` (name `n`
                           -- itself beyond the list); two names with the same key carry *equal*
                           -- Members (same endpoints / status / shard — `Member.__eq__` ignores
                           -- the znode name).  The ServerSet never looks at it.
  deriving Repr, DecidableEq

def Cfg.memberOk (cfg : Cfg) (n : Nat) : Bool := decide (n < cfg.lim)

/-- the Member (up to `Member.__eq__`) that znode `n` carries -/
def Cfg.keyOf (cfg : Cfg) (n : Nat) : Nat := cfg.keys.getD n n

/-- a fired watch event waiting to be delivered -/
inductive Ev where
  | data                        -- for kazoo's DataWatch on the path
  | child (tag : Option Nat)    -- for the ChildrenWatch started for incarnation `tag` of the
                                -- path (`none`: that ChildrenWatch has been stopped)
  deriving Repr, DecidableEq

/-- the member read the worker is blocked in -/
inductive Rd where
  | requested (n : Nat)
  | served (n : Nat) (found : Bool)
  deriving Repr, DecidableEq

def Rd.name : Rd → Nat
  | .requested n => n
  | .served n _ => n

/-- the update the notification worker is processing -/
structure Job where
  listing : List Nat     -- the child list taken from the queue
  todo : List Nat        -- new nodes still to be read (iteration order is the runtime's)
  cur : Rd               -- the read in flight
  got : List Nat         -- members read so far, in read order
  deriving Repr, DecidableEq

/-- a listing by the consumer (`get_members()`) that is reading the members it listed -/
structure Lst where
  id : Nat               -- how many listings were started before this one
  todo : List Nat        -- members listed, still to be read
  cur : Rd               -- the read in flight
  got : List Nat         -- members read so far, in read order
  deriving Repr, DecidableEq

/-- a notification: (true, n) = on_join(n), (false, n) = on_leave(n) -/
abbrev Note := Bool × Nat

def raises (cfg : Cfg) (e : Note) : Bool :=
  if e.1 then cfg.raiseJoin.contains e.2 else cfg.raiseLeave.contains e.2

structure St where
  tree : Tree
  started : Bool            -- the ServerSet has been constructed
  dw : Bool                 -- a data watch is registered on the path
  cw : List (Option Nat)    -- child watches registered on the path, in registration order,
                            -- each with the incarnation its ChildrenWatch was started for
  pending : List Ev         -- fired events, oldest first
  seen : Option Nat         -- DataWatch._version (incarnation it saw last)
  everCalled : Bool         -- DataWatch._ever_called
  watched : Option Nat      -- ServerSet._watching: the incarnation being watched
  nodes : List Nat          -- ServerSet._nodes
  members : List Nat        -- keys of ServerSet._members, in dict order
  queue : List (List Nat)   -- updates queued for the worker: `_notification_queue`, preceded by the
                            -- update the worker has taken and is held back on by a listing, if any
  job : Option Job          -- what the worker is in the middle of
  lgen : Nat := 0           -- listings started so far
  lists : List Lst := []    -- listings in progress (`_cb_blocker._count` of them), in start order
  done : List (Nat × List Nat) := []   -- listings that returned: (id, members returned), in return order
  deriving Repr, DecidableEq

def St.init : St :=
  { tree := Tree.init, started := false, dw := false, cw := [], pending := [], seen := none,
    everCalled := false, watched := none, nodes := [], members := [], queue := [], job := none,
    lgen := 0, lists := [], done := [] }

/-! ## environment steps -/

def fireData (s : St) : St :=
  if s.dw then { s with dw := false, pending := s.pending ++ [Ev.data] } else s

def fireChild (s : St) : St :=
  { s with cw := [], pending := s.pending ++ s.cw.map Ev.child }

/-- a (legal) change of the tree and the watches it fires -/
def treeStep (s : St) (o : TOp) : St :=
  let s := { s with tree := s.tree.apply o }
  match o with
  | .createParent => fireData s
  | .deleteParent => fireChild (fireData s)
  | .createChild _ => fireChild s
  | .deleteChild _ => fireChild s

/-! ## ServerSet and the recipes -/

/-- `_on_set_changed(children)` -/
def onSet (cfg : Cfg) (s : St) (children : List Nat) : St :=
  let l := children.filter cfg.memberOk
  { s with nodes := l, queue := s.queue ++ [l] }

/-- `ChildrenWatch._get_children` of the watch started for incarnation `g`, while the path
    exists: list, re-register, call back; `_on_set_changed` returns False (which stops the
    ChildrenWatch; the watch it just left stays behind) when `g` is no longer being watched -/
def listChildren (cfg : Cfg) (s : St) (g : Nat) : St :=
  if s.watched = some g then onSet cfg { s with cw := s.cw ++ [some g] } s.tree.kids
  else { s with cw := s.cw ++ [none] }

/-- `DataWatch._get_data` followed by `ServerSet._data_changed` -/
def dataDeliver (cfg : Cfg) (s : St) : St :=
  let cur := s.tree.parent
  let call := (s.seen != cur) || !s.everCalled
  let s := { s with dw := true, seen := cur }
  if call then
    let s := { s with everCalled := true }
    if cur = s.watched then s
    else
      match cur with
      | none => onSet cfg { s with watched := none } []
      | some g => listChildren cfg { s with watched := some g } g
  else s

/-- the watcher of a ChildrenWatch runs: a stopped watch does nothing, a vanished path stops
    the watch for good -/
def childDeliver (cfg : Cfg) (s : St) : Option Nat → St
  | none => s
  | some g => if s.tree.parent.isSome then listChildren cfg s g else s

/-- end of one update in `_notification_worker`: `_members.update(new)`, then pop every
    removed member calling on_leave, then on_join for every member read.  Dict order after
    that: the surviving members in their old order, then the new ones in read order. -/
def finishJob (members listing got : List Nat) : List Nat × List Note :=
  (members.filter (fun n => listing.contains n) ++ got,
   (members.filter (fun n => !listing.contains n)).map (fun n => (false, n)) ++
     got.map (fun n => (true, n)))

/-- what the worker is left with when it blocks again -/
structure WSt where
  members : List Nat
  queue : List (List Nat)
  job : Option Job
  notes : List Note
  deriving Repr, DecidableEq

/-- the worker loop from `queue.get()` on: take updates until one needs a read (then `nxt`
    names the node whose read was requested: any of the new nodes) or the queue is empty
    (then `nxt` must be `none`).  `none` = the label was not a legal choice. -/
def pump (members : List Nat) : List (List Nat) → Option Nat → Option WSt
  | [], nxt => if nxt.isNone then some ⟨members, [], none, []⟩ else none
  | q :: qs, nxt =>
    let todo := q.filter (fun n => !members.contains n)
    if todo.isEmpty then
      let r := finishJob members q []
      (pump r.1 qs nxt).map (fun w => { w with notes := r.2 ++ w.notes })
    else
      match nxt with
      | some n =>
        if todo.contains n then some ⟨members, qs, some ⟨q, todo.erase n, .requested n, []⟩, []⟩
        else none
      | none => none

/-- the worker loop with `ensure_safe()`: while a listing is in progress (`free = false`) the
    worker does not begin an update — whatever is queued stays queued -/
def pumpB (free : Bool) (members : List Nat) (queue : List (List Nat)) (nxt : Option Nat) :
    Option WSt :=
  if free then pump members queue nxt
  else if nxt.isNone then some ⟨members, queue, none, []⟩ else none

/-- after an event was delivered, at construction, or when a listing returned: a worker that is
    not in the middle of an update runs (if no listing holds it back) -/
def wake (s : St) (nxt : Option Nat) : Option (St × List Note) :=
  match s.job with
  | some _ => if nxt.isNone then some (s, []) else none
  | none =>
    (pumpB s.lists.isEmpty s.members s.queue nxt).map
      (fun w => ({ s with members := w.members, queue := w.queue, job := w.job }, w.notes))

/-- the read in flight is answered by the server -/
def serveStep (s : St) : Option St :=
  match s.job with
  | some j =>
    match j.cur with
    | .requested n => some { s with job := some { j with cur := .served n (s.tree.kids.contains n) } }
    | .served _ _ => none
  | none => none

/-- the answer reaches the worker, which goes on to its next blocking point -/
def retStep (s : St) (nxt : Option Nat) : Option (St × List Note) :=
  match s.job with
  | some j =>
    match j.cur with
    | .served n found =>
      let got := if found then j.got ++ [n] else j.got
      if j.todo.isEmpty then
        let r := finishJob s.members j.listing got
        (pumpB s.lists.isEmpty r.1 s.queue nxt).map
          (fun w => ({ s with members := w.members, queue := w.queue, job := w.job }, r.2 ++ w.notes))
      else
        match nxt with
        | some m =>
          if j.todo.contains m then
            some ({ s with job := some { j with todo := j.todo.erase m, cur := .requested m, got := got } }, [])
          else none
        | none => none
    | .requested _ => none
  | none => none

/-! ## listings by the consumer -/

/-- replace the listing with id `i` (the first one, as `find?` finds it; ids are unique) -/
def Lst.upd (i : Nat) (f : Lst → Lst) : List Lst → List Lst
  | [] => []
  | x :: xs => if x.id = i then f x :: xs else x :: Lst.upd i f xs

/-- drop the listing with id `i` -/
def Lst.drop (i : Nat) : List Lst → List Lst
  | [] => []
  | x :: xs => if x.id = i then xs else x :: Lst.drop i xs

/-- `get_members()` is called: the blocker is entered, the children are listed; with no member
    to read the listing returns at once (`nxt` must be `none`), otherwise `nxt` names the member
    whose read is requested first (any of those listed: the order is ZooKeeper's) -/
def listStep (cfg : Cfg) (s : St) (nxt : Option Nat) : Option St :=
  let l := s.tree.present cfg.lim
  match nxt with
  | none =>
    if l.isEmpty then some { s with lgen := s.lgen + 1, done := s.done ++ [(s.lgen, [])] } else none
  | some n =>
    if l.contains n then
      some { s with lgen := s.lgen + 1, lists := s.lists ++ [⟨s.lgen, l.erase n, .requested n, []⟩] }
    else none

/-- the read in flight of listing `i` is answered by the server -/
def lserveStep (s : St) (i : Nat) : Option St :=
  match s.lists.find? (fun x => x.id = i) with
  | some l =>
    match l.cur with
    | .requested n =>
      let f : Lst → Lst := fun x => { x with cur := .served n (s.tree.kids.contains n) }
      some { s with lists := Lst.upd i f s.lists }
    | .served _ _ => none
  | none => none

/-- the answer reaches listing `i`: it requests its next read (`nxt`: any member still to be
    read), or — nothing left to read — returns what it read and leaves the blocker; if it was the
    last listing in progress the worker goes on (`nxt` then names the worker's first read) -/
def lretStep (s : St) (i : Nat) (nxt : Option Nat) : Option (St × List Note) :=
  match s.lists.find? (fun x => x.id = i) with
  | some l =>
    match l.cur with
    | .served n found =>
      let got := if found then l.got ++ [n] else l.got
      if l.todo.isEmpty then
        wake { s with lists := Lst.drop i s.lists, done := s.done ++ [(i, got)] } nxt
      else
        match nxt with
        | some m =>
          if l.todo.contains m then
            let f : Lst → Lst := fun x => { x with todo := l.todo.erase m, cur := .requested m, got := got }
            some ({ s with lists := Lst.upd i f s.lists }, [])
          else none
        | none => none
    | .requested _ => none
  | none => none

/-! ## operations -/

inductive Op where
  | tree (o : TOp)
  | start (nxt : Option Nat)      -- construct the ServerSet (with callbacks)
  | deliver (nxt : Option Nat)    -- the oldest fired event reaches its watcher
  | serve
  | ret (nxt : Option Nat)
  | list (nxt : Option Nat)           -- the consumer calls get_members()
  | lserve (i : Nat)                  -- the read in flight of listing `i` is served
  | lret (i : Nat) (nxt : Option Nat) -- … and returns
  deriving Repr, DecidableEq

/-- `none`: the operation is not enabled in `s` (or its label is not a legal choice) -/
def next (cfg : Cfg) (s : St) : Op → Option (St × List Note)
  | .tree o => if s.tree.legal o then some (treeStep s o, []) else none
  | .start nxt =>
    if s.started then none else wake (dataDeliver cfg { s with started := true }) nxt
  | .deliver nxt =>
    if s.started then
      match s.pending with
      | [] => none
      | Ev.data :: rest => wake (dataDeliver cfg { s with pending := rest }) nxt
      | Ev.child tag :: rest => wake (childDeliver cfg { s with pending := rest } tag) nxt
    else none
  | .serve => (serveStep s).map (fun s' => (s', []))
  | .ret nxt => retStep s nxt
  | .list nxt => if s.started then (listStep cfg s nxt).map (fun s' => (s', [])) else none
  | .lserve i => if s.started then (lserveStep s i).map (fun s' => (s', [])) else none
  | .lret i nxt => if s.started then lretStep s i nxt else none

/-- nothing is on its way, as the environment sees it: no fired event undelivered, no member
    read in flight (the worker's or a listing's), no listing in progress — no scheduler step is
    enabled.  (In the model the queue is then empty: `Inv.idle`; an implementation whose
    worker is stuck is judged in such a state all the same.) -/
def St.quiet (s : St) : Bool :=
  s.started && s.pending.isEmpty && s.job.isNone && s.lists.isEmpty

/-- run an operation list, collecting the notifications; disabled operations are skipped -/
def exec (cfg : Cfg) : St → List Op → St × List Note
  | s, [] => (s, [])
  | s, op :: ops =>
    match next cfg s op with
    | some (s', ns) => let r := exec cfg s' ops; (r.1, ns ++ r.2)
    | none => exec cfg s ops

/-! ## the consumer's view -/

/-- apply one notification to the consumer's view -/
def applyNote (view : List Nat) (e : Note) : List Nat :=
  if e.1 then view ++ [e.2] else view.filter (fun x => x != e.2)

def viewOf (view : List Nat) (ns : List Note) : List Nat := ns.foldl applyNote view

/-- no join of a name already held, no leave of a name not held -/
def altOk : List Nat → List Note → Bool
  | _, [] => true
  | view, e :: es =>
    (if e.1 then !view.contains e.2 else view.contains e.2) && altOk (applyNote view e) es

/-- a notification as a consumer that identifies members by `Member.__eq__` sees it -/
def keyNote (k : Nat → Nat) (e : Note) : Note := (e.1, k e.2)

/-- same elements -/
def sameSet (a b : List Nat) : Bool := a.all (fun x => b.contains x) && b.all (fun x => a.contains x)

end Scales.ServerSet
