/-
  Props/C04.lean — per-member load is conserved; removed members drain, then close.

  Same model and invariant as C03 (Proofs/HeapInv.lean).  `outOf s id` counts the dispatch records
  of node `id` whose `PutWrapper` has not run.  Hypothesis throughout: fewer than 2^31−1
  dispatches in the history (a load ≥ 0 then always means "marked down").

  `ApertureBalancerSink` inherits `__Put`, `PutWrapper` and `_RemoveSink`, and removes members from its heap
  on its own account (contraction, jitter).  The `C04_aperture_*` theorems decide the property on that
  balancer and on the heap balancer behind base.py's gate (component `aperture4`, specification
  `specC04A`, Adapter/ApertureHeap.lean; invariant `HInv`, Proofs/HeapInv.lean).
-/
import ScalesModel.Proofs.HeapSpec
import ScalesModel.Proofs.LBHeap
namespace Scales.Heap

/-- **load conservation.**  In every state with the invariant, a node's load is its number of
    outstanding dispatches measured from `Idle`, or from 0 while it is marked down (load ≥ 0);
    it is never below `Idle`; a heap node is marked down exactly when it is on the down list. -/
theorem C04_load_conserved (s : HS) (h : Inv s) (id : Nat) (hl : id < s.nodes.length) :
    ((s.node id).load ≥ 0 → (s.node id).load = (outOf s id : Int)) ∧
    ((s.node id).load < 0 → (s.node id).load = Idle + (outOf s id : Int)) ∧
    Idle ≤ (s.node id).load ∧
    (InHeap s id → ((s.node id).load ≥ 0 ↔ id ∈ s.down)) := by
  obtain ⟨a1, a2, a3, _⟩ := h.book.pen_iff id hl
  exact ⟨a1.mp, a2.mp, a3, fun hin => ⟨h.down.all id hin, fun hd => (h.down.pen id hd).2⟩⟩

/-- the same after every legal operation list with fewer than 2^31−1 dispatches -/
theorem C04_load_conserved_reachable (ops : List Op) (hok : opsOk HS.init ops = true)
    (hb : getCount ops < 2147483647) (id : Nat) (hl : id < (runOps HS.init ops).nodes.length) :
    (((runOps HS.init ops).node id).load ≥ 0 →
      ((runOps HS.init ops).node id).load = (outOf (runOps HS.init ops) id : Int)) ∧
    (((runOps HS.init ops).node id).load < 0 →
      ((runOps HS.init ops).node id).load = Idle + (outOf (runOps HS.init ops) id : Int)) ∧
    Idle ≤ ((runOps HS.init ops).node id).load := by
  obtain ⟨a, b, c, _⟩ := C04_load_conserved _ (run_init ops hok hb).1 id hl
  exact ⟨a, b, c⟩

/-- a second completion of the same dispatch (with any draw) changes nothing -/
theorem C04_put_idempotent (s : HS) (r j j' : Nat) : (s.put r j).put r j' = s.put r j := put_idem s r j j'

/-- a dispatch only ever goes to a node that is in the heap -/
theorem C04_chosen_is_member (s : HS) (h : Inv s) (id ep r : Nat)
    (hres : (s.get noHook).2 = GetRes.node id ep r) : InHeap s id := by
  have e := get_eff s (.of_inv h)
  rw [hres] at e
  generalize (s.get noHook).1 = s' at e
  cases e with
  | getNode gf => exact gf.member

/-- a node that has left the heap never returns to it and is never chosen again, whatever legal
    operations follow -/
theorem C04_removed_never_chosen (s : HS) (h : Inv s) (id : Nat) (hl : id < s.nodes.length)
    (hn : ¬ InHeap s id) (ops : List Op) (hok : opsOk s ops = true)
    (hb : s.reqs.length + getCount ops < 2147483647) :
    ¬ InHeap (runOps s ops) id ∧ ∀ ep r, ((runOps s ops).get noHook).2 ≠ GetRes.node id ep r := by
  obtain ⟨i1, _, r1⟩ := run_removed ops s h hok hb id hl hn
  exact ⟨r1, fun ep r hc => r1 (C04_chosen_is_member _ i1 id ep r hc)⟩

/-- `leave` takes the member with that endpoint out of the heap -/
theorem C04_leave_removes (s : HS) (h : Inv s) (ep nid : Nat) (hf : s.findByEp ep = some nid) :
    InHeap s nid ∧ ¬ InHeap (s.leave ep) nid ∧ nid < (s.leave ep).nodes.length := by
  have lf := (leave_some s h ep nid hf).2
  have hin := (findByEp_some s ep nid hf).1
  refine ⟨hin, ?_, by rw [lf.len]; exact inHeap_lt s h.wf nid hin⟩
  rw [lf.inHeap]; exact fun x => x.2 rfl

/-- **close discipline, as a state invariant.**  A node in the heap has not been closed; a removed
    node has been closed exactly once if it has drained or was marked down, and not at all
    otherwise. -/
theorem C04_drain_then_close (s : HS) (h : Inv s) (id : Nat) (hl : id < s.nodes.length) :
    (InHeap s id → (s.node id).closed = 0) ∧
    (¬ InHeap s id → (outOf s id = 0 ∨ (s.node id).load ≥ 0) → (s.node id).closed = 1) ∧
    (¬ InHeap s id → ¬ (outOf s id = 0 ∨ (s.node id).load ≥ 0) → (s.node id).closed = 0) := by
  refine ⟨h.book.closedIn id, ?_, ?_⟩
  · intro hn hc; rw [h.book.closedOff id hl hn, if_pos hc]
  · intro hn hc; rw [h.book.closedOff id hl hn, if_neg hc]

/-- at removal the channel is closed at once iff the node is idle or marked down; nobody else's
    channel is touched -/
theorem C04_close_at_leave (s : HS) (h : Inv s) (ep nid : Nat) (hf : s.findByEp ep = some nid) (id : Nat) :
    ((s.leave ep).node id).closed =
      (if id = nid then (if (s.node nid).load = Idle ∨ (s.node nid).load ≥ 0 then 1 else 0)
       else (s.node id).closed) := by
  -- a heap node has not been closed before
  have := ((leave_some s h ep nid hf).2.fields id).2.2.2
  rwa [h.book.closedIn nid (findByEp_some s ep nid hf).1, Nat.zero_add] at this

/-- a completion closes a channel iff it is the one that empties a removed, healthy node -/
theorem C04_close_at_put (s : HS) (h : Inv s) (r j nid : Nat) (hreq : s.reqs[r]? = some (nid, false))
    (hj : s.putDraws nid = true → 1 ≤ j ∧ j ≤ s.size) (id : Nat) :
    ((s.put r j).node id).closed = (s.node id).closed +
      (if id = nid ∧ (s.node nid).index < 0 ∧ (s.node nid).load - 1 = Idle then 1 else 0) := by
  exact (put_some s (.of_inv h) r j nid hreq hj).closed id

/-- **C04, specification level.**  For every legal operation list with fewer than 2^31−1
    dispatches the history of the model satisfies the executable specification `specC04`
    (load conservation and close discipline on every observation). -/
theorem C04_model_satisfies_spec (ops : List Op) (hok : opsOk HS.init ops = true)
    (hb : getCount ops < 2147483647) : specC04 () ((comp 4).modelTrace () ops) = Verdict.ok :=
  spec_ok 4 ops HS.init {} 0 Sim.init hok (init_bound hb)

theorem C04_wf_model_satisfies_spec (ops : List Op) (h : (comp 4).wf () ops = true) :
    (comp 4).spec () ((comp 4).modelTrace () ops) = Verdict.ok :=
  C04_model_satisfies_spec ops ((wfOps_iff ops).mp h).1 ((wfOps_iff ops).mp h).2

/-! non-vacuity: a history with a removal of a loaded member, its drain (completion after
    removal), a duplicate completion, a re-join of the same endpoint, a mark-down, a resurrection
    and an idle completion with a drawn slot -/
def c04Hist : List Op :=
  [.join 7, .join 8, .chan 0 2, .chan 1 2, .get, .get, .leave 7, .put 0 0, .put 0 0, .join 7, .get,
   .chan 2 2, .get, .put 1 0, .put 2 2]

set_option maxRecDepth 8000 in
example : (comp 4).wf () c04Hist = true := by decide +kernel

/-! ### the balancers that inherit `__Put` / `_RemoveSink`: aperture balancer, heap balancer behind the gate -/

/-- **load conservation and close discipline on the aperture balancer.**  After every legal operation list
    (`LB.wf`) with fewer than 2^31−1 dispatches — whatever the aperture did on the way: expansion on load, on a
    mark-down inside `__Get`, on a failed open or a leave; contraction; jitter — every node's load is its number
    of outstanding dispatches measured from `Idle`, or from 0 while it is marked down, never below `Idle`; a node
    in the heap has not been closed; a node that left the heap (leave or contraction) has been closed exactly
    once if it has drained or was marked down, and not at all while requests are outstanding on it -/
theorem C04_aperture_load_conserved (cfg : Scales.Aperture.Cfg) (ops : List Scales.LB.Op)
    (h : Scales.LB.wfH cfg ops = true) (id : Nat)
    (hl : id < (Scales.LB.runSt cfg (Scales.LB.init cfg) ops).sub.hs.nodes.length) :
    (((Scales.LB.runSt cfg (Scales.LB.init cfg) ops).sub.hs.node id).load ≥ 0 →
      ((Scales.LB.runSt cfg (Scales.LB.init cfg) ops).sub.hs.node id).load =
        (outOf (Scales.LB.runSt cfg (Scales.LB.init cfg) ops).sub.hs id : Int)) ∧
    (((Scales.LB.runSt cfg (Scales.LB.init cfg) ops).sub.hs.node id).load < 0 →
      ((Scales.LB.runSt cfg (Scales.LB.init cfg) ops).sub.hs.node id).load =
        Idle + (outOf (Scales.LB.runSt cfg (Scales.LB.init cfg) ops).sub.hs id : Int)) ∧
    Idle ≤ ((Scales.LB.runSt cfg (Scales.LB.init cfg) ops).sub.hs.node id).load ∧
    (InHeap (Scales.LB.runSt cfg (Scales.LB.init cfg) ops).sub.hs id →
      ((Scales.LB.runSt cfg (Scales.LB.init cfg) ops).sub.hs.node id).closed = 0) ∧
    (¬ InHeap (Scales.LB.runSt cfg (Scales.LB.init cfg) ops).sub.hs id →
      ((Scales.LB.runSt cfg (Scales.LB.init cfg) ops).sub.hs.node id).closed =
        (if outOf (Scales.LB.runSt cfg (Scales.LB.init cfg) ops).sub.hs id = 0 ∨
            ((Scales.LB.runSt cfg (Scales.LB.init cfg) ops).sub.hs.node id).load ≥ 0 then 1 else 0)) := by
  obtain ⟨_, _, j⟩ := (Scales.LB.wfH_ok h).1
  obtain ⟨a1, a2, a3, _⟩ := j.hinv.book.pen_iff id hl
  exact ⟨a1.mp, a2.mp, a3, j.hinv.book.closedIn id, j.hinv.book.closedOff id hl⟩

/-- **C04 on the aperture balancer, specification level.**  For every configuration and every operation list
    satisfying `wfH`, the history of the model satisfies the executable specification `specC04A`, the predicate
    `./check C04` evaluates on the real balancer's observations (component `aperture4`). -/
theorem C04_aperture_model_satisfies_spec (cfg : Scales.Aperture.Cfg) (ops : List Scales.LB.Op)
    (h : Scales.LB.comp4A.wf cfg ops = true) :
    Scales.LB.comp4A.spec cfg (Scales.LB.comp4A.modelTrace cfg ops) = Verdict.ok :=
  (Scales.LB.wfH_ok h).2.2

/-- **a request that timed out while it waited for the open result books no load.**  When the open result
    completes, the links of the waiting requests run in arrival order (`flush`).  Those whose deadline has
    passed (`live e = false`: the timeout sink has handed the caller its TimeoutError, the request has
    completed) leave the balancer untouched: the state after serving the waiting requests `q` is the state
    after serving the live ones alone, and the dispatches made are the same. -/
theorem C04_aperture_timed_out_waiter_books_no_load (cfg : Scales.Aperture.Cfg) (q : List (Option Bool)) :
    ∀ (a : Scales.Aperture.AS),
    (Scales.LBBase.flush (Scales.LB.sub cfg) q a).1 =
      (Scales.LBBase.flush (Scales.LB.sub cfg) (q.filter Scales.LBBase.live) a).1 ∧
    (Scales.LBBase.flush (Scales.LB.sub cfg) q a).2.filterMap id =
      (Scales.LBBase.flush (Scales.LB.sub cfg) (q.filter Scales.LBBase.live) a).2.filterMap id :=
  Scales.LBBase.flush_eq_filter_live (Scales.LB.sub cfg) q

/-! non-vacuity: an aperture of min_size 2 over three members; both active members loaded; the server set
    drops member 0 while a request is outstanding on it (the aperture takes in endpoint 2 instead); the request
    completes (the channel is closed then, not before); a duplicate completion; traffic on the new member; an
    idle completion with a drawn slot -/
def c04ApCfg : Scales.Aperture.Cfg := ⟨true, 2, 10, 1 / 2, 2, false, [0, 1, 2]⟩
def c04ApHist : List Scales.LB.Op :=
  [.opn, .loaded [0, 1, 2] ⟨[], []⟩, .chan 0 2, .chan 1 2, .get ⟨[], [⟨0, 0, 0⟩]⟩, .get ⟨[], [⟨0, 0, 0⟩]⟩,
   .leave 0 ⟨[2], []⟩, .put 0 0 ⟨[], [⟨0, 0, 0⟩]⟩, .put 0 0 ⟨[], []⟩, .chan 2 2, .get ⟨[], [⟨0, 0, 0⟩]⟩,
   .put 1 1 ⟨[], [⟨0, 0, 0⟩]⟩]

example : Scales.LB.comp4A.wf c04ApCfg c04ApHist = true := by decide +kernel
example : ((Scales.LB.runSt c04ApCfg (Scales.LB.init c04ApCfg) c04ApHist).sub.hs.node 0).closed = 1 ∧
    ¬ (0 ∈ (Scales.LB.runSt c04ApCfg (Scales.LB.init c04ApCfg) c04ApHist).sub.hs.heap) := by decide +kernel

/-! the clause for requests that completed before they were dispatched binds.  A request with a deadline
    arrives while the balancer is opening and waits; its deadline passes (`expire 0`: its caller has its
    TimeoutError); the open result completes.  Observations in which the request is dropped and no load is
    booked are accepted; observations in which it is dispatched to node 0 and node 0 carries load 1 for it —
    no request is outstanding — are rejected; the same observations are accepted when the deadline has not
    passed (the request is outstanding then). -/
def c04LateObs (res : List Scales.LB.ResV) (heap : List Scales.LB.NV) (queued : Nat) : Scales.LB.Obs :=
  { res := res, heap := heap, down := [], off := [], servers := [0], idle := [], pending := [], initDone := true,
    blocked := 0, openAr := queued == 0, queued := queued, jitter := false, total := 0, adj := [], gActive := 0,
    gIdle := 0 }

def c04LateHist (expired : Bool) (last : Scales.LB.Obs) : List (Scales.LB.Op × Scales.LB.Obs) :=
  [(.opn, c04LateObs [] [] 0), (.getd ⟨[], []⟩, c04LateObs [.queued] [] 1)] ++
  (if expired then [(Scales.LB.Op.expire 0, c04LateObs [] [] 1)] else []) ++
  [(.loaded [0] ⟨[], []⟩, last)]

example : (Scales.LB.specC04A c04ApCfg
    (c04LateHist true (c04LateObs [.dropped] [⟨0, 0, Idle, 1, 0, 2⟩] 0))).isOk = true := by decide +kernel
example : Scales.LB.specC04A c04ApCfg
    (c04LateHist true (c04LateObs [.node 0 0 0] [⟨0, 0, Idle + 1, 1, 0, 2⟩] 0)) =
      .fail "load-booked-for-completed-request" [V.ofNat 3, V.ofNat 0] := by rfl
example : (Scales.LB.specC04A c04ApCfg
    (c04LateHist false (c04LateObs [.node 0 0 0] [⟨0, 0, Idle + 1, 1, 0, 2⟩] 0))).isOk = true := by decide +kernel

end Scales.Heap
