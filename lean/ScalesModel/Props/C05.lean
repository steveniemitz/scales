/-
  Props/C05.lean — balancer membership equals the server set after any join/leave history.

  Model: Model/LBBase.lean (base.py: `_servers`, `__init_done` gate, `_OpenImpl`, request queue) over
  Model/Aperture.lean + Model/Heap.lean; `cfg.aperture = false` is the plain `HeapBalancerSink`,
  `cfg.aperture = true` the `ApertureBalancerSink`.  `runSt cfg (init cfg) ops` is the balancer after
  the operation list `ops` (Adapter/LB.lean); `refOf cfg ops` the server set after it: `cfg.initial`
  changed by every join/leave callback in `ops`; `E a` the endpoints the balancer can dispatch to
  (endpoints of the heap nodes, then `_idle_endpoints`).

  Quantification: every configuration, every operation list satisfying `wf` (operations in an order
  the implementation admits — `Open()` first, any number of further `Open()` calls anywhere afterwards
  (the balancer's own open sequence: a call on a balancer that is opening or open returns the same open
  result), the initial list loaded once and equal, as a set, to the server set at some moment since the
  first `Open()` — and every recorded random choice a legal one).
  Joins, duplicate joins, leaves of unknown/idle/active/draining members, re-joins, traffic, channel
  state changes, slow and failing opens and jitter rounds are all operations.
-/
import ScalesModel.Proofs.LBSpec
namespace Scales.LB
open Scales.Heap Scales.Aperture Scales.LBBase

/-- **Membership (both balancers).**  Once the initial list is installed, no callback is waiting, the
    eligible endpoints are pairwise distinct (no endpoint is both active and idle, none twice) and
    they are exactly the current server set. -/
theorem C05_membership_eq (cfg : Cfg) (ops : List Op) (hwf : wf cfg ops = true)
    (hq : (runSt cfg (init cfg) ops).initDone = true) :
    (runSt cfg (init cfg) ops).blocked = [] ∧
    (E (runSt cfg (init cfg) ops).sub).Nodup ∧
    ∀ x, x ∈ E (runSt cfg (init cfg) ops).sub ↔ x ∈ refOf cfg ops := by
  obtain ⟨p', h, href⟩ := run_RInv cfg ops _ _ (RInv.init cfg) (wf_proto hwf)
  refine ⟨(h.p2 (h.gate hq)).2.1, h.full.inv.nodup, ?_⟩
  intro x
  rw [h.full.part, h.quiescent hq x, href]; rfl

/-- **Membership, plain heap balancer.**  Nothing is ever idle: the heap holds exactly one node per
    current member. -/
theorem C05_membership_eq_heap (cfg : Cfg) (ops : List Op) (hk : cfg.aperture = false)
    (hwf : wf cfg ops = true) (hq : (runSt cfg (init cfg) ops).initDone = true) :
    (runSt cfg (init cfg) ops).sub.idle = [] ∧
    (heapEps (runSt cfg (init cfg) ops).sub.hs).Nodup ∧
    ∀ x, x ∈ heapEps (runSt cfg (init cfg) ops).sub.hs ↔ x ∈ refOf cfg ops := by
  obtain ⟨_, h, _⟩ := run_RInv cfg ops _ _ (RInv.init cfg) (wf_proto hwf)
  obtain ⟨_, nd, hm⟩ := C05_membership_eq cfg ops hwf hq
  have hi := (h.full.inv.kind hk).1
  unfold E at nd hm
  rw [hi, List.append_nil] at nd hm
  exact ⟨hi, nd, hm⟩

/-- **`_servers`.**  At every point of every run the keys of `_servers` are distinct and are the
    eligible endpoints; at quiescent points they are the server set. -/
theorem C05_servers_eq (cfg : Cfg) (ops : List Op) (hwf : wf cfg ops = true) :
    (runSt cfg (init cfg) ops).sub.hs.servers.Nodup ∧
    (∀ x, x ∈ E (runSt cfg (init cfg) ops).sub ↔ x ∈ (runSt cfg (init cfg) ops).sub.hs.servers) ∧
    ((runSt cfg (init cfg) ops).initDone = true →
      ∀ x, x ∈ (runSt cfg (init cfg) ops).sub.hs.servers ↔ x ∈ refOf cfg ops) := by
  obtain ⟨p', h, href⟩ := run_RInv cfg ops _ _ (RInv.init cfg) (wf_proto hwf)
  refine ⟨h.full.snodup, h.full.part, ?_⟩
  intro hq x
  rw [h.quiescent hq x, href]; rfl

/-- **Gating.**  While the initial list is loading a callback only joins the queue of waiting
    callbacks; installing the list `l` (the order `random.shuffle` left it in) replays the waiting
    callbacks in arrival order on top of it.  In terms of `_servers`: the result is the list `l`
    (duplicates dropped) changed by every waiting callback, oldest first. -/
theorem C05_gated_notifications_applied (cfg : Cfg) (lb : St) (hi : lb.initDone = false) (n : Notif)
    (l : List Nat) :
    ((lb.notify (sub cfg) n).sub = lb.sub ∧ (lb.notify (sub cfg) n).blocked = lb.blocked ++ [n] ∧
      (lb.notify (sub cfg) n).initDone = false) ∧
    ((lb.load (sub cfg) l).sub =
        lb.blocked.foldl (applyNotif (sub cfg)) ((loadInitial (sub cfg) lb.sub l).openInitial cfg) ∧
      (lb.load (sub cfg) l).blocked = [] ∧ (lb.load (sub cfg) l).initDone = true) ∧
    (Full cfg lb.sub → lb.sub.hs.servers = [] →
      (lb.load (sub cfg) l).sub.hs.servers = applyRef lb.blocked (applyRef (l.map Notif.join) [])) := by
  refine ⟨?_, ⟨rfl, rfl, rfl⟩, fun hf hs =>
    ((load_calls lb l).full (hf.withServers_nil hs)).2.1.trans (applyRef_append _ _ _)⟩
  rw [notify_shut _ hi]
  exact ⟨rfl, rfl, hi⟩

/-- **Duplicate join.**  A join for an endpoint that is already a key of `_servers` changes nothing. -/
theorem C05_duplicate_join_noop (cfg : Cfg) (lb : St) (hi : lb.initDone = true) (ep : Nat)
    (hm : ep ∈ lb.sub.hs.servers) : lb.notify (sub cfg) (.join ep) = lb := by
  rw [notify_open _ hi]
  show { lb with sub := addServer (sub cfg) lb.sub ep } = lb
  rw [addServer_old _ hm]

/-- **Leave of an unknown endpoint.**  It changes neither `_servers` nor the heap nor the idle and
    pending sets nor the open bookkeeping. -/
theorem C05_unknown_leave_noop (cfg : Cfg) (lb : St) (hf : Full cfg lb.sub) (hi : lb.initDone = true)
    (ep : Nat) (hm : ep ∉ lb.sub.hs.servers) :
    (lb.notify (sub cfg) (.leave ep)).sub.hs = lb.sub.hs ∧
    (lb.notify (sub cfg) (.leave ep)).sub.idle = lb.sub.idle ∧
    (lb.notify (sub cfg) (.leave ep)).sub.pending = lb.sub.pending ∧
    (lb.notify (sub cfg) (.leave ep)).sub.on = lb.sub.on ∧
    (lb.notify (sub cfg) (.leave ep)).blocked = lb.blocked ∧
    (lb.notify (sub cfg) (.leave ep)).initDone = true := by
  have e1 : applyNotif (sub cfg) lb.sub (.leave ep) = AS.removeSink cfg lb.sub ep := by
    show AS.removeSink cfg (withServers lb.sub (lb.sub.hs.servers.filter (· ≠ ep))) ep = _
    rw [filter_ne_self hm]; rfl
  obtain ⟨g1, g2, e2⟩ := removeSink_absent cfg hf.inv fun h => hm ((hf.part ep).1 h)
  rw [notify_open _ hi, e1, e2]
  exact ⟨rfl, rfl, rfl, rfl, rfl, hi⟩

/-- **`Open()` again: the hypotheses admit it.**  The protocol half of `wf` accepts a further `Open()` at any
    position after the first operation (which is the first `Open()`): while the initial list is loading,
    between callbacks and traffic, after the open has completed. -/
theorem C05_open_again_admitted (cfg : Cfg) (pre post : List Op) (hne : pre ≠ [])
    (h : protoOk { ref := cfg.initial } (pre ++ post) = true) :
    protoOk { ref := cfg.initial } (pre ++ .opn :: post) = true := by
  have key : ∀ (pre : List Op) (p : Proto), p.phase ≠ 0 → protoOk p (pre ++ post) = true →
      protoOk p (pre ++ .opn :: post) = true := by
    intro pre
    induction pre with
    | nil => intro p hp h; rw [List.nil_append, protoOk, protoStep, if_neg hp]; exact h
    | cons op pre ih =>
      intro p _ h
      obtain ⟨p', hps, h'⟩ := protoOk_step h
      rw [List.cons_append, protoOk, hps]
      exact ih p' (protoStep_phase hps) h'
  cases pre with
  | nil => exact absurd rfl hne
  | cons op pre =>
    obtain ⟨p', hps, h'⟩ := protoOk_step h
    rw [List.cons_append, protoOk, hps]
    exact key pre p' (protoStep_phase hps) h'

/-- **`Open()` again changes nothing.**  After any run satisfying `wf`, one more `Open()` (with the hub
    run dry afterwards) re-runs nothing of `_OpenImpl`: the init gate, the waiting callbacks and `_servers`
    are what they were, the eligible endpoints are the same, still pairwise distinct, and the server set
    is untouched.  (With the guard on a finished greenlet instead of the open result, `_servers` is reset
    and every member added a second time.) -/
theorem C05_open_again_noop (cfg : Cfg) (ops : List Op) (hwf : wf cfg ops = true) :
    (stepSt cfg (runSt cfg (init cfg) ops) .opn).1.initDone = (runSt cfg (init cfg) ops).initDone ∧
    (stepSt cfg (runSt cfg (init cfg) ops) .opn).1.blocked = (runSt cfg (init cfg) ops).blocked ∧
    (stepSt cfg (runSt cfg (init cfg) ops) .opn).1.sub.hs.servers = (runSt cfg (init cfg) ops).sub.hs.servers ∧
    (∀ x, x ∈ E (stepSt cfg (runSt cfg (init cfg) ops) .opn).1.sub ↔ x ∈ E (runSt cfg (init cfg) ops).sub) ∧
    (E (stepSt cfg (runSt cfg (init cfg) ops) .opn).1.sub).Nodup ∧
    refOf cfg (ops ++ [.opn]) = refOf cfg ops := by
  obtain ⟨p', h, _⟩ := run_RInv cfg ops _ _ (RInv.init cfg) (wf_proto hwf)
  obtain ⟨f, e3, _⟩ := stepSt_full cfg (runSt cfg (init cfg) ops) .opn h.full (by intro l e hc; cases hc)
  obtain ⟨e1, e2⟩ := stepSt_gateFields (cfg := cfg) (runSt cfg (init cfg) ops) .opn
  have e3 : (stepSt cfg (runSt cfg (init cfg) ops) .opn).1.sub.hs.servers = (runSt cfg (init cfg) ops).sub.hs.servers := e3
  refine ⟨e1, e2, e3, ?_, f.inv.nodup, ?_⟩
  · intro x; rw [f.part, h.full.part, e3]
  · unfold refOf; rw [List.foldl_append]; rfl

/-- **C05, specification level.**  For every configuration and every operation list satisfying `wf`,
    the history of the model satisfies the executable specification `specC05` — the predicate the
    harness evaluates on the implementation's observations (components `lbheap`, `lbaperture`). -/
theorem C05_model_satisfies_spec (cfg : Cfg) (ops : List Op) (hwf : wf cfg ops = true) :
    specC05 cfg (comp5.modelTrace cfg ops) = .ok :=
  specC05_trace cfg ops _ _ 0 (RInv.init cfg) (wf_proto hwf)

/-! non-vacuity: concrete instances of the hypotheses (operation lists also kept in corpus/C05, C06) -/

/-- plain heap balancer: two callbacks arrive while the initial list {0,1} is loading, a duplicate
    join and an unknown leave afterwards, traffic -/
example : wf ⟨false, 1, 2, 1/2, 2, false, [0, 1]⟩
    [.opn, .join 3 ⟨[], []⟩, .leave 1 ⟨[], []⟩, .loaded [1, 0] ⟨[], []⟩, .join 3 ⟨[], []⟩, .leave 7 ⟨[], []⟩,
     .chan 0 2, .get ⟨[], []⟩, .get ⟨[], []⟩, .put 0 0 ⟨[], []⟩] = true := by decide +kernel

example : (runSt ⟨false, 1, 2, 1/2, 2, false, [0, 1]⟩ (init ⟨false, 1, 2, 1/2, 2, false, [0, 1]⟩)
    [.opn, .join 3 ⟨[], []⟩, .leave 1 ⟨[], []⟩, .loaded [1, 0] ⟨[], []⟩, .join 3 ⟨[], []⟩, .leave 7 ⟨[], []⟩,
     .chan 0 2, .get ⟨[], []⟩, .get ⟨[], []⟩, .put 0 0 ⟨[], []⟩]).initDone = true := by decide +kernel

example : refOf ⟨false, 1, 2, 1/2, 2, false, [0, 1]⟩
    [.opn, .join 3 ⟨[], []⟩, .leave 1 ⟨[], []⟩, .loaded [1, 0] ⟨[], []⟩, .join 3 ⟨[], []⟩, .leave 7 ⟨[], []⟩,
     .chan 0 2, .get ⟨[], []⟩, .get ⟨[], []⟩, .put 0 0 ⟨[], []⟩] = [0, 3] := by decide +kernel

/-- aperture balancer (min_size 1, max_size 3, band [1/2, 2]): gated callbacks, load-driven growth
    (choice 3) and shrinking, a jitter round (choice 0), a leave -/
example : wf ⟨true, 1, 3, 1/2, 2, false, [0, 1, 2]⟩
    [.opn, .join 3 ⟨[], []⟩, .leave 1 ⟨[], []⟩, .loaded [2, 0, 1] ⟨[], []⟩, .chan 0 2, .get ⟨[], [⟨0, 1, 0⟩]⟩,
     .get ⟨[3], [⟨1, 2, 0⟩]⟩, .put 0 0 ⟨[], [⟨1, 1, 0⟩]⟩, .jitter ⟨[0], []⟩, .leave 2 ⟨[], []⟩] = true := by decide +kernel

example : refOf ⟨true, 1, 3, 1/2, 2, false, [0, 1, 2]⟩
    [.opn, .join 3 ⟨[], []⟩, .leave 1 ⟨[], []⟩, .loaded [2, 0, 1] ⟨[], []⟩, .chan 0 2, .get ⟨[], [⟨0, 1, 0⟩]⟩,
     .get ⟨[3], [⟨1, 2, 0⟩]⟩, .put 0 0 ⟨[], [⟨1, 1, 0⟩]⟩, .jitter ⟨[0], []⟩, .leave 2 ⟨[], []⟩] = [0, 3] := by decide +kernel

/-- `Open()` again — while the initial list is loading, right after it, between callbacks and traffic,
    at the end — is within the hypotheses, on both balancers -/
example : wf ⟨false, 1, 2, 1/2, 2, false, [0, 1]⟩
    [.opn, .opn, .join 3 ⟨[], []⟩, .opn, .leave 1 ⟨[], []⟩, .loaded [1, 0] ⟨[], []⟩, .opn, .join 3 ⟨[], []⟩,
     .leave 7 ⟨[], []⟩, .chan 0 2, .opn, .get ⟨[], []⟩, .get ⟨[], []⟩, .opn, .put 0 0 ⟨[], []⟩, .leave 0 ⟨[], []⟩,
     .opn] = true := by decide +kernel

example : wf ⟨true, 1, 3, 1/2, 2, false, [0, 1, 2]⟩
    [.opn, .join 3 ⟨[], []⟩, .opn, .leave 1 ⟨[], []⟩, .loaded [2, 0, 1] ⟨[], []⟩, .opn, .chan 0 2, .opn,
     .get ⟨[], [⟨0, 1, 0⟩]⟩, .get ⟨[3], [⟨1, 2, 0⟩]⟩, .opn, .put 0 0 ⟨[], [⟨1, 1, 0⟩]⟩, .jitter ⟨[0], []⟩, .opn,
     .leave 2 ⟨[], []⟩, .opn] = true := by decide +kernel

/-- a list that `wf` rejects: the initial list is loaded a second time (`_OpenImpl` runs once per balancer;
    Close() followed by a new open sequence is outside the property) -/
example : wf ⟨false, 1, 2, 1/2, 2, false, [0, 1]⟩
    [.opn, .loaded [1, 0] ⟨[], []⟩, .loaded [1, 0] ⟨[], []⟩] = false := by decide +kernel

/-- nor does a further `Open()` make up for a missing first one: a callback before any `Open()` is rejected -/
example : wf ⟨false, 1, 2, 1/2, 2, false, [0, 1]⟩ [.join 3 ⟨[], []⟩, .opn] = false := by decide +kernel

end Scales.LB
