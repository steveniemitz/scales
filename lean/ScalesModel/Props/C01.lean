/-
  Props/C01.lean — every call completes exactly once, no later than its deadline
  (front end: dispatcher + timeout sink + sink stack; everything below is the environment).

  Quantification: every list of operations (issues before/after the client finished opening,
  replies/errors/time-outs posted by the environment at any time and any number of times,
  timer actions, clock advances) that satisfies `opsOk`: time is monotone, the timer queue
  is punctual (C10), the environment answers only requests it was handed and does not forge
  a TimeoutError before the deadline.
-/
import ScalesModel.Proofs.FrontEndLemmas
namespace Scales.FrontEnd

/-- **C01, specification level.**  For every legal operation list the history of the model is
    accepted by the executable specification — every clause of it, the deadline bound included,
    also for calls issued before the client finished opening (the dispatcher keeps its own timer
    for them, `_DispatchWhenOpen`). -/
theorem C01_model_satisfies_spec (ops : List Op) (hok : opsOk FE.init ops = true) :
    spec () (comp.modelTrace () ops) = .ok :=
  (run_ok ops {} FE.init 0 rel_init hok).1

/-- The result of every call is set at most once, whatever replies, faults and timers arrive,
    and it is set exactly when the call's sink stack has been drained. -/
theorem C01_at_most_once (ops : List Op) (hok : opsOk FE.init ops = true) :
    ∀ cl ∈ (runOps FE.init ops).calls, cl.sets.length ≤ 1 ∧ ((∃ t, cl.phase = .over t) ↔ cl.sets ≠ []) :=
  fun cl hcl => let ⟨_, _, h⟩ := reachable_inv ops hok cl hcl; ⟨h.callInv.setsLe, h.callInv.overIff⟩

/-- **TimeoutError is never delivered before t+T.**  In every reachable state, a result that was
    set to TimeoutError at time `t` belongs to a call with a timeout `T > 0` issued at `t₀` with
    `t₀ + T ≤ t` — whether it came from the call's timer, from the expired-at-dispatch path, or
    from a sink below (which `opsOk` constrains to post TimeoutError only after the deadline,
    the obligation discharged for the serial transport by its `gevent.Timeout(deadline − now)`). -/
theorem C01_timeout_not_early (ops : List Op) (hok : opsOk FE.init ops = true) :
    ∀ cl ∈ (runOps FE.init ops).calls, ∀ t, (t, Outcome.timeout) ∈ cl.sets →
      0 < cl.T ∧ cl.issueT + cl.T ≤ t :=
  fun cl hcl => let ⟨_, _, h⟩ := reachable_inv ops hok cl hcl; h.callInv.tmo

/-- A reply, fault or timer that arrives after completion has no further effect on the caller:
    on a completed call neither a posted response nor the timer action touches the result. -/
theorem C01_late_arrivals_inert (cl : Call) (now : Nat) (o : Outcome)
    (hdone : ∃ t, cl.phase = .over t) :
    (cl.respond now o).sets = cl.sets ∧ (cl.fire now).sets = cl.sets ∧
    (cl.respond now o).phase = cl.phase := by
  obtain ⟨t, ht⟩ := hdone
  refine ⟨by simp [Call.respond, ht], ?_, by simp [Call.respond, ht]⟩
  unfold Call.fire
  cases t <;> simp [ht]

/-- Every call that has a timeout and is not complete has a timer queued for its rounded
    deadline, in every reachable state: the timeout sink's once the call has been dispatched,
    the dispatcher's own while the client is still opening. -/
theorem C01_pending_call_has_timer (ops : List Op) (hok : opsOk FE.init ops = true) :
    ∀ cl ∈ (runOps FE.init ops).calls, 0 < cl.T → cl.sets = [] →
      cl.armedDue = some (roundUp (cl.issueT + cl.T)) :=
  fun cl hcl hT hs => let ⟨_, _, h⟩ := reachable_inv ops hok cl hcl; h.armedDue_eq hs hT

/-- **Deadline bound.**  A call with timeout T issued at t — before or after the client finished
    opening — is complete at every quiescent point from ⌈t+T⌉ (10 ms grid) on: if, after any legal
    history, the clock can reach `now ≥ ⌈t+T⌉` with no queued timer overdue (the timer queue's
    contract, C10), the call's result has been set. -/
theorem C01_deadline_bound (ops : List Op) (now : Nat) (hok : opsOk FE.init (ops ++ [.tick now]) = true) :
    ∀ cl ∈ (runOps FE.init ops).calls, 0 < cl.T → roundUp (cl.issueT + cl.T) ≤ now → cl.sets ≠ [] := by
  rw [opsOk_append, Bool.and_eq_true, opsOk, opsOk, Bool.and_true] at hok
  intro cl hcl hT hdue hs
  exact Nat.not_lt.mpr hdue ((pending_deadline_ahead ops _ hok.1 hok.2 cl hcl hT hs).2 rfl)

/-- T = 25 ms issued at 3.7 ms while the client never finishes opening.  The dispatcher's timer
    completes the call with TimeoutError at the rounded deadline; letting the clock run on
    without that timer firing is not a legal history of a punctual timer queue. -/
theorem C01_deadline_bound_open_never_completes :
    opsOk FE.init [.issue 25000 3700, .fire [0] 30000, .tick 4003700] = true ∧
    (spec () (comp.modelTrace () [.issue 25000 3700, .fire [0] 30000, .tick 4003700])).isOk = true ∧
    (runOps FE.init [.issue 25000 3700, .fire [0] 30000, .tick 4003700]).calls.map (fun c => c.sets) =
      [[(30000, .timeout)]] ∧
    opsOk FE.init [.issue 25000 3700, .tick 4003700] = false := by
  decide

/-! `opsOk` can be met: a history with two calls issued before the client finished opening (one
    timed out by the dispatcher's timer, one dispatched when opening completes and answered), and
    one with a reply, a late duplicate of it and a timer. -/
example : opsOk FE.init
    [.issue 25000 3700, .issue 95000 3700, .fire [0] 30000, .openDone true 43700, .lower 1 (.ok 9) 53700,
     .tick 203700] = true ∧
    (runOps FE.init
    [.issue 25000 3700, .issue 95000 3700, .fire [0] 30000, .openDone true 43700, .lower 1 (.ok 9) 53700,
     .tick 203700]).calls.map (fun c => (c.sets, c.lowerGot)) =
    [([(30000, .timeout)], false), ([(53700, .ok 9)], true)] := by decide

example : opsOk FE.init
    [.openDone true 0, .issue 25000 3700, .issue 17000 3700, .lower 0 (.ok 5) 13700, .lower 0 (.ok 6) 13700,
     .fire [1] 30000, .tick 53700] = true := by decide

example : (runOps FE.init
    [.openDone true 0, .issue 25000 3700, .issue 17000 3700, .lower 0 (.ok 5) 13700, .lower 0 (.ok 6) 13700,
     .fire [1] 30000, .tick 53700]).calls.map (fun c => c.sets) =
    [[(13700, .ok 5)], [(30000, .timeout)]] := by decide

end Scales.FrontEnd
