/-
  Props/C18.lean — property theorems for C18 (metrics are neither lost, duplicated nor split
  across equal sources).  Statements rely on Model/Varz.lean and Adapter/Varz.lean.

  Quantification: `cfg` is any set of registered metrics with any reservoir size and any
  percentile list, `ops` any finite sequence of IncrementVarz / SetVarz /
  RecordPercentileSample / read / Aggregate calls, every one of them made with a freshly
  constructed `Source` (a `Source` value in the model *is* its four fields, so two
  constructions with equal fields are the same value — this is the repaired equality, F12).
  `run cfg ops` is the model state after `ops`; the history functions `incSum`, `lastSet`,
  `srcs`, `sampleCount`, `lastRetain` read a history newest-first, hence `ops.reverse`.
  Time (LOW_RESOLUTION_TIME_SOURCE.now, whole seconds) is a parameter of every sample and
  aggregate operation; no monotonicity is assumed.
-/
import ScalesModel.Proofs.VarzLemmas
import Mathlib.Data.List.Perm.Subperm
namespace Scales.Varz

/-- Counter-like metrics (Counter, Rate, AggregateTimer): the total Aggregate reports for a
    key (service, client id) equals the sum of all increments recorded by sources rolling up
    to that key — nothing lost, nothing counted twice, for every history. -/
theorem C18_aggregate_is_sum (cfg : Cfg) (ops : List Op) (m : Nat) (t : VType) (K : Key)
    (ht : typeOf cfg m = some t) (hc : t.isCounterLike = true) :
    aggTotal K (seriesOf m (run cfg ops)) = incSum m K ops.reverse :=
  aggTotal_replay K ht hc ops.reverse

/-- A gauge holds, for every source, the last value set by a source with equal fields
    (`none` if there was none), for every history. -/
theorem C18_gauge_last (cfg : Cfg) (ops : List Op) (m : Nat) (s : Source)
    (ht : typeOf cfg m = some .gauge) :
    lookup (m, s) (run cfg ops) = (lastSet m s ops.reverse).map Cell.num :=
  lookup_replay_gauge s ht ops.reverse

/-- ... and where one source rolls up to a key, Aggregate reports that last value. -/
theorem C18_gauge_last_aggregated (cfg : Cfg) (ops : List Op) (m : Nat) (K : Key) (s : Source)
    (ht : typeOf cfg m = some .gauge) (hacc : opsOk cfg ops = true)
    (hone : (distinctSrcs m ops.reverse).filter (fun s => s.key = K) = [s]) :
    some (aggTotal K (seriesOf m (run cfg ops))) = lastSet m s ops.reverse :=
  gauge_entry ht (opsOk_reverse hacc) hone

/-- Recording against two separately constructed sources whose method, service, endpoint and
    client id are equal lands in one series: the second recording adds no series, in any
    state and whatever the two recordings do to the stored value. -/
theorem C18_equal_sources_one_series (st : Store) (m : Nat) (s s' : Source)
    (f g : Option Cell → Cell) (h1 : s.method = s'.method) (h2 : s.service = s'.service)
    (h3 : s.endpoint = s'.endpoint) (h4 : s.client = s'.client) :
    nSeries m (upd (m, s') g (upd (m, s) f st)) = nSeries m (upd (m, s) f st) := by
  have : s = s' := by
    cases s; cases s'; simp_all
  subst this
  rw [nSeries_eq, nSeries_eq, sourcesOf_upd_idem]

/-- The series of a metric are exactly the distinct sources recorded against. -/
theorem C18_series_eq_distinct_sources (cfg : Cfg) (ops : List Op) (m : Nat)
    (hacc : opsOk cfg ops = true) :
    nSeries m (run cfg ops) = (distinctSrcs m ops.reverse).length :=
  nSeries_replay m (opsOk_reverse hacc)

/-- The number of series is bounded by the number of distinct sources however many calls
    are made: for every list `ds` that contains each source recorded against. -/
theorem C18_series_le_distinct_sources (cfg : Cfg) (ops : List Op) (m : Nat)
    (hacc : opsOk cfg ops = true) (ds : List Source) (hds : ∀ s ∈ srcs m ops.reverse, s ∈ ds) :
    nSeries m (run cfg ops) ≤ ds.length := by
  rw [C18_series_eq_distinct_sources cfg ops m hacc]
  apply List.Subperm.length_le
  apply List.Nodup.subperm (nodup_firstOcc _)
  intro s hs
  exact hds s (List.mem_reverse.mp ((mem_firstOcc _ _).mp hs))

/-- Percentiles lie between the smallest and the largest retained sample: for every sample
    list, every percentile p/q in [0,1], every lower bound `lo` and upper bound `hi` of the
    samples (in particular their minimum and maximum), lo ≤ reported value ≤ hi. -/
theorem C18_percentile_between_min_max (xs : List Int) (hne : xs ≠ []) (p q : Nat) (hq : 0 < q)
    (hp : p ≤ q) (lo hi : Int) (hlo : ∀ x ∈ xs, lo ≤ x) (hhi : ∀ x ∈ xs, x ≤ hi) :
    lo * (q : Int) ≤ pctNum (isort xs) p q ∧ pctNum (isort xs) p q ≤ hi * (q : Int) := by
  obtain ⟨⟨x, hx, hxl⟩, ⟨y, hy, hyu⟩⟩ :=
    pctNum_witness (isort_sorted xs) (isort_ne_nil hne) hq hp
  have hq0 : (0 : Int) ≤ (q : Int) := Int.natCast_nonneg _
  rw [mem_isort] at hx hy
  exact ⟨Int.le_trans (Int.mul_le_mul_of_nonneg_right (hlo x hx) hq0) hxl,
         Int.le_trans hyu (Int.mul_le_mul_of_nonneg_right (hhi y hy) hq0)⟩

/-- Percentiles do not decrease as the percentile rises: p₁/q₁ ≤ p₂/q₂ implies
    value₁ ≤ value₂ (both sides cross-multiplied by the positive denominators). -/
theorem C18_percentile_monotone (xs : List Int) (hne : xs ≠ []) (p1 q1 p2 q2 : Nat)
    (hq1 : 0 < q1) (hp1 : p1 ≤ q1) (hq2 : 0 < q2) (hp2 : p2 ≤ q2) (h : p1 * q2 ≤ p2 * q1) :
    pctNum (isort xs) p1 q1 * (q2 : Int) ≤ pctNum (isort xs) p2 q2 * (q1 : Int) :=
  pctNum_mono (isort_sorted xs) (isort_ne_nil hne) hq1 hp1 hq2 hp2 h

/-- The reservoir retains at most `cap` samples, and each retained sample was recorded. -/
theorem C18_reservoir_bounded (cap : Nat) (keep : Bool) (v : Int) (now : Nat) (data : List Int)
    (seen last : Nat) (hb : data.length ≤ cap) (hs : data.length ≤ seen) :
    ∃ d n l, sampleInto cap keep v now data seen last = .res d n l ∧ d.length ≤ cap ∧ d.length ≤ n ∧
      ∀ x ∈ d, x = v ∨ x ∈ data := by
  obtain ⟨d, hd, hle, hcap, hmem⟩ := sampleInto_spec cap keep v now data seen last
  exact ⟨d, _, _, hd, hcap hb hs, Nat.le_trans hle (Nat.succ_le_succ hs), hmem⟩

/-- A reservoir's `last_update` is the time at which it last retained a sample (one of the
    first `cap` samples, or a later one the draw kept), and `seen` counts every sample — for
    every history, in particular after the reservoir is full. -/
theorem C18_last_update_is_last_retained (cfg : Cfg) (ops : List Op) (m : Nat) (s : Source) (t : VType)
    (ht : typeOf cfg m = some t) (hp : t.isPct = true) (d : List Int) (n l : Nat)
    (hl : lookup (m, s) (run cfg ops) = some (.res d n l)) :
    n = sampleCount m s ops.reverse ∧ ∀ tr, lastRetain cfg.cap m s ops.reverse = some tr → l = tr := by
  have := lookup_replay_pct s ht hp ops.reverse
  rw [← run, hl] at this
  exact this

/-- A single source that retained a sample within the last MAX_AGG_AGE seconds is never
    dropped: Aggregate at time `now` counts exactly its reservoir and reports the percentiles
    of its retained samples (which therefore lie within their minimum and maximum and are
    monotone, by the two theorems above). -/
theorem C18_recent_source_reported (cfg : Cfg) (ops : List Op) (hw : comp.wf cfg ops = true) (m : Nat)
    (t : VType) (ht : typeOf cfg m = some t) (hp : t.isPct = true) (K : Key) (s : Source) (now : Nat)
    (hone : (distinctSrcs m ops.reverse).filter (fun s => s.key = K) = [s])
    (hrec : retainedRecently cfg.cap m s now ops.reverse = true) :
    pctCount now K (seriesOf m (run cfg ops)) = 1 ∧
    aggPcts cfg.pcts now K (seriesOf m (run cfg ops)) =
      cfg.pcts.map (fun pq => pctNum (isort (mergedData K (seriesOf m (run cfg ops)))) pq.1 pq.2) := by
  simp only [comp, Bool.and_eq_true] at hw
  exact pct_entry ht hp (opsOk_reverse hw.2) hone hrec

/-- **C18, specification level.**  For every configuration whose percentiles are fractions
    in [0,1] and every operation list that uses each metric through the entry point of its
    type, the history of the model satisfies the executable specification `spec` — the
    predicate the harness evaluates on the implementation's observations. -/
theorem C18_model_satisfies_spec (cfg : Cfg) (ops : List Op) (hw : comp.wf cfg ops = true) :
    spec cfg (comp.modelTrace cfg ops) = .ok := by
  simp only [comp, Bool.and_eq_true] at hw
  exact specGo_model cfg hw.1 ops [] 0 rfl hw.2

example : typeOf ⟨[(0, .counter), (1, .gauge)], 3, [(1, 2)]⟩ 0 = some .counter := by decide
example : comp.wf ⟨[(0, .counter), (1, .avgTimer)], 3, [(1, 2), (9, 10)]⟩
    [.inc 0 ⟨some 1, some 2, none, none⟩ 5, .inc 0 ⟨some 1, some 2, none, none⟩ 7,
     .sample 1 ⟨none, some 2, none, none⟩ 4 true 10, .agg [0, 1] 20] = true := by decide
example : nSeries 0 (run ⟨[(0, .counter)], 3, []⟩
    [.inc 0 ⟨some 1, some 2, none, none⟩ 5, .inc 0 ⟨some 1, some 2, none, none⟩ 7]) = 1 := by decide
example : aggTotal (some 2, none) (seriesOf 0 (run ⟨[(0, .counter)], 3, []⟩
    [.inc 0 ⟨some 1, some 2, none, none⟩ 5, .inc 0 ⟨some 4, some 2, some 0, none⟩ 7])) = 12 := by decide
-- samples 5 1 9, p = 9/10: k = 1.8, value = 5·0.2 + 9·0.8 = 8.2 = 82/10
example : pctNum (isort [5, 1, 9]) 9 10 = 82 := by decide
-- cap 2: three samples at t = 0, one kept at t = 301; aggregated at t = 400 the source is recent
example : retainedRecently 2 0 ⟨none, some 2, none, none⟩ 400
    [.sample 0 ⟨none, some 2, none, none⟩ 9 true 301, .sample 0 ⟨none, some 2, none, none⟩ 7 false 0,
     .sample 0 ⟨none, some 2, none, none⟩ 6 false 0, .sample 0 ⟨none, some 2, none, none⟩ 5 false 0] = true := by
  decide

end Scales.Varz
