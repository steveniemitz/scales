/-
  Props/C14.lean — property theorems for C14 (framed Thrift calls and replies agree with the
  Thrift library's codec).  Statements rely on Model/ThriftCodec.lean and
  Adapter/ThriftCodec.lean (and on `TVal.bytesOk`, "every element is a byte", defined with the
  lemmas in Proofs/ThriftCodecLemmas.lean).

  Quantification: `name` any method name, `args`/`v` any value of the value language (bool,
  i32, i64, string/binary, struct, nested to any depth) whose integers, lengths and field ids
  are in range (`wf`), `sig` any result-class shape (void or not, any list of declared
  exception ids, gaps allowed), `r` any reply the server side can produce, `ps` any chunking
  of the byte stream into non-empty pieces.  No bound on sizes or depths.

  Second component (Model/ThriftShared.lean, Adapter/ThriftShared.lean): one serializer behind
  several connections, several calls open at once.  `cfg` is any interface (any list of result
  class shapes with distinct method names), `ops` any interleaving of the operations of any
  number of calls (call k sent on connection c / answered / the next n bytes of its reply
  delivered / its connection closed by the server).  No bound on the number of calls,
  connections or pieces.
-/
import ScalesModel.Proofs.ThriftCodecLemmas
import ScalesModel.Proofs.ThriftSharedLemmas
namespace Scales.ThriftCodec

/-- The frame is a 4-byte prefix followed by the payload, and the prefix read as a signed
    big-endian integer (`unpack('!i')`) is the payload's length. -/
theorem C14_frame_prefix_is_length (payload : Bytes) (h : payload.length < 2147483648) :
    ∃ pfx, frame payload = pfx ++ payload ∧ pfx.length = 4 ∧ (∀ b ∈ pfx, b < 256) ∧
      toSigned 4 (fromBE pfx) = (payload.length : Int) :=
  ⟨encInt 4 payload.length, rfl, encInt_length _ _, encInt_lt _ _, lenPrefix_roundtrip payload h⟩

/-- What scales sends for a call is the frame of a strict binary-protocol CALL message with
    sequence id 0 carrying exactly the method name and the arguments: the decoder of the
    binary protocol applied to the bytes after the length prefix returns them. -/
theorem C14_call_roundtrip (name : Bytes) (args : TFields) (hn : name.length < 2147483648)
    (hw : args.wf = true) (hl : (callPayload name args).length < 2147483648) :
    (callBytes name args).length = (callPayload name args).length + 4 ∧
    decMsg ((callBytes name args).drop 4) = some ⟨name, mtCall, 0, args⟩ :=
  ⟨frame_length _, decMsg_callBytes name args hn hw⟩

/-- Everything in a framed call is a byte (the model's byte strings are lists of naturals):
    provided the method name and the string/binary arguments consist of bytes. -/
theorem C14_call_bytes_are_bytes (name : Bytes) (args : TFields) (hn : ∀ b ∈ name, b < 256)
    (hb : args.bytesOk = true) : ∀ b ∈ callBytes name args, b < 256 :=
  List.forall_mem_append.mpr
    ⟨encInt_lt _ _, encMsg_lt ⟨name, mtCall, 0, args⟩ hn (by decide : mtCall < 256) hb⟩

/-- decode ∘ encode = id for every value, whatever follows it in the buffer and for every
    amount of fuel not smaller than the encoding's length + 1. -/
theorem C14_value_roundtrip (v : TVal) (rest : Bytes) (fuel : Nat) (hw : v.wf = true)
    (hf : (encVal v).length + 1 ≤ fuel) :
    decVal fuel (tyCode v) (encVal v ++ rest) = some (v, rest) :=
  (dec_enc fuel).1 v rest hw hf

/-- the same for a struct's field list (arguments, results, exception structs) -/
theorem C14_struct_roundtrip (fs : TFields) (rest : Bytes) (fuel : Nat) (hw : fs.wf = true)
    (hf : (encFields fs).length ≤ fuel) :
    decFields fuel (encFields fs ++ rest) = some (fs, rest) :=
  (dec_enc fuel).2 fs rest hw hf

/-- `readAll(n)` over any chunking of the stream into non-empty pieces: it never runs out of
    fuel; if the stream has at least `n` bytes the result is its first `n` bytes and what is
    left is the rest of the stream; otherwise (and only then) it is EOF. -/
theorem C14_readAll_chunk_independent (n : Nat) (ps : List Bytes) (hne : ∀ p ∈ ps, p ≠ []) :
    (n ≤ ps.flatten.length →
       ∃ rest, readAll n ps = .ok (ps.flatten.take n) rest ∧ rest.flatten = ps.flatten.drop n ∧
               (∀ p ∈ rest, p ≠ [])) ∧
    (ps.flatten.length < n → readAll n ps = .eof) ∧
    (readAll n ps = .eof → ps.flatten.length < n) := by
  obtain ⟨h1, h2⟩ := readAll_spec n ⟨rfl, hne⟩
  refine ⟨h1, h2, ?_⟩
  intro he
  refine Nat.lt_of_not_le fun hle => ?_
  obtain ⟨rest, hr, _⟩ := h1 hle
  rw [hr] at he; cases he

/-- The caller-visible outcome of the client's read path (length prefix, payload,
    deserialize, decide) depends only on the bytes of the stream, not on how they are split
    across socket reads — for every stream, well-formed or not. -/
theorem C14_outcome_chunk_independent (sig : Sig) (ps ps' : List Bytes)
    (hne : ∀ p ∈ ps, p ≠ []) (hne' : ∀ p ∈ ps', p ≠ []) (h : ps.flatten = ps'.flatten) :
    clientOutcome sig ps = clientOutcome sig ps' := by
  rw [ThriftShared.clientOutcome_readMsg, ThriftShared.clientOutcome_readMsg, ThriftShared.readMsg_eq_stream ⟨h, hne⟩, ThriftShared.readMsg_eq_stream ⟨rfl, hne'⟩]

/-- The reply decision: whatever reply `r` the server side wrote for the method, however the
    frame is chunked and whatever follows it on the stream, the caller gets `expected sig r`. -/
theorem C14_reply_decision (sig : Sig) (r : Reply) (ps : List Bytes) (extra : Bytes)
    (hne : ∀ p ∈ ps, p ≠ []) (hflat : ps.flatten = replyBytes sig.name r ++ extra)
    (hn : sig.name.length < 2147483648) (hw : replyWf r = true)
    (hl : (encMsg (replyMsg sig.name r)).length < 2147483648) :
    clientOutcome sig ps = expected sig r := by
  rw [ThriftShared.clientOutcome_readMsg, ThriftShared.readMsg_eq_stream ⟨hflat, hne⟩, replyBytes, ThriftShared.streamMsg_frame _ _ hl,
    decMsg_replyMsg sig.name r hw hl]
  exact decide_replyMsg sig r

/-- `expected`, spelled out: an EXCEPTION message is raised as the library's error carrying the
    application exception; a success field is the return value; a declared exception that
    is set is raised as the library's error carrying it; a void result with nothing set is
    `None`; a non-void result with nothing set is the MISSING_RESULT application exception,
    raised as an error. -/
theorem C14_reply_decision_table (sig : Sig) :
    (∀ ty msg, expected sig (.app ty msg) = .err true (.app ty msg)) ∧
    (∀ v, sig.nonvoid = true → expected sig (.result (.cons 0 v .nil)) = .val v) ∧
    (∀ fid v, fid ∈ sig.declared → (sig.nonvoid = true → fid ≠ 0) →
        expected sig (.result (.cons fid v .nil)) = .err true (.declared fid v)) ∧
    (sig.nonvoid = false → expected sig (.result .nil) = .none_) ∧
    (sig.nonvoid = true →
        expected sig (.result .nil) = .err true (.app 5 (some (missingMsg sig.name)))) := by
  refine ⟨fun _ _ => rfl, ?_, ?_, ?_, ?_⟩
  · intro v hv
    simp [expected, hv, TFields.lookup]
  · intro fid v hmem hz
    have hfd := firstDeclared_single fid v sig.declared hmem
    cases hnv : sig.nonvoid with
    | false => simp [expected, hfd, hnv]
    | true =>
      have : fid ≠ 0 := hz hnv
      simp [expected, TFields.lookup, this, hfd, hnv]
  · intro hv
    simp [expected, hv, firstDeclared_nil]
  · intro hv
    simp [expected, hv, TFields.lookup, firstDeclared_nil]

/-- A reply frame cut short anywhere (inside the length prefix or inside the payload) ends in
    EOFError, for every chunking of what did arrive. -/
theorem C14_truncated_reply_is_eof (sig : Sig) (payload : Bytes) (k : Nat) (ps : List Bytes)
    (hne : ∀ p ∈ ps, p ≠ []) (hl : payload.length < 2147483648) (hk : k < (frame payload).length)
    (hflat : ps.flatten = (frame payload).take k) :
    clientOutcome sig ps = .err true .eof := by
  rw [ThriftShared.clientOutcome_readMsg, ThriftShared.readMsg_eq_stream ⟨hflat, hne⟩, ThriftShared.streamMsg_trunc payload k hl hk]

/-- The executable specification the harness evaluates on the implementation's observations
    holds of the model's own observations, for every method shape and every operation list
    within the hypotheses `wf` (values in range, replies a generated Processor can produce). -/
theorem C14_codec_model_satisfies_spec (cfg : Cfg) (ops : List Op) (h : wf cfg ops = true) :
    spec cfg (comp.modelTrace cfg ops) = .ok := by
  simp only [wf, Bool.and_eq_true, List.all_eq_true] at h
  exact specGo_trace cfg ops 0 0 h.2

open Scales.ThriftShared in
/-- Non-interference, over all interleavings: the operations of call `k` and what is observed
    at them (the bytes sent for it, the reply frame, what its caller has got after every
    delivery) inside ANY history — whatever other calls are made, answered, delivered or cut off
    in between — are exactly the history of the operations of call `k` run alone.
    Unconditional: it holds for every interface and every operation list. -/
theorem C14_calls_independent (cfg : ThriftShared.Cfg) (ops : List ThriftShared.Op) (k : Nat) :
    (ThriftShared.comp.modelTrace cfg ops).filter (fun p => decide (p.1.id = k))
      = ThriftShared.comp.modelTrace cfg (ops.filter (fun op => decide (op.id = k))) := by
  rw [ThriftShared.modelTrace_eq_run, ThriftShared.modelTrace_eq_run]
  exact ThriftShared.run_filter cfg k ops _ _ rfl

/-- The result class a reply is decided with is named by the reply: for the reply message the
    server wrote for method number `m` of an interface with distinct method names, the shared
    serializer's decision is the decision with the result class of method `m` — `expected`. -/
theorem C14_result_class_named_by_reply (cfg : ThriftShared.Cfg) (m : Nat) (sig : Sig) (r : Reply)
    (hd : ThriftShared.distinctNames cfg = true) (hm : cfg[m]? = some sig) :
    ThriftShared.decideI cfg (replyMsg sig.name r) = expected sig r :=
  ThriftShared.decideI_replyMsg cfg m sig r hd hm

/-- The reply decision under interleaving.  In any history whose operations of call `k` are:
    the call of method `m` (on any connection, with any arguments), the server's answer `r`,
    and deliveries of sizes covering the whole reply frame — with the operations of any other
    calls anywhere in between — the last thing observed for call `k` is that its caller has got
    `expected sig r`: the return value for a normal reply, the library's error carrying the
    declared / application exception, `None` for a void result. -/
theorem C14_interleaved_reply_decision (cfg : ThriftShared.Cfg) (ops : List ThriftShared.Op)
    (k m c : Nat) (args : TFields) (r : Reply) (sizes : List Nat) (sig : Sig)
    (hcfg : ThriftShared.cfgOk cfg = true) (hm : cfg[m]? = some sig)
    (hproj : ops.filter (fun op => decide (op.id = k))
      = .call k m c args :: .answer k r :: sizes.map (.chunk k))
    (hw : replyWf r = true) (hl : (encMsg (replyMsg sig.name r)).length < 2147483648)
    (hcov : (replyBytes sig.name r).length ≤ listSum sizes) :
    ∃ n, ((ThriftShared.comp.modelTrace cfg ops).filter (fun p => decide (p.1.id = k))).getLast?
      = some (.chunk k n, .out (some (expected sig r))) := by
  have hne : sizes ≠ [] := by
    rintro rfl
    rw [replyBytes, frame_length] at hcov
    exact absurd hcov (Nat.not_succ_le_zero _)
  obtain ⟨n, hn⟩ := ThriftShared.last_chunk cfg ops k m c args r sig hm sizes hne hproj
  exact ⟨n, by rw [hn, ThriftShared.Call.outcome_answered cfg _ r sig hcfg rfl hm hw hl, if_pos hcov]⟩

/-- Nothing is reported early: under the same conditions but with deliveries that do NOT cover
    the reply frame (and the connection still up), the caller of call `k` is still pending after
    the last delivery. -/
theorem C14_pending_until_complete (cfg : ThriftShared.Cfg) (ops : List ThriftShared.Op)
    (k m c : Nat) (args : TFields) (r : Reply) (sizes : List Nat) (sig : Sig)
    (hcfg : ThriftShared.cfgOk cfg = true) (hm : cfg[m]? = some sig)
    (hproj : ops.filter (fun op => decide (op.id = k))
      = .call k m c args :: .answer k r :: sizes.map (.chunk k))
    (hw : replyWf r = true) (hl : (encMsg (replyMsg sig.name r)).length < 2147483648)
    (hne : sizes ≠ []) (hshort : listSum sizes < (replyBytes sig.name r).length) :
    ∃ n, ((ThriftShared.comp.modelTrace cfg ops).filter (fun p => decide (p.1.id = k))).getLast?
      = some (.chunk k n, .out none) := by
  obtain ⟨n, hn⟩ := ThriftShared.last_chunk cfg ops k m c args r sig hm sizes hne hproj
  refine ⟨n, ?_⟩
  rw [hn, ThriftShared.Call.outcome_answered cfg _ r sig hcfg rfl hm hw hl, if_neg (Nat.not_le_of_gt hshort)]
  rfl

/-- The outcome of a call among others equals the outcome of the same call in the
    one-call-at-a-time component.  In any history whose operations of call `k` are: the call
    of method `m`, the answer `r`, deliveries of ANY sizes (covering the frame or not), and
    finally the server closing the connection, the last observation for call `k` is the very
    outcome the single-call model (`ThriftCodec.step` of Adapter/ThriftCodec.lean, operation
    `reply r sizes`) reports for method `m` alone on one connection. -/
theorem C14_interleaved_outcome_is_single_call (cfg : ThriftShared.Cfg) (ops : List ThriftShared.Op)
    (k m c : Nat) (args : TFields) (r : Reply) (sizes : List Nat) (sig : Sig) (st : St)
    (hcfg : ThriftShared.cfgOk cfg = true) (hm : cfg[m]? = some sig)
    (hproj : ops.filter (fun op => decide (op.id = k))
      = .call k m c args :: .answer k r :: (sizes.map (.chunk k) ++ [.close k]))
    (hw : replyWf r = true) (hl : (encMsg (replyMsg sig.name r)).length < 2147483648) :
    ∃ out, (step sig st (.reply r sizes)).2 = .reply (replyBytes sig.name r) out ∧
      ((ThriftShared.comp.modelTrace cfg ops).filter (fun p => decide (p.1.id = k))).getLast?
        = some (.close k, .out (some out)) := by
  refine ⟨clientOutcome sig (splitBy sizes (replyBytes sig.name r)), rfl, ?_⟩
  rw [ThriftShared.last_of_call cfg ops k m c args r sig hm sizes (.close k) rfl hproj]
  show some (_, ThriftShared.Obs.out (ThriftShared.Call.outcome cfg ⟨m, c, some r, _, sizes, true⟩)) = _
  rw [ThriftShared.Call.outcome_answered cfg _ r sig hcfg rfl hm hw hl,
    clientOutcome_splitBy_reply sig r sizes hw hl]
  by_cases hcov : (replyBytes sig.name r).length ≤ listSum sizes
  · rw [if_pos hcov, if_pos hcov]
  · rw [if_neg hcov, if_neg hcov]; rfl

/-- The executable specification of the second component holds of the model's own
    observations, for every interface with distinct method names and every interleaving of
    operations within the hypotheses `wf`. -/
theorem C14_shared_model_satisfies_spec (cfg : ThriftShared.Cfg) (ops : List ThriftShared.Op)
    (h : ThriftShared.wf cfg ops = true) :
    ThriftShared.spec cfg (ThriftShared.comp.modelTrace cfg ops) = .ok := by
  simp only [ThriftShared.wf, Bool.and_eq_true] at h
  rw [ThriftShared.modelTrace_eq_run]
  exact ThriftShared.specGo_run cfg h.1.1 ops _ 0 (ThriftShared.inv_init cfg) h.1.2

/-- Both components: the predicate the harness evaluates on the implementation's observations
    is the one the theorems are about. -/
theorem C14_model_satisfies_spec :
    (∀ (cfg : Cfg) (ops : List Op), wf cfg ops = true → spec cfg (comp.modelTrace cfg ops) = .ok) ∧
    (∀ (cfg : ThriftShared.Cfg) (ops : List ThriftShared.Op), ThriftShared.wf cfg ops = true →
      ThriftShared.spec cfg (ThriftShared.comp.modelTrace cfg ops) = .ok) :=
  ⟨C14_codec_model_satisfies_spec, C14_shared_model_satisfies_spec⟩

/-! ### the hypotheses are satisfiable; concrete instances -/

/-- `hi("é")` on the Hello interface: the bytes of the unit test's kind, decoded back -/
example : decMsg ((callBytes [104, 105] (.cons 1 (.str [195, 169]) .nil)).drop 4)
    = some ⟨[104, 105], 1, 0, .cons 1 (.str [195, 169]) .nil⟩ := by decide +kernel

/-- a void reply delivered one byte at a time is `None` -/
example : clientOutcome ⟨[112], false, [1]⟩
    (splitBy (List.replicate 40 1) (replyBytes [112] (.result .nil))) = .none_ := by decide +kernel

/-- a declared exception behind a gap in the ids (`throws (1: …, 3: …)`), split inside the prefix -/
example : clientOutcome ⟨[102], true, [1, 3]⟩
    (splitBy [2, 100] (replyBytes [102] (.result (.cons 3 (.struct (.cons 1 (.i32 (-7)) .nil)) .nil))))
    = .err true (.declared 3 (.struct (.cons 1 (.i32 (-7)) .nil))) := by decide +kernel

example : wf ⟨[102], true, [1, 3]⟩
    [.call (.cons 1 (.str [195, 169]) (.cons 2 (.i64 (-9223372036854775808)) .nil)),
     .reply (.result (.cons 3 (.struct (.cons 1 (.i32 (-7)) .nil)) .nil)) [2, 100],
     .reply (.app 6 (some [111])) [1, 1, 1]] = true := by decide +kernel

/- two calls of different methods open at once on two connections, the later one answered
    and delivered first, the earlier one's reply cut inside the length prefix: inside `wf` -/
example : ThriftShared.wf [⟨[112], false, []⟩, ⟨[102], true, [1, 3]⟩]
    [.call 0 1 0 (.cons 1 (.str [195, 169]) .nil), .call 1 0 1 .nil,
     .answer 1 (.result .nil), .chunk 1 100,
     .answer 0 (.result (.cons 0 (.i32 (-7)) .nil)), .chunk 0 3, .call 2 0 1 .nil, .chunk 0 100,
     .close 2] = true := by decide +kernel

/- … and what their callers get: the value for the earlier call although a call of another
    method was serialized and its reply deserialized in between -/
set_option maxRecDepth 8000 in
example : ((ThriftShared.comp.modelTrace [⟨[112], false, []⟩, ⟨[102], true, [1, 3]⟩]
    [.call 0 1 0 .nil, .call 1 0 1 .nil, .answer 1 (.result .nil), .chunk 1 100,
     .answer 0 (.result (.cons 0 (.i32 (-7)) .nil)), .chunk 0 3, .chunk 0 100]).map (·.2)).drop 3
    = [.out (some .none_), .frame (replyBytes [102] (.result (.cons 0 (.i32 (-7)) .nil))),
       .out none, .out (some (.val (.i32 (-7))))] := by decide +kernel

end Scales.ThriftCodec
