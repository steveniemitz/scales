/-
  Props/C09.lean — property C09: failed endpoints fail fast and are used again once reachable.

  Components (Adapter/Resurrector.lean, Adapter/ResPool.lean, Adapter/ResMux.lean, Adapter/HeapC09.lean):
    `Res.comp`   ResurrectorSink over abstract channels, turn by turn   (Model/Resurrector.lean)
    `Pool.comp`  ResurrectorSink → WatermarkPoolSink → serial Thrift transport, at quiescence,
                 every operation's tasks under an arbitrary schedule, for every pool configuration
                 (min_watermark `lo` ∈ ℕ — with 0 the pool keeps no connection: the probe connection of
                 `Open()` / of a reconnection is closed again and every request opens its own —,
                 max_watermark `hi` ≥ 1)                                 (Model/ResChain.lean)
    `ResMux.comp` ResurrectorSink → ThriftMux SocketTransportSink (the chain the ThriftMux builder assembles;
                 no pool in between), at quiescence after every stimulus: connect accepted / refused, each
                 write and read of the connection (also bursts, and a fault between the dispatch of the
                 handshake's Rping and the resumption of the opener), the clock with the retry sleep, the 5 s
                 ping helper and the ping loop, traffic, `Close()`            (Model/ResMux.lean on Model/MuxT.lean)
    `Heap.comp9` HeapBalancerSink over channels whose state the environment sets (Model/Heap.lean,
                 Adapter/HeapC09.lean): the balancer's down list — a member whose channel is Open
                 again takes part in the choice again at the next dispatch (theorems `C09_heap_*`)

  Quantification: every configuration with `0 < init ≤ max` and a back-off function that grows
  below the maximum (`Grows`; for the adapters: a table of waits growing until capped), every operation list
  satisfying `wf` (the clock moves only when nothing is queued and never past the retry
  greenlet's wake instant; a channel is opened once and not after `Close()`), every reachability
  history, every placement of faults, connects, requests and `Close()` among the turns.
-/
import ScalesModel.Proofs.ResurrectorFacts
import ScalesModel.Proofs.ResPoolLemmas
import ScalesModel.Proofs.HeapC09
import ScalesModel.Proofs.ResMuxFacts
namespace Scales.Res
open Scales.Chain

/-- The executable specification (the predicate the harness evaluates on the implementation's
    observations) accepts the model's history, for every admissible configuration and operation
    list: fail-fast while known down, delays growing until capped, recovery within one
    maximum interval of the endpoint being reachable, traffic resumes, no connect after close. -/
theorem C09_model_satisfies_spec (cfg : Cfg) (ops : List Op) (h : comp.wf cfg ops = true) :
    comp.spec cfg (comp.modelTrace cfg ops) = .ok := by
  obtain ⟨_, _, e, _⟩ := run_init ops [] (by rwa [List.append_nil])
  rwa [List.append_nil] at e

/-- The same for the resurrector over the real pool and transport (Thrift stack), for every pool
    configuration (any `min_watermark`, also 0; any `max_watermark ≥ 1`), whatever the order in
    which the tasks of each operation run. -/
theorem C09_model_satisfies_spec_respool (cfg : Pool.Cfg) (ops : List Pool.Op)
    (h : Pool.comp.wf cfg ops = true) : Pool.comp.spec cfg (Pool.comp.modelTrace cfg ops) = .ok := by
  exact (Pool.run_init h).1

/-- **recovery with every pool configuration, `min_watermark = 0` included.**  In every reachable
    state of the Thrift chain in which the resurrector fails fast with its retry greenlet asleep,
    whatever the pool's watermarks: the wake instant lies at most one maximum interval ahead; and
    if the endpoint accepts connections at that instant then — under every schedule of the
    attempt's tasks — the attempt makes exactly one connect, clears `_down_on`, installs the new
    pool as next sink and reports Open (although, with `min_watermark = 0`, the pool has closed the
    probe connection again), and the next request — under every schedule — is answered by the
    peer: on the kept connection (`min_watermark ≥ 1`, no connect) or on a connection of its own
    (`min_watermark = 0`, one connect), and the channel stays up. -/
theorem C09_respool_recovers_within_max (cfg : Pool.Cfg) (ops : List Pool.Op) (h : Pool.comp.wf cfg ops = true)
    (hd : (Pool.runOps cfg {} ops).mode = some .down) :
    (Pool.runOps cfg {} ops).now < (Pool.runOps cfg {} ops).wakeAt ∧
    (Pool.runOps cfg {} ops).wakeAt ≤ (Pool.runOps cfg {} ops).now + cfg.r.maxW ∧
    ((Pool.runOps cfg {} ops).reach = true → ∀ sched sched' : List Nat,
      (Pool.stepSt cfg.r.par cfg.w (Pool.runOps cfg {} ops)
        (.tick ((Pool.runOps cfg {} ops).wakeAt - (Pool.runOps cfg {} ops).now) sched)).mode = some .up ∧
      (Pool.obsOf (Pool.stepSt cfg.r.par cfg.w (Pool.runOps cfg {} ops)
        (.tick ((Pool.runOps cfg {} ops).wakeAt - (Pool.runOps cfg {} ops).now) sched))).connects = 1 ∧
      (Pool.obsOf (Pool.stepSt cfg.r.par cfg.w (Pool.runOps cfg {} ops)
        (.tick ((Pool.runOps cfg {} ops).wakeAt - (Pool.runOps cfg {} ops).now) sched))).down = false ∧
      (Pool.obsOf (Pool.stepSt cfg.r.par cfg.w (Pool.runOps cfg {} ops)
        (.tick ((Pool.runOps cfg {} ops).wakeAt - (Pool.runOps cfg {} ops).now) sched))).next =
          some (Pool.runOps cfg {} ops).pools ∧
      (Pool.obsOf (Pool.stepSt cfg.r.par cfg.w (Pool.runOps cfg {} ops)
        (.tick ((Pool.runOps cfg {} ops).wakeAt - (Pool.runOps cfg {} ops).now) sched))).state = .opened ∧
      (Pool.obsOf (Pool.stepSt cfg.r.par cfg.w (Pool.stepSt cfg.r.par cfg.w (Pool.runOps cfg {} ops)
        (.tick ((Pool.runOps cfg {} ops).wakeAt - (Pool.runOps cfg {} ops).now) sched))
        (.req false sched'))).resp = .ok ∧
      (Pool.obsOf (Pool.stepSt cfg.r.par cfg.w (Pool.stepSt cfg.r.par cfg.w (Pool.runOps cfg {} ops)
        (.tick ((Pool.runOps cfg {} ops).wakeAt - (Pool.runOps cfg {} ops).now) sched))
        (.req false sched'))).connects = (if 1 ≤ cfg.w.lo then 0 else 1) ∧
      (Pool.stepSt cfg.r.par cfg.w (Pool.stepSt cfg.r.par cfg.w (Pool.runOps cfg {} ops)
        (.tick ((Pool.runOps cfg {} ops).wakeAt - (Pool.runOps cfg {} ops).now) sched))
        (.req false sched')).mode = some .up) := by
  obtain ⟨_, a, o, c, hI⟩ := Pool.run_init h
  exact Pool.recovers cfg (Pool.wf_parts h).1 (Pool.wf_parts h).2.1 _ a o c hI hd

/-- The chain-level core of it: for every pair of watermarks with `max_watermark ≥ 1` and every
    schedule, a reconnection attempt against a reachable endpoint ends — one connect made — in the
    quiescent state "up" of that configuration, and a request issued in that state against an
    answering peer ends there again, answered; it made a connect of its own exactly when
    `min_watermark = 0`. -/
theorem C09_respool_reconnect_every_watermark (w : WM) (hw : 1 ≤ w.hi) (sched sched' : List Nat) :
    Pool.outcome w (Pool.drain w (opWake (Pool.canon w .down true)) sched) = ⟨some .up, 1, .none, .none⟩ ∧
    Pool.outcome w (Pool.drain w (opReq (Pool.canon w .up true) false) sched') =
      ⟨some .up, if 1 ≤ w.lo then 0 else 1, .ok, .none⟩ := by
  refine ⟨(Pool.ends_wake true w hw).drain sched, ?_⟩
  simpa [Pool.reqFails, Pool.keep] using (Pool.ends_req_up true false w hw).drain sched'

/-- While the resurrector is in fail-fast mode (`_down_on` set) it has no next sink, and a request
    is answered FailedFast without reaching any sink — in every reachable state. -/
theorem C09_failfast_while_down (cfg : Cfg) (ops : List Op) (h : comp.wf cfg ops = true)
    (hd : (runOps cfg {} ops).down = true) :
    (runOps cfg {} ops).next = none ∧
    (doReq cfg.par (clearEv (runOps cfg {} ops))).2 = .ff ∧
    ∀ e ∈ (doReq cfg.par (clearEv (runOps cfg {} ops))).1.ev, isFwd e = false := by
  obtain ⟨a, o, c, hC, _⟩ := reach_cpl cfg ops h
  obtain ⟨hn, _, _⟩ := down_no_next cfg.par _ a o c hC hd
  exact ⟨hn, req_failfast cfg.par _ hn⟩

/-- The waits of consecutive failed attempts never shrink and never exceed the maximum, whenever
    the back-off function does not shrink its argument below the maximum (`wait ** 1.2` for
    `wait ≥ 1`). -/
theorem C09_backoff_monotone_capped (p : Par) (hf : ∀ w, w ≤ p.maxW → w ≤ p.f w) (hi : p.init ≤ p.maxW)
    (k : Nat) : waits p k ≤ waits p (k + 1) ∧ waits p k ≤ p.maxW :=
  ⟨le_nextWait_of_le p _ (hf _ (waits_le_max p hi k)) (waits_le_max p hi k), waits_le_max p hi k⟩

/-- If the function grows below the maximum (`wait ** 1.2` for `wait > 1`), each wait is larger
    than the one before until the maximum is reached. -/
theorem C09_backoff_grows_until_capped (p : Par) (hf : Grows p) (hi : p.init ≤ p.maxW) (k : Nat) :
    waits p k < waits p (k + 1) ∨ waits p (k + 1) = p.maxW :=
  waits_strict p hf hi k

/-- … and these are the waits of the model: the first sleep of a down period lasts `init`, a
    refused attempt after a sleep of `w` is followed by a sleep of `min (f w) max`, starting at once. -/
theorem C09_backoff_follows_waits (p : Par) (s : St) (w : Nat) :
    (s.res = .start → s.down = true →
      (runTask p s .resStart).res = .sleep (s.now + waits p 0) (waits p 0)) ∧
    (s.reach = .down →
      (resWake p s w).res = .sleep (s.now + nextWait p w) (nextWait p w)) ∧
    (∀ k, s.res = .opening k w .fail →
      (runTask p s .resume).res = .sleep (s.now + nextWait p w) (nextWait p w)) := by
  refine ⟨?_, ?_, ?_⟩
  · intro h1 h2; simp [runTask, h1, h2, waits]
  · intro h; simp [resWake, createSink, openSink, resFailure, closeSink, emit, updSink, h]
  · intro k h; simp [runTask, h, resFailure, closeSink, emit, updSink]

/-- In every reachable fail-fast state whose retry greenlet is asleep, the wake instant is at
    most one maximum interval ahead; and if the endpoint is reachable at that instant, the attempt
    made then installs a fresh sink, leaves fail-fast mode, and the next request goes to that sink. -/
theorem C09_recovers_within_max (cfg : Cfg) (ops : List Op) (h : comp.wf cfg ops = true)
    (hd : (runOps cfg {} ops).down = true) (wk w : Nat) (hr : (runOps cfg {} ops).res = .sleep wk w) :
    (runOps cfg {} ops).now < wk ∧ wk ≤ (runOps cfg {} ops).now + cfg.maxW ∧
    ((runOps cfg {} ops).reach = .up →
      (doTick cfg.par (clearEv (runOps cfg {} ops)) (wk - (runOps cfg {} ops).now)).down = false ∧
      (doTick cfg.par (clearEv (runOps cfg {} ops)) (wk - (runOps cfg {} ops).now)).next =
        some (runOps cfg {} ops).sinks.length ∧
      (doReq cfg.par (clearEv (doTick cfg.par (clearEv (runOps cfg {} ops))
        (wk - (runOps cfg {} ops).now)))).2 = .fwd (runOps cfg {} ops).sinks.length) := by
  obtain ⟨a, o, c, hC, hle⟩ := reach_cpl cfg ops h
  generalize runOps cfg {} ops = s at *
  obtain ⟨_, hsub, rfl⟩ := down_no_next cfg.par s a o c hC hd
  obtain ⟨hlt, hub⟩ := sleep_bound cfg.par s a o hC hle wk w hr
  refine ⟨hlt, hub, ?_⟩
  intro hup
  rw [doTick_wake cfg.par (s := clearEv s) hr (by show wk ≤ s.now + (wk - s.now); omega)]
  obtain ⟨sk, ev, -, e⟩ := resWake_eq cfg.par (advance (clearEv s) (wk - s.now)) w hup hd hsub rfl
  rw [e]
  exact ⟨rfl, rfl, congrArg Prod.snd (doReq_some cfg.par (s := clearEv _) rfl)⟩

/-- After `Close()` the model makes no connect attempt, whatever follows (further opens of the
    closed channel are excluded by `wf`). -/
theorem C09_closed_stops_retry (cfg : Cfg) (ops1 ops2 : List Op)
    (h : comp.wf cfg (ops1 ++ Op.close :: ops2) = true) :
    ∀ x ∈ comp.trace cfg (runOps cfg {} (ops1 ++ [Op.close])) ops2, firstCreate x.2.ev = none := by
  have e : (ops1 ++ [Op.close]) ++ ops2 = ops1 ++ Op.close :: ops2 := by simp
  -- after the prefix that ends in `close` the automaton is in a closed state and still has to accept the rest
  obtain ⟨a, idx, hgo, hC, _⟩ := run_init (ops1 ++ [Op.close]) ops2 (e ▸ h)
  rw [e, C09_model_satisfies_spec cfg _ h] at hgo
  exact specGo_closed cfg a (hC.hclosed.trans (by simp [isClose])) _ idx hgo.symm

/-- Thrift stack, repaired code, every pool configuration (`max_watermark ≥ 1`): whenever the
    endpoint refuses the first connect, refuses a reconnection attempt, or the peer closes the
    connection under a request (a kept connection, or — `min_watermark = 0` — the request's own),
    the resurrector ends up in fail-fast mode with its retry greenlet asleep — under *every* order
    in which the subscription, notification, wake-up and request tasks run; and every schedule of
    at least `fuel` = 20 steps has run them all. -/
theorem C09_fault_reaches_resurrector_thrift (w : WM) (hw : 1 ≤ w.hi) (picks : List Nat) :
    ∀ c0 ∈ [opOpen (Pool.canon w .idle false), opWake (Pool.canon w .down false),
            opReq (Pool.canon w .up true) true, opReq (Pool.canon w .up false) true],
      (20 ≤ picks.length → (run w c0 picks).tasks = []) ∧
      ((run w c0 picks).tasks = [] → learned (run w c0 picks)) := by
  intro c0 hc0
  simp only [List.mem_cons, List.not_mem_nil, or_false] at hc0
  rcases hc0 with rfl | rfl | rfl | rfl
  · exact Pool.learned_of_down (Pool.ends_open false w hw) rfl picks
  · exact Pool.learned_of_down (Pool.ends_wake false w hw) rfl picks
  · exact Pool.learned_of_down (Pool.ends_req_up true true w hw) rfl picks
  · exact Pool.learned_of_down (Pool.ends_req_up false true w hw) rfl picks

/-- With `min_watermark = 0` a request opens its own connection; if that connect is refused the
    fault signal of the transport the *caller* created crosses pool and resurrector all the same:
    fail-fast mode, retry greenlet asleep, under every schedule. -/
theorem C09_fault_reaches_resurrector_thrift_request_connect (w : WM) (hw : 1 ≤ w.hi) (hlo : w.lo = 0)
    (eof : Bool) (picks : List Nat) :
    (20 ≤ picks.length → (run w (opReq (Pool.canon w .up false) eof) picks).tasks = []) ∧
    ((run w (opReq (Pool.canon w .up false) eof) picks).tasks = [] →
      learned (run w (opReq (Pool.canon w .up false) eof) picks)) := by
  refine Pool.learned_of_down (Pool.ends_req_up false eof w hw) ?_ picks
  simp [Pool.reqFails, Pool.keep, hlo]

/-- The code as found (F5: the pool subscribes after `Open().wait()` and `_OpenImpl` sets the pool
    Open after `_Release` closed it), shipped watermarks: under gevent's FIFO order a refused first
    connect leaves the resurrector up, with a pool that calls itself Open over a closed transport. -/
theorem C09_fault_reaches_resurrector_thrift_counterexample :
    let c := run {} (opOpen { Pool.canon {} .idle false with fixed := false }) (List.replicate 20 0)
    c.tasks = [] ∧ c.rDown = false ∧ c.rNext = true ∧ c.pSt = .opened ∧ c.tSt = .closed ∧ c.connects = 1 := by
  decide


/-! ### the balancer hop: `HeapBalancerSink.__Get`'s walk over the down list (component `heap9`)

  The ResurrectorSink below the balancer reconnects and reports Open again; the balancer resumes
  sending the member traffic only once the walk over its list of downed nodes takes the penalty
  off it.  `Heap.Inv` is the invariant of Props/C03.lean (preserved by every operation,
  `C03_inv_*`); the bound on the number of dispatches is the one of C03/C04 (below 2^31−1 a load
  ≥ 0 always means "marked down"). -/

/-- **recovery at the balancer, state level.**  In every state with the invariant, whatever the
    down list holds and in whatever order its nodes went down: every node that is in the heap with
    an Open channel when a dispatch starts is, when the dispatch returns, still in the heap, not
    marked down (load < 0: no penalty) and not on the down list — it competes for traffic again. -/
theorem C09_heap_open_member_marked_up (s : Heap.HS) (h : Heap.Inv s) (hb : s.reqs.length + 1 < 2147483647)
    (id : Nat) (hin : Heap.InHeap s id) (hop : (s.node id).chan = Heap.chOpen) :
    Heap.InHeap (s.get Heap.noHook).1 id ∧ ((s.get Heap.noHook).1.node id).chan = Heap.chOpen ∧
    ((s.get Heap.noHook).1.node id).load < 0 ∧ id ∉ (s.get Heap.noHook).1.down :=
  (Heap.get_eff s (.of_inv h)).recovers_open (Heap.Inv_get s h hb) id hin hop

/-- the same along histories: after every legal operation list (members joining and leaving,
    channels going down and coming back in any order, dispatches and completions in between) the
    next dispatch marks up every member whose channel is Open -/
theorem C09_heap_open_member_marked_up_reachable (ops : List Heap.Op) (hok : Heap.opsOk Heap.HS.init ops = true)
    (hb : Heap.getCount ops + 1 < 2147483647) (id : Nat)
    (hin : Heap.InHeap (Heap.runOps Heap.HS.init ops) id)
    (hop : ((Heap.runOps Heap.HS.init ops).node id).chan = Heap.chOpen) :
    Heap.InHeap ((Heap.runOps Heap.HS.init ops).get Heap.noHook).1 id ∧
    (((Heap.runOps Heap.HS.init ops).get Heap.noHook).1.node id).load < 0 ∧
    id ∉ ((Heap.runOps Heap.HS.init ops).get Heap.noHook).1.down := by
  obtain ⟨hi, hl⟩ := Heap.run_init ops hok (Nat.lt_of_succ_lt hb)
  obtain ⟨a, _, c, d⟩ := (Heap.get_eff _ (.of_inv hi)).recovers_open
    (Heap.Inv_get _ hi (Nat.lt_of_le_of_lt (Nat.succ_le_succ hl) hb)) id hin hop
  exact ⟨a, c, d⟩

/-- **the recovered member is used again.**  An Open member with strictly fewer outstanding
    requests than every other Open member receives the dispatch — no matter whether it was on the
    down list before, where on the list it was, or which other members are still down. -/
theorem C09_heap_recovered_member_is_used (s : Heap.HS) (h : Heap.Inv s) (m : Nat) (hin : Heap.InHeap s m)
    (hop : (s.node m).chan = Heap.chOpen)
    (hleast : ∀ m', Heap.InHeap s m' → (s.node m').chan = Heap.chOpen → m' ≠ m → Heap.outOf s m < Heap.outOf s m') :
    (s.get Heap.noHook).2 = Heap.GetRes.node m (s.node m).ep s.reqs.length :=
  Option.some.inj ((Heap.get_eff s (.of_inv h)).uses_recovered m hin hop hleast)

/-- **C09 at the balancer hop, specification level.**  For every legal operation list with fewer
    than 2^31−1 dispatches (`wf` of the component, as for C03/C04) the model's history satisfies the
    executable specification `specC09`, the predicate the check evaluates on the observations of
    the real HeapBalancerSink: after every dispatch no member whose channel is Open is marked down. -/
theorem C09_heap_model_satisfies_spec (ops : List Heap.Op) (h : Heap.comp9.wf () ops = true) :
    Heap.comp9.spec () (Heap.comp9.modelTrace () ops) = Verdict.ok :=
  Heap.spec9_ok ops Heap.HS.init {} 0 Heap.Sim.init ((Heap.wfOps_iff ops).mp h).1
    (Heap.init_bound ((Heap.wfOps_iff ops).mp h).2)


/-! ### the ThriftMux stack: ResurrectorSink → SocketTransportSink (component `resmux`)

  Quantification: every configuration with `0 < init ≤ max`, a table of waits growing until capped
  and a positive ping period; every operation list satisfying `ResMux.comp.wf` (`Open()` once and
  not after `Close()`, `Close()` once and after `Open()`, fresh request ids, I/O outcomes only for a greenlet that is blocked there,
  the clock never past an instant at which something is due) — every reachability history, every
  placement of refused connects, write errors, read errors, end-of-stream, bursts, ping silence
  and `Close()` relative to the handshakes, to traffic and to the retry sleep. -/

/-- **C09, ThriftMux chain, specification level.**  The executable specification evaluated on the
    real chain's observations accepts the model's history: fail-fast while the connection is down,
    delays between reconnection attempts growing and capped, an attempt within one maximum interval
    while the endpoint accepts connections, requests accepted once a handshake was answered, no
    connect after `Close()`. -/
theorem C09_mux_chain_model_satisfies_spec (cfg : ResMux.Cfg) (ops : List ResMux.Op)
    (h : ResMux.comp.wf cfg ops = true) :
    ResMux.comp.spec cfg (ResMux.comp.modelTrace cfg ops) = .ok :=
  ResMux.model_satisfies_spec cfg ops h

/-- In every reachable state in fail-fast mode (`_down_on` set) the resurrector has no next sink,
    and a request is answered FailedFast on the spot: nothing is connected, nothing is written,
    the state does not change. -/
theorem C09_mux_failfast_while_down (cfg : ResMux.Cfg) (ops : List ResMux.Op) (h : ResMux.comp.wf cfg ops = true)
    (hd : (ResMux.runOps cfg.par {} ops).down = true) (id : Nat) :
    (ResMux.runOps cfg.par {} ops).inst = false ∧
    ResMux.doReq cfg.par (ResMux.runOps cfg.par {} ops) id =
      (ResMux.runOps cfg.par {} ops, { dels := [(id, ResMux.RK.ff)] }) := by
  have hi := (ResMux.reach_inv cfg ops h).dn hd
  exact ⟨hi.1, by simp [ResMux.doReq, hi.1]⟩

/-- **the fault signal crosses transport → resurrector.**  In every reachable state in which the
    resurrector is subscribed to its transport, every connection failure of that transport (a
    refused connect does not arise here; a write that raises, a read that raises or meets
    end-of-stream — alone or behind other reads of a burst —, five seconds of ping silence; C08's
    `connFailure`) puts the resurrector into fail-fast mode within the same drain: `_down_on` set, no
    next sink, the retry greenlet asleep for the initial wait, the balancer notified once, and every
    request that was in flight handed a ClientError. -/
theorem C09_mux_fault_reaches_resurrector (cfg : ResMux.Cfg) (ops : List ResMux.Op)
    (h : ResMux.comp.wf cfg ops = true) (hsub : (ResMux.runOps cfg.par {} ops).sub = true) (op : MuxT.Op)
    (hf : MuxT.connFailure (ResMux.runOps cfg.par {} ops).tr op = true) :
    (ResMux.absorb cfg.par (ResMux.runOps cfg.par {} ops)
        (MuxT.stepOut (ResMux.runOps cfg.par {} ops).tr op).1 (MuxT.stepOut (ResMux.runOps cfg.par {} ops).tr op).2).1.down = true ∧
    (ResMux.absorb cfg.par (ResMux.runOps cfg.par {} ops)
        (MuxT.stepOut (ResMux.runOps cfg.par {} ops).tr op).1 (MuxT.stepOut (ResMux.runOps cfg.par {} ops).tr op).2).1.inst = false ∧
    (ResMux.absorb cfg.par (ResMux.runOps cfg.par {} ops)
        (MuxT.stepOut (ResMux.runOps cfg.par {} ops).tr op).1 (MuxT.stepOut (ResMux.runOps cfg.par {} ops).tr op).2).1.rg =
      .sleep ((ResMux.runOps cfg.par {} ops).now + cfg.init) cfg.init ∧
    (ResMux.absorb cfg.par (ResMux.runOps cfg.par {} ops)
        (MuxT.stepOut (ResMux.runOps cfg.par {} ops).tr op).1 (MuxT.stepOut (ResMux.runOps cfg.par {} ops).tr op).2).1.ups =
      (ResMux.runOps cfg.par {} ops).ups + 1 ∧
    ∀ q ∈ (ResMux.runOps cfg.par {} ops).tr.tagMap,
      (q.2, ResMux.RK.cerr) ∈ (ResMux.absorb cfg.par (ResMux.runOps cfg.par {} ops)
        (MuxT.stepOut (ResMux.runOps cfg.par {} ops).tr op).1 (MuxT.stepOut (ResMux.runOps cfg.par {} ops).tr op).2).2.dels := by
  have hc := ResMux.reach_inv cfg ops h
  generalize ResMux.runOps cfg.par {} ops = s at *
  have hdn : s.down = false := hc.not_down (hc.sb hsub).1
  have hinv := ResMux.inv_of s.tr hc.tr
  obtain ⟨u, p, c, e⟩ := MuxT.failure_is_shutdown s.tr op hinv.1 hf
  rw [e, ResMux.absorb_fault Nat.one_pos hsub hdn]
  refine ⟨rfl, rfl, rfl, rfl, fun q hq => ?_⟩
  exact ResMux.absorb_dels cfg.par s _ _ (q.2, Transport.Resp.cerr) (List.mem_map.mpr ⟨q, hq, rfl⟩)

/-- The retry sleeps follow the back-off: a reconnection attempt whose connect is refused, and one
    whose transport comes back from a step with the open result `failed`, is followed at once by a
    sleep of `min (f w) max`, `w` being the sleep before it.  (Every step that shuts a transport
    during its handshake — a write or read error, end-of-stream, five seconds without an Rping, a
    fault right behind the Rping — leaves that open result: `ResMux.TStep.failed` with
    `wr_tstep`, `burst_tstep`, `pingSilence_tstep`, `race_tstep`.  The first sleep of a down period
    lasts the initial wait: `C09_mux_fault_reaches_resurrector`; the sequence grows and is capped:
    `C09_backoff_monotone_capped`, `C09_backoff_grows_until_capped`.) -/
theorem C09_mux_backoff_follows_waits (p : ResMux.P) (s : ResMux.St) (w : Nat) (hsub : s.sub = false) :
    (s.reach = false →
      (ResMux.resWake p s w).1.rg = .sleep (s.now + nextWait p.r w) (nextWait p.r w) ∧
      (ResMux.resWake p s w).2.conns = 1) ∧
    (∀ (t' : MuxT.St) (o : MuxT.Out), s.rg = .opening w → t'.openRes = .failed →
      (ResMux.absorb p s t' o).1.rg = .sleep (s.now + nextWait p.r w) (nextWait p.r w) ∧
      (ResMux.absorb p s t' o).1.inst = s.inst ∧ (ResMux.absorb p s t' o).1.down = s.down) := by
  refine ⟨?_, ?_⟩
  · intro hr
    rw [ResMux.resWake_down p w hr hsub]
    exact ⟨rfl, rfl⟩
  · intro t' o hrg hfl
    rw [ResMux.absorb_failed hsub hrg hfl]
    exact ⟨rfl, rfl, rfl⟩

/-- **recovery.**  In every reachable fail-fast state whose retry greenlet is asleep, the wake
    instant is at most one maximum interval ahead.  If the endpoint accepts connections at that
    instant, the greenlet connects then (one connect); and if the peer takes the Tping and answers
    it (write ok, header read ok, Rping read), the resurrector leaves fail-fast mode, has the new
    transport installed and reports Open; the next request is not answered on the spot, is entered
    in the tag map and queued for transmission (every successful write of the send loop then puts
    the head of the queue on the wire: `C08_mux_open_carries`). -/
theorem C09_mux_recovers_within_max (cfg : ResMux.Cfg) (ops : List ResMux.Op) (h : ResMux.comp.wf cfg ops = true)
    (wk w : Nat) (hr : (ResMux.runOps cfg.par {} ops).rg = .sleep wk w) :
    (ResMux.runOps cfg.par {} ops).now < wk ∧ wk ≤ (ResMux.runOps cfg.par {} ops).now + cfg.maxW ∧
    ((ResMux.runOps cfg.par {} ops).reach = true →
      (ResMux.doTick cfg.par (ResMux.runOps cfg.par {} ops) (wk - (ResMux.runOps cfg.par {} ops).now)).2.conns = 1 ∧
      (ResMux.doBurst cfg.par (ResMux.doBurst cfg.par (ResMux.doWr cfg.par
        (ResMux.doTick cfg.par (ResMux.runOps cfg.par {} ops) (wk - (ResMux.runOps cfg.par {} ops).now)).1
        .ok).1 [(.ok, .junk)]).1 [(.ok, .rping)]).1.down = false ∧
      (ResMux.doBurst cfg.par (ResMux.doBurst cfg.par (ResMux.doWr cfg.par
        (ResMux.doTick cfg.par (ResMux.runOps cfg.par {} ops) (wk - (ResMux.runOps cfg.par {} ops).now)).1
        .ok).1 [(.ok, .junk)]).1 [(.ok, .rping)]).1.inst = true ∧
      ResMux.stateOf (ResMux.doBurst cfg.par (ResMux.doBurst cfg.par (ResMux.doWr cfg.par
        (ResMux.doTick cfg.par (ResMux.runOps cfg.par {} ops) (wk - (ResMux.runOps cfg.par {} ops).now)).1
        .ok).1 [(.ok, .junk)]).1 [(.ok, .rping)]).1 = .opened ∧
      ∀ id,
        (ResMux.doReq cfg.par (ResMux.doBurst cfg.par (ResMux.doBurst cfg.par (ResMux.doWr cfg.par
          (ResMux.doTick cfg.par (ResMux.runOps cfg.par {} ops) (wk - (ResMux.runOps cfg.par {} ops).now)).1
          .ok).1 [(.ok, .junk)]).1 [(.ok, .rping)]).1 id).2.dels = [] ∧
        (ResMux.tagOf id, id) ∈ (ResMux.doReq cfg.par (ResMux.doBurst cfg.par (ResMux.doBurst cfg.par (ResMux.doWr cfg.par
          (ResMux.doTick cfg.par (ResMux.runOps cfg.par {} ops) (wk - (ResMux.runOps cfg.par {} ops).now)).1
          .ok).1 [(.ok, .junk)]).1 [(.ok, .rping)]).1 id).1.tr.tagMap ∧
        MuxT.Item.req (ResMux.tagOf id) id ∈ MuxT.qItems (ResMux.doReq cfg.par (ResMux.doBurst cfg.par
          (ResMux.doBurst cfg.par (ResMux.doWr cfg.par
          (ResMux.doTick cfg.par (ResMux.runOps cfg.par {} ops) (wk - (ResMux.runOps cfg.par {} ops).now)).1
          .ok).1 [(.ok, .junk)]).1 [(.ok, .rping)]).1 id).1.tr) := by
  exact ResMux.recovers cfg.par (ResMux.wf_parts h).1 _ (ResMux.reach_inv cfg ops h) wk w hr

/-- After `Close()` the chain makes no connect attempt, whatever follows: clock ticks past every
    timer, traffic, the outcome of I/O on a connection whose handshake was still in progress. -/
theorem C09_mux_closed_stops_connects (cfg : ResMux.Cfg) (ops1 ops2 : List ResMux.Op)
    (h : ResMux.comp.wf cfg (ops1 ++ ResMux.Op.close :: ops2) = true) :
    ∀ x ∈ ResMux.comp.trace cfg (ResMux.runOps cfg.par {} (ops1 ++ [ResMux.Op.close])) ops2, x.2.conns = 0 := by
  exact ResMux.closed_stops_connects cfg ops1 ops2 h

/-- **a transport that failed while opening is never installed (finding F16).**  In every reachable
    state in which the retry greenlet is opening a transport whose receive loop waits for a frame's
    body: if that frame is the handshake's Rping and the read behind it fails before the opener
    has resumed, the open fails — the resurrector stays in fail-fast mode with no next sink, the
    transport is closed, and the retry greenlet backs off.  (The code as found reported the
    transport Open; the resurrector installed it with a closed socket.) -/
theorem C09_mux_rping_then_fault_is_not_open (cfg : ResMux.Cfg) (ops : List ResMux.Op)
    (h : ResMux.comp.wf cfg ops = true) (w : Nat) (hr : (ResMux.runOps cfg.par {} ops).rg = .opening w)
    (hb : (ResMux.runOps cfg.par {} ops).tr.rl = .body) (o : Transport.IOOut) (ho : o ≠ .ok) :
    (ResMux.doRace cfg.par (ResMux.runOps cfg.par {} ops) .rping o).1.inst = false ∧
    (ResMux.doRace cfg.par (ResMux.runOps cfg.par {} ops) .rping o).1.down = true ∧
    (ResMux.doRace cfg.par (ResMux.runOps cfg.par {} ops) .rping o).1.rg =
      .sleep ((ResMux.runOps cfg.par {} ops).now + nextWait cfg.par.r w) (nextWait cfg.par.r w) ∧
    (ResMux.doRace cfg.par (ResMux.runOps cfg.par {} ops) .rping o).1.tr.cstate = .closed := by
  have hc := ResMux.reach_inv cfg ops h
  generalize ResMux.runOps cfg.par {} ops = s at *
  obtain ⟨hdn, hin, hsub⟩ := hc.fail_fast (by rw [hr]; nofun)
  obtain ⟨ts, tc⟩ := ResMux.race_tstep hc.tr hb .rping o ho
  show (ResMux.absorb cfg.par s _ _).1.inst = false ∧ (ResMux.absorb cfg.par s _ _).1.down = true ∧
    (ResMux.absorb cfg.par s _ _).1.rg = _ ∧ (ResMux.absorb cfg.par s _ _).1.tr.cstate = _
  rw [ResMux.absorb_failed hsub hr (ts.failed hc.tr (hc.og w hr).1 tc)]
  exact ⟨hin, hdn, rfl, (ResMux.settle_keep cfg.par s ts.inv).2.cstate.trans tc⟩

/-! ### the hypotheses are satisfiable -/

/-- three members; 0 and 1 go down one after the other (1 is the head of the down list, 0 behind
    it), 0 comes back first (non-LIFO), dispatches in between, then 1 comes back -/
def c09HeapHist : List Heap.Op :=
  [.join 7, .join 8, .join 9, .chan 0 2, .chan 1 2, .chan 2 2, .get, .chan 0 4, .get, .get, .chan 1 4, .get, .get,
   .chan 0 2, .get, .put 0 0, .chan 1 2, .get, .get]

set_option maxRecDepth 8000 in
example : Heap.comp9.wf () c09HeapHist = true := by decide +kernel

/-- the specification is not vacuous: a history in which member 0 is Open at a dispatch and still
    carries the penalty afterwards is rejected -/
example : Heap.specC09 () [(.join 7, ⟨none, [⟨0, 7, Heap.Idle, 1, 0⟩], [], []⟩),
      (.chan 0 2, ⟨none, [⟨0, 7, 3, 1, 0⟩], [], []⟩),
      (.get, ⟨some (.node 0 7 0), [⟨0, 7, 4, 1, 0⟩], [], []⟩)] =
    .fail "open-member-still-marked-down" [V.ofNat 2, V.ofNat 0] := by
  rfl

example : cfgWF defaultCfg = true := by decide
example : ∀ w ∈ defaultCfg.table, w ≤ defaultCfg.par.f w ∧ (w < defaultCfg.maxW → w < defaultCfg.par.f w) := by decide
example : Grows defaultCfg.par := (cfg_ok defaultCfg (by decide)).grows
example : comp.wf ⟨5, 60, [5, 7, 10]⟩
    [.opn, .req, .fault 0, .turn, .req, .reach .down, .tick 5, .tick 7, .reach .up, .tick 10, .req, .close] = true := by
  decide +kernel
example : Pool.comp.wf ⟨⟨5, 60, [5, 7, 10]⟩, {}⟩
    [.reach false, .opn [], .req false [], .tick 5 [2, 1], .reach true, .tick 7 [], .req true [1], .close []] = true := by
  decide +kernel
/-- `min_watermark = 0`: down at first connect, a refused and an accepted reconnection, a request
    on a connection of its own, one whose own connect is refused, fail-fast, recovery, `Close()` -/
example : Pool.comp.wf ⟨⟨5, 60, [5, 7, 10]⟩, ⟨0, 1⟩⟩
    [.reach false, .opn [], .req false [], .tick 5 [2, 1], .reach true, .tick 7 [], .req false [1],
     .reach false, .req false [], .req false [], .reach true, .tick 5 [], .req true [0, 2], .close []] = true := by
  decide +kernel
/-- … and the hypothesis of `C09_respool_recovers_within_max` is met on the way -/
example : (Pool.runOps ⟨⟨5, 60, [5, 7, 10]⟩, ⟨0, 1⟩⟩ {}
    [.reach false, .opn [], .req false [], .tick 5 [2, 1], .reach true]).mode = some .down := by
  decide +kernel
/-- the specification is not vacuous for a pool that keeps nothing: the observations of the seeded
    change `C09-openimpl-tests-probe-sink` (the successful probe of a reconnection is taken for a
    failure: the endpoint accepted the connect, the client keeps failing fast) are rejected -/
example : Pool.spec ⟨⟨5, 60, [5, 7, 10]⟩, ⟨0, 1⟩⟩
    [(.reach false, ⟨none, false, .idle, .none, 0, 0, .none, 0, 0, [], true⟩),
     (.opn [], ⟨none, true, .closed, .sleep 5, 1, 0, .none, 1, 1, [.closed], true⟩),
     (.reach true, ⟨none, true, .closed, .sleep 5, 0, 0, .none, 1, 1, [.closed], true⟩),
     (.tick 5 [], ⟨none, true, .closed, .sleep 7, 1, 0, .none, 1, 2, [.closed], true⟩),
     (.req false [], ⟨none, true, .closed, .sleep 7, 0, 0, .ff, 1, 2, [.closed], true⟩)] =
    .fail "not-resumed" [V.ofNat 4, Pool.encResp .ff] := by
  rfl


/-- the ThriftMux chain: down at first connect, a refused and an accepted reconnection, the handshake, traffic,
    end-of-stream, fail-fast, `Close()` while a reconnection's handshake is in progress -/
example : ResMux.comp.wf ⟨5, 60, [5, 7, 10], 30⟩
    [.reach false, .opn, .req 1, .tick 5, .reach true, .tick 7, .wr .ok, .rd .ok .junk, .rd .ok .rping, .req 2,
     .wr .ok, .rd .ok .junk, .rd .ok (.reply 2), .rd .eof .junk, .req 3, .tick 5, .rd .ok .junk, .race .rping .raise, .tick 7,
     .close, .tick 5, .tick 100] = true := by
  decide

/-- the specification is not vacuous: the observations of the code as found on the failing replay of F16 (the
    transport reported Open after `_Shutdown`, the resurrector installed it, a request was accepted) are rejected -/
example : ResMux.spec ⟨5000000, 60000000, [5000000, 6898648], 30000000⟩
    [(.reach false, ⟨none, false, .idle, .none, 0, 0, [], [], 0, 0, .idle, [], none⟩),
     (.opn, ⟨none, true, .closed, .sleep 5000000, 1, 0, [], [], 1, 1, .closed, [], some 5000000⟩),
     (.reach true, ⟨none, true, .closed, .sleep 5000000, 0, 0, [], [], 1, 1, .closed, [], some 5000000⟩),
     (.tick 5000000, ⟨none, true, .closed, .opening, 1, 1, [], [], 1, 2, .idle, [], some 5000000⟩),
     (.rd .ok .junk, ⟨none, true, .closed, .opening, 0, 1, [], [], 1, 2, .idle, [], some 5000000⟩),
     (.race .rping .raise, ⟨some 1, false, .opened, .none, 0, 0, [], [], 1, 2, .opened, [], some 30000000⟩),
     (.req 1, ⟨some 1, false, .opened, .none, 0, 0, [], [], 1, 2, .opened, [1], some 30000000⟩)] =
    .fail "failfast" [V.ofNat 6, V.ofNat 1, V.ofNat 0] := by
  rfl

end Scales.Res
