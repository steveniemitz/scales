/-
  Props/C08.lean — property theorems for C08 (transports fail in-flight requests once and
  report dead connections).  Components: `serial` (Model/Serial.lean, Adapter/Serial.lean) and
  `muxt` (Model/MuxT.lean, Adapter/MuxT.lean).  The serial theorems are proved here from the
  tables of Proofs/SerialLemmas (`Serial.Shape`, `Serial.Tr`, `Serial.TStep`); the
  theorems for the mux transport are proved here from the lemmas of Proofs/MuxTLemmas (the model
  alone), Proofs/MuxTSpecLemmas (simulation by the specification's accumulator) and
  Proofs/MuxTParkedSpec (the callers parked on the open result); Proofs/MuxTTheorems holds the
  races and the whole histories of the transport by itself (`St`, `Op`, `comp`).

  Quantification: every operation list (open / request / outcome of each blocking I/O call /
  several reads of the mux receive loop returning without a yield in between, `burst` /
  such reads together with a failing read, a failing write or a `Close()` that lands in the
  middle of the drain they cause — before the reads are taken, before the `_ProcessReply`
  greenlets of their frames run, or after those ran and before the greenlets they woke resume,
  `race` / timeout with the outcome of the re-connect — concluding at once, or, serial transport,
  taking time: `timeoutBlock` … any operations in between … `reconn r` — / ping due / ping
  silence / close), of any
  length, subject only to the hypotheses `comp.wf` spells out (an I/O outcome needs a greenlet
  blocked in that I/O call; request ids are fresh; for the mux transport see Adapter/MuxT.lean).
  The per-step theorems hold in every state satisfying the invariant `Inv`, which
  `C08_serial_inv_reachable` / `C08_mux_inv_reachable` show for every state reachable by *any*
  operation list.  `connFailure s op` says that `op` meets a connection failure in state `s`.

  The component `muxt` is the ThriftMux transport *together with the callers blocked on its open
  result* (`MuxT.PSt`, operations `MuxT.POp`, component `MuxT.pcomp`): `tr op` is an operation `op`
  of the transport itself (`MuxT.Op`, step `MuxT.stepOut`) followed by the end of its drain, at
  which the blocked callers go on if the open result was set; `openStart` / `connected` are an
  `Open()` whose connect takes time; `park` is a request handed to the transport while the open is
  pending.  The theorems about single operations of the transport are stated on `MuxT.stepOut`;
  `C08_mux_parked_resume` says what the end of the drain adds; the theorems over whole histories
  quantify over all operation lists of the combined component.
-/
import ScalesModel.Proofs.SerialLemmas
import ScalesModel.Proofs.MuxTTheorems
import ScalesModel.Proofs.MuxTParkedSpec
namespace Scales.C08
open Scales.Transport

/-! ## serial framed transport (scales/thrift/sink.py) -/

/-- the invariant (socket connected ⇒ `_state` Open; Open ⇒ open result kept; transaction in
    flight ⇒ `_state` Open, and its socket is connected unless it is blocked in the re-connect of
    its time-out handler; `_state` Open without a connected socket ⇒ a transaction is in flight)
    holds in every reachable state, whatever the operations -/
theorem C08_serial_inv_reachable (ops : List Serial.Op) :
    Serial.Inv (Serial.runOps Serial.St.init ops) :=
  Serial.inv_runOps ops _ Serial.inv_init

/-- every exit path of a transaction clears `_processing`: whenever an operation hands a
    response to the transaction in flight (reply, time-out with accepted or refused
    re-connect, I/O error, end-of-stream) or to the request it has just started (deadline
    already passed, socket not connected), `_processing` is `None` afterwards. -/
theorem C08_serial_each_exit_clears_processing (s : Serial.St) (op : Serial.Op) (id : Nat) (r : Resp)
    (hown : (∃ t, s.processing = some t ∧ t.id = id ∧ Serial.isReq op ≠ some id) ∨
            (s.processing = none ∧ Serial.isReq op = some id))
    (hdel : (id, r) ∈ (Serial.stepOut s op).2.eff.dels) :
    (Serial.stepOut s op).1.processing = none := by
  obtain ⟨t, hp, hreq, -⟩ | ⟨h, -⟩ := (Serial.tstep s op).handed hdel
  · -- turned away: `id` would be the new request's while a transaction is in flight
    obtain ⟨_, _, _, hne⟩ | ⟨hn, _⟩ := hown
    · exact absurd hreq hne
    · cases hp.symm.trans hn
  · exact h

/-- on a connection failure every request in flight is failed exactly once, with an error, in
    the same operation: the operation hands out exactly one response, it is an error, and it
    goes to the transaction in flight (or to the request whose transaction just started). -/
theorem C08_serial_fault_once (s : Serial.St) (op : Serial.Op) (hinv : Serial.Inv s)
    (hf : Serial.connFailure s op = true) :
    (∀ t, s.processing = some t →
        ∃ k, k.isError = true ∧ (Serial.stepOut s op).2.eff.dels = [(t.id, k)]) ∧
    (s.processing = none → ∀ id, Serial.isReq op = some id →
        ∃ k, k.isError = true ∧ (Serial.stepOut s op).2.eff.dels = [(id, k)]) := by
  obtain ⟨k, hk, hd, -⟩ := (Serial.tr hinv.shape op).conn_failure hf
  refine ⟨fun t ht => ⟨k, hk, ?_⟩, fun hp id hid => ⟨k, hk, ?_⟩⟩
  · rw [hd, Serial.connFailure_req hf ht, Serial.owedOf, ht]; rfl
  · rw [hd, hid, Serial.owedOf, hp]; rfl

/-- over a whole history no request is ever handed more than one response -/
theorem C08_serial_responses_at_most_once (ops : List Serial.Op)
    (h : Serial.comp.wf () ops = true) (id : Nat) :
    Serial.responsesTo id (Serial.comp.modelTrace () ops) ≤ 1 := by
  -- nothing is owed or abandoned at the start, and a fresh id is issued at most once
  have h1 : _ ≤ 0 + 0 + _ :=
    Serial.spec_count id _ {} (Serial.spec_of_rel ops Serial.St.init {} [] Serial.rel_init h)
  have h2 : _ ≤ 1 := Nat.le_trans (Serial.issued_le id ops Serial.St.init [] h) (by simp)
  exact Nat.le_trans h1 (by omega)

/-- after a connection failure the transport reports `closed`, the fault signal was raised
    exactly once if it did not already report `closed` (and not at all otherwise), and
    `_processing` is clear. -/
theorem C08_serial_closed_and_signalled (s : Serial.St) (op : Serial.Op) (hinv : Serial.Inv s)
    (hf : Serial.connFailure s op = true) :
    (Serial.stepOut s op).1.state = .closed ∧
    (Serial.stepOut s op).2.eff.faults = (if s.state = .closed then 0 else 1) ∧
    (Serial.stepOut s op).1.processing = none := by
  obtain ⟨_, -, -, h⟩ := (Serial.tr hinv.shape op).conn_failure hf
  exact h

/-- a transport that reports `open` with no transaction in flight carries the next request:
    the request is not answered on the spot, its transaction blocks in the write, the
    transport still reports `open`, and when that write succeeds the request's frame is what
    reached the peer (true after the repair of F4: before it a refused re-connect left the
    transport `open` with `_processing` set for ever). -/
theorem C08_serial_open_idle_carries (s : Serial.St) (id : Nat) (dl : Serial.DL) (hinv : Serial.Inv s)
    (hopen : s.state = .opened) (hidle : s.processing = none) (hdl : dl = .none ∨ dl = .future) :
    (s.request id dl).2.eff.dels = [] ∧
    (∃ b, (s.request id dl).1.processing = some ⟨id, b, .write⟩) ∧
    (s.request id dl).1.state = .opened ∧
    ((s.request id dl).1.io .ok).2.sent = [id] := by
  cases hinv.eq_idle hopen hidle
  rcases hdl with rfl | rfl <;> exact ⟨rfl, ⟨_, rfl⟩, rfl, rfl⟩

/-- a transport that reports `open` with no transaction in flight has a connected socket: the
    state "`_state` Open, no socket handle" only exists while `_processing` is set (the time-out
    handler blocked in its re-connect) -/
theorem C08_serial_open_idle_connected (s : Serial.St) (hinv : Serial.Inv s)
    (hopen : s.state = .opened) (hidle : s.processing = none) : s.sockOpen = true := by
  cases hinv.eq_idle hopen hidle
  rfl

/-- **in every reachable state** — whatever the operations, no hypothesis on them; also between
    the two halves of a re-connect that takes time — a transport that reports `open` with no
    transaction in flight has a connected socket and carries the next request: the request is
    not answered on the spot, its transaction blocks in the write, and when that write succeeds
    the request's frame is what reached the peer -/
theorem C08_serial_reachable_open_idle_carries (ops : List Serial.Op) (id : Nat) (dl : Serial.DL)
    (hopen : (Serial.runOps Serial.St.init ops).state = .opened)
    (hidle : (Serial.runOps Serial.St.init ops).processing = none)
    (hdl : dl = .none ∨ dl = .future) :
    (Serial.runOps Serial.St.init ops).sockOpen = true ∧
    ((Serial.runOps Serial.St.init ops).request id dl).2.eff.dels = [] ∧
    (∃ b, ((Serial.runOps Serial.St.init ops).request id dl).1.processing = some ⟨id, b, .write⟩) ∧
    (((Serial.runOps Serial.St.init ops).request id dl).1.io .ok).2.sent = [id] :=
  have hinv := C08_serial_inv_reachable ops
  have ⟨h1, h2, _, h4⟩ := C08_serial_open_idle_carries _ id dl hinv hopen hidle hdl
  ⟨C08_serial_open_idle_connected _ hinv hopen hidle, h1, h2, h4⟩

/-- **every observation of every history** (no hypothesis on the operations): whenever the
    transport reports `open` and not busy (`_processing` clear) its socket is connected (while a
    re-connect is in progress it reports busy: nothing is claimed of those observations) -/
theorem C08_serial_observed_open_idle_connected (ops : List Serial.Op) :
    ∀ p ∈ Serial.comp.modelTrace () ops,
      p.2.state = .opened → p.2.busy = false → p.2.sock = true := by
  intro p hp hst hb
  obtain ⟨s', o, hinv, he⟩ := Serial.trace_obs_reachable ops Serial.St.init Serial.inv_init p hp
  rw [he] at hst hb ⊢
  exact C08_serial_open_idle_connected s' hinv hst (Option.isNone_iff_eq_none.mp (Option.isSome_eq_false_iff.mp hb))

/-- the deadline of the transaction in flight passes and the re-connect takes time: the
    operation hands out nothing, raises nothing, the transaction stays in flight (`_processing`
    set) blocked in the re-connect; the transport still reports `open`, its socket is not
    connected — the request gets its TimeoutError when the re-connect has concluded
    (`C08_serial_reconnect_window`) -/
theorem C08_serial_timeout_block_defers (s : Serial.St) (t : Serial.Txn) (hinv : Serial.Inv s)
    (hp : s.processing = some t) (hd : t.hasDl = true) (hph : t.phase ≠ .reconn) :
    (s.timeoutBlock).2 = {} ∧
    (s.timeoutBlock).1.processing = some { t with phase := .reconn } ∧
    (s.timeoutBlock).1.state = .opened ∧ (s.timeoutBlock).1.sockOpen = false := by
  cases hinv.eq_txn hp
  obtain ⟨id, dl, ph⟩ := t
  cases hd
  cases ph with
  | reconn => exact absurd rfl hph
  | _ => exact ⟨rfl, rfl, rfl, rfl⟩

/-- **the window.**  While the time-out handler of transaction `t` is blocked in its re-connect
    the transport reports `open` but is *not idle* (`_processing` is set), and
    * whatever else is attempted changes nothing: a request is rejected with the concurrency
      error (it is never started on the socket that is not there), `Open()`, an I/O outcome or a
      second time-out find nothing to do;
    * when the re-connect is accepted the transaction is handed its one TimeoutError, nothing
      is raised, `_processing` is clear and the socket is connected: the transport is `open`,
      idle and carries the next request;
    * when it is refused the transaction is handed its one TimeoutError, the fault signal is
      raised once, the transport reports `closed` and `_processing` is clear;
    * `Close()` leaves a closed transport with nothing in flight. -/
theorem C08_serial_reconnect_window (s : Serial.St) (t : Serial.Txn) (hinv : Serial.Inv s)
    (hp : s.processing = some t) (hph : t.phase = .reconn) :
    (s.state = .opened ∧ s.sockOpen = false) ∧
    (∀ id dl, s.request id dl = (s, { eff := { dels := [(id, .conc)] } })) ∧
    (∀ r, s.openT r = (s, {})) ∧ (∀ o, s.io o = (s, {})) ∧ (∀ r, s.timeoutHere r = (s, {})) ∧
    s.timeoutBlock = (s, {}) ∧
    ((s.reconnDone .ok).2 = { eff := { faults := 0, dels := [(t.id, .timeout)], conns := 1 } } ∧
      (s.reconnDone .ok).1.state = .opened ∧ (s.reconnDone .ok).1.processing = none ∧
      (s.reconnDone .ok).1.sockOpen = true ∧
      ∀ id dl, dl = .none ∨ dl = .future →
        ((s.reconnDone .ok).1.request id dl).2.eff.dels = [] ∧
        ((((s.reconnDone .ok).1.request id dl).1.io .ok).2.sent = [id])) ∧
    ((s.reconnDone .refuse).2 = { eff := { faults := 1, dels := [(t.id, .timeout)], conns := 1 } } ∧
      (s.reconnDone .refuse).1.state = .closed ∧ (s.reconnDone .refuse).1.processing = none) ∧
    (s.close.state = .closed ∧ s.close.processing = none) := by
  cases hinv.eq_txn hp
  obtain ⟨tid, dl, ph⟩ := t
  cases hph
  refine ⟨⟨rfl, rfl⟩, fun _ _ => rfl, fun _ => rfl, fun _ => rfl, ?_, ?_,
    ⟨rfl, rfl, rfl, rfl, ?_⟩, ⟨rfl, rfl, rfl⟩, rfl, rfl⟩
  · cases dl <;> exact fun _ => rfl
  · cases dl <;> rfl
  · rintro id dl (rfl | rfl) <;> exact ⟨rfl, rfl⟩

/-- **serial transport, specification level.**  For every operation list satisfying the
    hypotheses, the history of the model satisfies the executable specification that the
    harness evaluates on the implementation's observations. -/
theorem C08_serial_model_satisfies_spec (ops : List Serial.Op) (h : Serial.comp.wf () ops = true) :
    Serial.comp.spec () (Serial.comp.modelTrace () ops) = .ok :=
  Serial.spec_of_rel ops Serial.St.init {} [] Serial.rel_init h

/-! ## ThriftMux transport (scales/mux/sink.py, scales/thriftmux/sink.py) -/

/-- the invariant (a closed transport has no live loop and no ping helper; only an Open
    transport has requests in its tag map; between two operations no `_ProcessReply` greenlet
    is pending) holds in every reachable state -/
theorem C08_mux_inv_reachable (ops : List MuxT.POp) :
    MuxT.Inv (MuxT.runOpsP MuxT.PSt.init ops).t :=
  (MuxT.invP_reachable ops).inv

/-- on a connection failure (refused connect, write error, read error or end-of-stream in a
    header or a body — alone or right behind frames read in the same burst —, ping silence)
    every request in the tag map — queued, being written or
    awaiting its reply — is handed exactly one `ClientError`, in tag-map order, nothing else is
    handed out, and the tag map and the send queue are empty afterwards. -/
theorem C08_mux_shutdown_fails_all_once (s : MuxT.St) (op : MuxT.Op) (hinv : MuxT.Inv s)
    (hf : MuxT.connFailure s op = true) :
    (MuxT.stepOut s op).2.eff.dels = s.tagMap.map (fun p => (p.2, Resp.cerr)) ∧
    (MuxT.stepOut s op).1.tagMap = [] ∧ (MuxT.stepOut s op).1.sendQ = [] := by
  obtain ⟨u, p, c, e⟩ := MuxT.failure_is_shutdown s op hinv.1 hf
  rw [e]
  exact ⟨rfl, rfl, rfl⟩

/-- over a whole history no request — issued to an open transport, rejected on the spot, or handed
    to the transport while its open was pending — is ever handed more than one response -/
theorem C08_mux_responses_at_most_once (ops : List MuxT.POp) (h : MuxT.pcomp.wf () ops = true)
    (id : Nat) : MuxT.responsesToP id (MuxT.pcomp.modelTrace () ops) ≤ 1 := by
  rw [← MuxT.responsesTo_view]
  exact MuxT.simP.at_most_once ops MuxT.relP_init h id

/-- a `_ProcessReply` greenlet that was spawned before `_Shutdown` and runs after it (its frame
    had been read, the next read failed before the receive loop yielded) finds an empty tag map
    and no outstanding ping: whatever the frames, nothing is handed to any request and the
    closed transport does not change.  `Inv0` is `Inv` without "nothing pending". -/
theorem C08_mux_reply_after_shutdown_dropped (s : MuxT.St) (fs : List MuxT.Frame)
    (hinv : MuxT.Inv0 s) (hc : s.cstate = .closed) : MuxT.dispatchGo fs s = (s, []) :=
  MuxT.dispatchGo_closed fs s hinv hc

/-- frames and a failing read (error or end-of-stream, in a header or a body) right behind
    them, without a yield in between: every request in the tag map is handed exactly one
    `ClientError` — also one whose reply was among the frames read — and nothing else is handed
    out; the fault signal is raised once, the transport is closed, the tag map is empty and no
    `_ProcessReply` greenlet is left behind. -/
theorem C08_mux_burst_fault_once (s : MuxT.St) (rs : List (IOOut × MuxT.Frame)) (hinv : MuxT.Inv s)
    (hrl : s.rl ≠ .dead) (hex : ∃ r ∈ rs, r.1 ≠ IOOut.ok) :
    (MuxT.stepOut s (.burst rs)).2.eff.dels = s.tagMap.map (fun p => (p.2, Resp.cerr)) ∧
    (MuxT.stepOut s (.burst rs)).2.eff.faults = 1 ∧
    (MuxT.stepOut s (.burst rs)).1.cstate = .closed ∧ (MuxT.stepOut s (.burst rs)).1.tagMap = [] ∧
    (MuxT.stepOut s (.burst rs)).1.pending = [] := by
  have hany : rs.any (fun r => r.1 ≠ .ok) = true := by
    obtain ⟨r, hr, hne⟩ := hex
    exact List.any_eq_true.mpr ⟨r, hr, by simpa using hne⟩
  rw [show MuxT.stepOut s (.burst rs) = _ from MuxT.burst_fault s rs hinv.1 hrl hany]
  exact ⟨rfl, rfl, rfl, rfl, rfl⟩

/-- **on a connection failure the requests in the tag map and the callers blocked on the open
    result are failed, each exactly once, and nothing else happens**: the operation hands out
    `ClientError` to the requests in the tag map, in tag-map order, then the 'Sink not open.' error
    to the blocked callers, in the order in which they arrived, and nothing else; the fault signal
    is raised once; the transport reports `closed`; tag map and send queue are empty — no blocked
    caller was entered or queued —; nobody is blocked any more; a pending open has failed. -/
theorem C08_mux_failure_fails_inflight_and_parked (ps : MuxT.PSt) (op : MuxT.POp) (hinv : MuxT.InvP ps)
    (hf : MuxT.connFailureP ps op = true) :
    (MuxT.stepOutP ps op).2.eff.dels =
      ps.t.tagMap.map (fun p => (p.2, Resp.cerr)) ++ ps.parked.map (fun p => (p.1, Resp.other)) ∧
    (MuxT.stepOutP ps op).2.eff.faults = 1 ∧
    (MuxT.stepOutP ps op).1.t.cstate = .closed ∧ (MuxT.stepOutP ps op).1.t.tagMap = [] ∧
    (MuxT.stepOutP ps op).1.t.sendQ = [] ∧ (MuxT.stepOutP ps op).1.parked = [] ∧
    (MuxT.stepOutP ps op).1.t.openRes ≠ .pending := by
  -- the operation is a connection failure `cop` of a transport `t0` with the tag map of `ps.t`, then the end of the drain
  obtain ⟨t0, cop, c', e, htm, hi, hcf⟩ : ∃ (t0 : MuxT.St) (cop : MuxT.Op) (c' : Bool),
      MuxT.stepOutP ps op = ps.finish (MuxT.stepOut t0 cop).1 c' (MuxT.stepOut t0 cop).2 ∧
      ps.t.tagMap = t0.tagMap ∧ MuxT.Inv0 t0 ∧ MuxT.connFailure t0 cop = true := by
    -- a connect that concludes does so on the fresh transport; `ps.t` is as `Open()` left it
    have ht : ps.connecting = true → ps.t.cstate ≠ .closed → ps.t.tagMap = MuxT.St.init.tagMap := fun hcn hnc => by
      rw [(hinv.conn hcn).resolve_right fun e => hnc (by rw [e]; decide)]; rfl
    unfold MuxT.connFailureP at hf
    split at hf
    · exact ⟨ps.t, _, ps.connecting, rfl, rfl, hinv.inv.1, hf⟩
    · simp only [Bool.and_eq_true, decide_eq_true_eq] at hf
      exact ⟨MuxT.St.init, _, false, MuxT.connected_eq ps .refuse _ hf.1 hf.2, ht hf.1 hf.2, MuxT.inv0_init, rfl⟩
    · simp only [Bool.and_eq_true, decide_eq_true_eq] at hf
      exact ⟨MuxT.St.init, _, false, MuxT.connected_eq ps .ok _ hf.1.1 hf.1.2, ht hf.1.1 hf.1.2, MuxT.inv0_init,
        by simp only [MuxT.POp.view, MuxT.connFailure, hf.2]; rfl⟩
    · cases hf
  obtain ⟨u, p, c, es⟩ := MuxT.failure_is_shutdown t0 cop hi hcf
  rw [e, htm, es, MuxT.finish_closed ps _ c' _ rfl rfl]
  exact ⟨rfl, rfl, rfl, rfl, rfl, rfl, MuxT.shut_openRes u p⟩

/-- **every accepted request is failed exactly once when the connection fails, over whole
    histories.**  Whatever happened before and whatever happens afterwards (replies for its tag
    arriving late included): a request the transport has accepted and not answered — it is in the
    tag map, or its caller is blocked on the open result (`PSt.inflight`) — when the connection
    fails (`connFailureP`: a refused connect, also one that was in progress; a connection reset
    or ended at once; a write error, a read error or an end-of-stream, alone, in a burst or in a
    race; ping silence) is handed an error in that very operation, and that is the only response
    it is handed in the whole history.  (With `C08_mux_responses_at_most_once`: a request is
    completed by its reply or by one error, never both.) -/
theorem C08_mux_inflight_failed_exactly_once (pre : List MuxT.POp) (op : MuxT.POp) (post : List MuxT.POp)
    (h : MuxT.pcomp.wf () (pre ++ op :: post) = true)
    (hf : MuxT.connFailureP (MuxT.runOpsP MuxT.PSt.init pre) op = true) (id : Nat)
    (hin : id ∈ (MuxT.runOpsP MuxT.PSt.init pre).inflight) :
    (∃ r, r.isError = true ∧
        (id, r) ∈ (MuxT.stepOutP (MuxT.runOpsP MuxT.PSt.init pre) op).2.eff.dels) ∧
    MuxT.responsesToP id (MuxT.pcomp.modelTrace () (pre ++ op :: post)) = 1 := by
  have hd := (C08_mux_failure_fails_inflight_and_parked _ op (MuxT.invP_reachable pre) hf).1
  have hex : ∃ r, r.isError = true ∧
      (id, r) ∈ (MuxT.stepOutP (MuxT.runOpsP MuxT.PSt.init pre) op).2.eff.dels := by
    rw [hd]
    simp only [MuxT.PSt.inflight, List.mem_append, List.mem_map] at hin
    rcases hin with ⟨p, hp, he⟩ | ⟨p, hp, he⟩
    · exact ⟨Resp.cerr, rfl, List.mem_append_left _ (List.mem_map.mpr ⟨p, hp, by rw [← he]⟩)⟩
    · exact ⟨Resp.other, rfl, List.mem_append_right _ (List.mem_map.mpr ⟨p, hp, by rw [← he]⟩)⟩
  refine ⟨hex, ?_⟩
  obtain ⟨r, _, hmem⟩ := hex
  exact MuxT.pcomp_exactly_once pre op post h id r hmem

/-- the invariant of the combined state (the transport's own invariants; while a connect is in
    progress the transport is as `Open()` left it, or as a `Close()` left that; callers are
    blocked only while the open is pending) holds in every reachable state -/
theorem C08_mux_invP_reachable (ops : List MuxT.POp) : MuxT.InvP (MuxT.runOpsP MuxT.PSt.init ops) :=
  MuxT.invP_reachable ops

/-- callers are blocked on the open result only while the open is pending: then the transport
    reports `idle` and nothing is in its tag map — in every reachable state -/
theorem C08_mux_parked_only_while_pending (ops : List MuxT.POp)
    (h : (MuxT.runOpsP MuxT.PSt.init ops).parked ≠ []) :
    (MuxT.runOpsP MuxT.PSt.init ops).waiting = true ∧
    (MuxT.runOpsP MuxT.PSt.init ops).t.cstate = .idle ∧
    (MuxT.runOpsP MuxT.PSt.init ops).t.tagMap = [] := by
  have hi := MuxT.invP_reachable ops
  have hw := hi.wait h
  exact ⟨hw, MuxT.waiting_idle _ hi.invO hw, MuxT.waiting_tagMap _ hi.inv hi.invO hw⟩

/-- **what becomes of the blocked callers at the end of a drain.**  An operation `op` of the
    transport takes it to `(stepOut ps.t op).1`; then:
    * the open is still pending — everybody stays blocked, nothing is added to what `op` does;
    * the transport is Open — the callers go on in the order in which they arrived: each is
      entered in the tag map under the tag the pool hands it, its frame is queued behind what was
      queued, in that order; none of them is answered; nobody is blocked any more;
    * otherwise (the open failed, or `Close()`) — each of them is handed the 'Sink not open.'
      error once, in that order, after the responses of `op` itself; the transport is exactly as
      `op` left it — nothing of them is in the tag map or queued; nobody is blocked any more. -/
theorem C08_mux_parked_resume (ps : MuxT.PSt) (op : MuxT.Op) :
    ((MuxT.stepOutP ps (.tr op)).1.waiting = true →
      (MuxT.stepOutP ps (.tr op)).1.parked = ps.parked ∧
      (MuxT.stepOutP ps (.tr op)).1.t = (MuxT.stepOut ps.t op).1 ∧
      (MuxT.stepOutP ps (.tr op)).2 = (MuxT.stepOut ps.t op).2) ∧
    ((MuxT.stepOutP ps (.tr op)).1.waiting = false → (MuxT.stepOut ps.t op).1.cstate = .opened →
      (MuxT.stepOutP ps (.tr op)).1.parked = [] ∧
      (MuxT.stepOutP ps (.tr op)).1.t.tagMap =
        (MuxT.stepOut ps.t op).1.tagMap ++ ps.parked.map (fun p => (p.2, p.1)) ∧
      MuxT.qItems (MuxT.stepOutP ps (.tr op)).1.t =
        MuxT.qItems (MuxT.stepOut ps.t op).1 ++ ps.parked.map (fun p => MuxT.Item.req p.2 p.1) ∧
      (MuxT.stepOutP ps (.tr op)).1.t.cstate = .opened ∧
      (MuxT.stepOutP ps (.tr op)).2.eff.dels = (MuxT.stepOut ps.t op).2.eff.dels) ∧
    ((MuxT.stepOutP ps (.tr op)).1.waiting = false → (MuxT.stepOut ps.t op).1.cstate ≠ .opened →
      (MuxT.stepOutP ps (.tr op)).1.parked = [] ∧
      (MuxT.stepOutP ps (.tr op)).1.t = (MuxT.stepOut ps.t op).1 ∧
      (MuxT.stepOutP ps (.tr op)).2.eff.dels =
        (MuxT.stepOut ps.t op).2.eff.dels ++ ps.parked.map (fun p => (p.1, Resp.other))) := by
  simp only [MuxT.stepOutP]
  cases hw : ({ t := (MuxT.stepOut ps.t op).1, connecting := ps.connecting, parked := ps.parked } : MuxT.PSt).waiting with
  | true =>
    rw [MuxT.finish_waiting ps _ _ _ hw]
    exact ⟨fun _ => ⟨rfl, rfl, rfl⟩, fun h => Bool.noConfusion (hw.symm.trans h),
      fun h => Bool.noConfusion (hw.symm.trans h)⟩
  | false =>
    obtain ⟨hop', hwY⟩ := MuxT.not_waiting _ _ _ hw
    by_cases hopn : (MuxT.stepOut ps.t op).1.cstate = .opened
    · rw [MuxT.finish_resume ps _ _ _ hw]
      obtain ⟨g1, g2, g3, g4, g5⟩ := MuxT.parkedGo_accepts ps.parked _ hopn hop'
      exact ⟨fun h => by simp [MuxT.PSt.waiting, g5, g4] at h, fun _ _ => ⟨rfl, g2, g3, g4, by simp [g1]⟩,
        fun _ h => absurd hopn h⟩
    · rw [MuxT.finish_rejects ps _ _ _ hw hopn]
      exact ⟨fun h => Bool.noConfusion (h.symm.trans (hwY [])), fun _ h => absurd h hopn,
        fun _ _ => ⟨rfl, rfl, rfl⟩⟩

/-- **a request handed to the transport while its open was pending, whose open does not succeed, is
    answered exactly once and nothing of it stays behind — over whole histories.**  Whatever
    happened before and whatever happens afterwards: if a caller is blocked on the open result and
    an operation of the transport — a write or read fault or an end-of-stream of the handshake,
    ping silence, a burst, a race at any position, a `Close()` — ends with the open no longer
    pending and the transport not Open, that caller is handed the 'Sink not open.' error in that
    very operation; it is the only response it is handed in the whole history; nobody is blocked
    afterwards; and the transport is exactly as the operation left it (closed, with an empty tag
    map and send queue: `C08_mux_closed_and_signalled`, `C08_mux_race_closed_and_signalled`) — the
    request was neither given a tag-map entry nor queued.  (The refused or reset connect that was
    in progress: `C08_mux_inflight_failed_exactly_once`, `C08_mux_failure_fails_inflight_and_parked`.) -/
theorem C08_mux_parked_failed_exactly_once (pre : List MuxT.POp) (op : MuxT.Op) (post : List MuxT.POp)
    (h : MuxT.pcomp.wf () (pre ++ .tr op :: post) = true) (id tag : Nat)
    (hin : (id, tag) ∈ (MuxT.runOpsP MuxT.PSt.init pre).parked)
    (hw : (MuxT.stepOutP (MuxT.runOpsP MuxT.PSt.init pre) (.tr op)).1.waiting = false)
    (hno : (MuxT.stepOut (MuxT.runOpsP MuxT.PSt.init pre).t op).1.cstate ≠ .opened) :
    (id, Resp.other) ∈ (MuxT.stepOutP (MuxT.runOpsP MuxT.PSt.init pre) (.tr op)).2.eff.dels ∧
    MuxT.responsesToP id (MuxT.pcomp.modelTrace () (pre ++ .tr op :: post)) = 1 ∧
    (MuxT.stepOutP (MuxT.runOpsP MuxT.PSt.init pre) (.tr op)).1.parked = [] ∧
    (MuxT.stepOutP (MuxT.runOpsP MuxT.PSt.init pre) (.tr op)).1.t =
      (MuxT.stepOut (MuxT.runOpsP MuxT.PSt.init pre).t op).1 := by
  obtain ⟨p1, p2, p3⟩ := (C08_mux_parked_resume (MuxT.runOpsP MuxT.PSt.init pre) op).2.2 hw hno
  have hmem : (id, Resp.other) ∈ (MuxT.stepOutP (MuxT.runOpsP MuxT.PSt.init pre) (.tr op)).2.eff.dels := by
    rw [p3]
    exact List.mem_append_right _ (List.mem_map.mpr ⟨(id, tag), hin, rfl⟩)
  refine ⟨hmem, ?_, p1, p2⟩
  exact MuxT.pcomp_exactly_once pre (.tr op) post h id _ hmem

/-- without blocked callers the combined component is the transport: `tr op` does to the
    transport what `op` does, hands out what `op` hands out, and nobody gets blocked -/
theorem C08_mux_transport_alone (ps : MuxT.PSt) (op : MuxT.Op) (h : ps.parked = []) :
    (MuxT.stepOutP ps (.tr op)).1.t = (MuxT.stepOut ps.t op).1 ∧
    (MuxT.stepOutP ps (.tr op)).2 = (MuxT.stepOut ps.t op).2 ∧
    (MuxT.stepOutP ps (.tr op)).1.parked = [] := by
  simp only [MuxT.stepOutP]
  rw [MuxT.finish_nil ps _ _ _ h]
  exact ⟨rfl, rfl, rfl⟩

/-- after a connection failure the transport reports `closed`, the fault signal was raised
    exactly once, both loops, the ping loop and the ping helper are gone, and an open that was
    still pending has failed. -/
theorem C08_mux_closed_and_signalled (s : MuxT.St) (op : MuxT.Op) (hinv : MuxT.Inv s)
    (hf : MuxT.connFailure s op = true) :
    (MuxT.stepOut s op).1.cstate = .closed ∧ (MuxT.stepOut s op).2.eff.faults = 1 ∧
    (MuxT.stepOut s op).1.sl = .dead ∧ (MuxT.stepOut s op).1.rl = .dead ∧
    (MuxT.stepOut s op).1.pingLoop = false ∧ (MuxT.stepOut s op).1.pingWait = false ∧
    (MuxT.stepOut s op).1.openRes ≠ .pending := by
  obtain ⟨u, p, c, e⟩ := MuxT.failure_is_shutdown s op hinv.1 hf
  rw [e]
  exact ⟨rfl, rfl, rfl, rfl, rfl, rfl, MuxT.shut_openRes u p⟩

/-- a peer that stops answering pings: five seconds after a ping was queued without an Rping
    arriving, every request in flight is failed exactly once with `ClientError`, the transport
    reports `closed` and the fault signal is raised (once).  A ping is outstanding only on a
    transport that is not closed, so this applies whenever the helper is waiting. -/
theorem C08_ping_silence (s : MuxT.St) (hinv : MuxT.Inv s) (hpw : s.pingWait = true) :
    s.cstate ≠ .closed ∧
    (MuxT.stepOut s .pingSilence).2.eff.dels = s.tagMap.map (fun p => (p.2, Resp.cerr)) ∧
    (MuxT.stepOut s .pingSilence).1.tagMap = [] ∧
    (MuxT.stepOut s .pingSilence).1.cstate = .closed ∧
    (MuxT.stepOut s .pingSilence).2.eff.faults = 1 := by
  obtain ⟨u, p, c, e⟩ := MuxT.failure_is_shutdown s .pingSilence hinv.1 hpw
  rw [e]
  exact ⟨fun e => by simp [(hinv.1.1 e).2.2] at hpw, rfl, rfl, rfl, rfl⟩

/-- the ping loop of an open transport arms the helper: when its sleep ends and no ping is
    outstanding, a ping is queued for transmission and the helper waits for the Rping. -/
theorem C08_mux_ping_due_arms_helper (s : MuxT.St) (hop : s.cstate = .opened)
    (hl : s.pingLoop = true) (hw : s.pingWait = false) :
    (MuxT.stepOut s .pingDue).1.pingWait = true ∧
    MuxT.Item.ping ∈ MuxT.qItems (MuxT.stepOut s .pingDue).1 := by
  rw [show MuxT.stepOut s .pingDue = _ from MuxT.pingDue_eq s hl hw hop]
  exact ⟨by simp, by rw [MuxT.qItems_pump]; simp [MuxT.qItems]⟩

/-- a transport that reports `open` carries the next request: it is not answered on the spot,
    it is entered in the tag map and its frame is queued for transmission; and every successful
    write call of the send loop puts exactly the frame it was given on the wire and moves on to
    the next queued frame. -/
theorem C08_mux_open_carries (s : MuxT.St) (id tag : Nat) (hop : s.cstate = .opened)
    (hno : s.opening = false) :
    (s.request id tag).2.eff.dels = [] ∧ (tag, id) ∈ (s.request id tag).1.tagMap ∧
    MuxT.Item.req tag id ∈ MuxT.qItems (s.request id tag).1 ∧
    (s.request id tag).1.cstate = .opened ∧
    (∀ (s' : MuxT.St) (it : MuxT.Item), s'.sl = .writing it →
        (s'.wr .ok).2.sent = [it] ∧ MuxT.qItems (s'.wr .ok).1 = s'.sendQ)  := by
  rw [MuxT.request_opened s id tag hop hno]
  refine ⟨rfl, by simp, by rw [MuxT.qItems_pump]; simp [MuxT.qItems], by simp [hop], fun s' it hsl => ?_⟩
  rw [MuxT.wr_ok s' it hsl, MuxT.qItems_pump]
  simp [MuxT.qItems]

/-- while `_OpenImpl` waits for the handshake's Rping the open result is pending, the transport
    reports `idle` and the ping is outstanding — in every reachable state -/
theorem C08_mux_opening_means_pending (ops : List MuxT.POp)
    (hop : (MuxT.runOpsP MuxT.PSt.init ops).t.opening = true) :
    (MuxT.runOpsP MuxT.PSt.init ops).t.openRes = .pending ∧
    (MuxT.runOpsP MuxT.PSt.init ops).t.cstate = .idle ∧
    (MuxT.runOpsP MuxT.PSt.init ops).t.pingWait = true :=
  (MuxT.invP_reachable ops).invO hop

/-- **after a race the transport is closed.**  The receive loop reads `rs` (any frames, any
    outcomes) without yielding, and in the same drain a failing next read of the receive loop, a
    failing write of the send loop or a `Close()` lands at any of the three positions (`hitOk`:
    the greenlet concerned exists).  Afterwards the transport reports `closed`, both loops, the
    ping loop and the ping helper are gone, no `_ProcessReply` greenlet is left, `_OpenImpl` is not
    waiting, tag map and send queue are empty; the fault signal was raised exactly once if the
    race contains a connection failure and not at all if its only event is the `Close()`; an open
    that was pending has failed, one that had completed is untouched.  In particular the
    `_OpenImpl` greenlet that the handshake's Rping woke just before the failure does not declare
    the transport Open (repair F16). -/
theorem C08_mux_race_closed_and_signalled (s : MuxT.St) (rs : List (IOOut × MuxT.Frame))
    (pos : MuxT.Pos) (x : MuxT.Hit) (hinv : MuxT.Inv s) (hrl : s.rl ≠ .dead)
    (hok : MuxT.hitOk s rs pos x = true) :
    (MuxT.stepOut s (.race rs pos x)).1.cstate = .closed ∧
    (MuxT.stepOut s (.race rs pos x)).2.eff.faults = (if MuxT.raceFails rs pos x then 1 else 0) ∧
    (MuxT.stepOut s (.race rs pos x)).1.sl = .dead ∧ (MuxT.stepOut s (.race rs pos x)).1.rl = .dead ∧
    (MuxT.stepOut s (.race rs pos x)).1.pingLoop = false ∧
    (MuxT.stepOut s (.race rs pos x)).1.pingWait = false ∧
    (MuxT.stepOut s (.race rs pos x)).1.opening = false ∧
    (MuxT.stepOut s (.race rs pos x)).1.hasOpenResult = false ∧
    (MuxT.stepOut s (.race rs pos x)).1.tagMap = [] ∧ (MuxT.stepOut s (.race rs pos x)).1.sendQ = [] ∧
    (MuxT.stepOut s (.race rs pos x)).1.pending = [] ∧
    (MuxT.stepOut s (.race rs pos x)).1.openRes = (if s.openRes = .pending then .failed else s.openRes) := by
  obtain ⟨s1, d, e, _⟩ := MuxT.race_shape s rs pos x hinv.1 hrl hok
  rw [show MuxT.stepOut s (.race rs pos x) = _ from e]
  exact ⟨rfl, rfl, rfl, rfl, rfl, rfl, rfl, rfl, rfl, rfl, rfl, rfl⟩

/-- **F16 at the level of the transport, with callers blocked on the open result.**  In every
    reachable state in which `_OpenImpl` waits for the handshake's Rping: whatever the receive loop
    reads in a drain (the Rping among the frames or not) and wherever in that drain a failing read,
    a failing write or a `Close()` lands — in particular after the Rping was dispatched and before
    `_OpenImpl` resumes —, the transport ends up `closed`, `Open()` has failed, the fault signal was
    raised once (not for a lone `Close()`), every caller blocked on the open result is handed the
    'Sink not open.' error and nothing else is handed to anybody, nobody stays blocked, and the next
    request is rejected on the spot and changes nothing.  The transport never reports `open`. -/
theorem C08_mux_race_during_handshake_fails_open (ops : List MuxT.POp) (rs : List (IOOut × MuxT.Frame))
    (pos : MuxT.Pos) (x : MuxT.Hit) (hop : (MuxT.runOpsP MuxT.PSt.init ops).t.opening = true)
    (hrl : (MuxT.runOpsP MuxT.PSt.init ops).t.rl ≠ .dead)
    (hok : MuxT.hitOk (MuxT.runOpsP MuxT.PSt.init ops).t rs pos x = true) :
    (MuxT.stepOutP (MuxT.runOpsP MuxT.PSt.init ops) (.tr (.race rs pos x))).1.t.cstate = .closed ∧
    (MuxT.stepOutP (MuxT.runOpsP MuxT.PSt.init ops) (.tr (.race rs pos x))).1.t.openRes = .failed ∧
    (MuxT.stepOutP (MuxT.runOpsP MuxT.PSt.init ops) (.tr (.race rs pos x))).2.eff.faults =
      (if MuxT.raceFails rs pos x then 1 else 0) ∧
    (MuxT.stepOutP (MuxT.runOpsP MuxT.PSt.init ops) (.tr (.race rs pos x))).2.eff.dels =
      (MuxT.runOpsP MuxT.PSt.init ops).parked.map (fun p => (p.1, Resp.other)) ∧
    (MuxT.stepOutP (MuxT.runOpsP MuxT.PSt.init ops) (.tr (.race rs pos x))).1.parked = [] ∧
    ∀ id tag,
      ((MuxT.stepOutP (MuxT.runOpsP MuxT.PSt.init ops) (.tr (.race rs pos x))).1.t.request id tag).1 =
        (MuxT.stepOutP (MuxT.runOpsP MuxT.PSt.init ops) (.tr (.race rs pos x))).1.t ∧
      ((MuxT.stepOutP (MuxT.runOpsP MuxT.PSt.init ops) (.tr (.race rs pos x))).1.t.request id tag).2.eff.dels =
        [(id, Resp.other)] := by
  have hi := MuxT.invP_reachable ops
  obtain ⟨e, c2⟩ := MuxT.race_handshake _ rs pos x hi.inv.1 hi.invO hop hrl hok
  simp only [MuxT.stepOutP]
  rw [show MuxT.stepOut (MuxT.runOpsP MuxT.PSt.init ops).t (.race rs pos x) = _ from e,
    MuxT.finish_closed _ _ _ _ rfl rfl]
  exact ⟨rfl, c2, rfl, rfl, rfl, fun id tag => by
    rw [MuxT.request_rejected _ id tag (by nofun) rfl]; exact ⟨rfl, rfl⟩⟩

/-- **each in-flight request is completed exactly once by a race, over whole histories.**  Whatever
    happened before and whatever happens afterwards: a request that is in the tag map when a race
    begins is handed a response in that very operation — its reply, if that was among the frames
    and was dispatched before the event (position `mid`), otherwise a `ClientError` — and that is
    the only response it is handed in the whole history. -/
theorem C08_mux_race_inflight_answered_exactly_once (pre : List MuxT.POp)
    (rs : List (IOOut × MuxT.Frame)) (pos : MuxT.Pos) (x : MuxT.Hit) (post : List MuxT.POp)
    (h : MuxT.pcomp.wf () (pre ++ .tr (.race rs pos x) :: post) = true) (tag id : Nat)
    (hin : (tag, id) ∈ (MuxT.runOpsP MuxT.PSt.init pre).t.tagMap) :
    (∃ r, (id, r) ∈ (MuxT.stepOutP (MuxT.runOpsP MuxT.PSt.init pre) (.tr (.race rs pos x))).2.eff.dels ∧
        (r = Resp.stream ∨ r = Resp.cerr)) ∧
    MuxT.responsesToP id (MuxT.pcomp.modelTrace () (pre ++ .tr (.race rs pos x) :: post)) = 1 := by
  obtain ⟨a, seen, hrel, hok⟩ :=
    MuxT.simP.split pre (.tr (.race rs pos x) :: post) MuxT.PSt.init {} [] MuxT.relP_init h
  simp only [MuxT.opsOkP, MuxT.enabledP, MuxT.enabled, Bool.and_eq_true, decide_eq_true_eq] at hok
  obtain ⟨r, hm, hr⟩ := MuxT.race_answers _ rs pos x hrel.2.core.inv hrel.2.core.tags hrel.2.core.ids hok.1.1.1
    hok.1.1.2 tag id hin
  have hmem : (id, r) ∈ (MuxT.stepOutP (MuxT.runOpsP MuxT.PSt.init pre) (.tr (.race rs pos x))).2.eff.dels :=
    MuxT.finish_dels_sub _ _ _ _ _ hm
  refine ⟨⟨r, hmem, hr⟩, ?_⟩
  exact MuxT.pcomp_exactly_once pre _ post h id r hmem

/-- **outside the opening handshake the position `mid` is nothing new**: whenever `_OpenImpl` is not
    waiting for the handshake's Rping, a race at `mid` is the `burst` of its reads followed by its
    event, as two operations one after the other would have it — a reply is delivered, then the
    rest of the tag map is failed; a periodic Rping only wakes the ping helper, which finds its
    ping answered. -/
theorem C08_mux_race_mid_sequential_outside_handshake (s : MuxT.St) (rs : List (IOOut × MuxT.Frame))
    (x : MuxT.Hit) (hno : s.opening = false) :
    (s.race rs .mid x).1 = ((s.burst rs).1.hit x).1 ∧
    (s.race rs .mid x).2.eff = MuxT.effApp (s.burst rs).2.eff ((s.burst rs).1.hit x).2 :=
  MuxT.race_mid_sequential s rs x (by rw [hno, Bool.and_false])

/-- **during the opening handshake the position of the event does not matter** (after repair
    F16): in every reachable state in which `_OpenImpl` waits for the handshake's Rping, whether
    the failing read, the failing write or the `Close()` runs before the `_ProcessReply` greenlet
    of the Rping or between it and the resumption of `_OpenImpl`, the operation ends in the same
    state with the same effects. -/
theorem C08_mux_race_handshake_position_irrelevant (ops : List MuxT.POp)
    (rs : List (IOOut × MuxT.Frame)) (x : MuxT.Hit)
    (hop : (MuxT.runOpsP MuxT.PSt.init ops).t.opening = true)
    (hrl : (MuxT.runOpsP MuxT.PSt.init ops).t.rl ≠ .dead)
    (hok : MuxT.hitOk (MuxT.runOpsP MuxT.PSt.init ops).t rs .mid x = true) :
    MuxT.stepOutP (MuxT.runOpsP MuxT.PSt.init ops) (.tr (.race rs .mid x)) =
      MuxT.stepOutP (MuxT.runOpsP MuxT.PSt.init ops) (.tr (.race rs .pre x)) := by
  have hi := MuxT.invP_reachable ops
  have hok' : MuxT.hitOk (MuxT.runOpsP MuxT.PSt.init ops).t rs .pre x = true := by
    cases x <;> exact hok
  obtain ⟨e1, _⟩ := MuxT.race_handshake _ rs .mid x hi.inv.1 hi.invO hop hrl hok
  obtain ⟨e2, _⟩ := MuxT.race_handshake _ rs .pre x hi.inv.1 hi.invO hop hrl hok'
  simp only [MuxT.stepOutP, MuxT.stepOut]
  rw [e1, e2, show MuxT.raceFails rs .mid x = MuxT.raceFails rs .pre x by cases x <;> rfl]

/-- **the code as found (before repair F16), counterexample.**  Tping written, the Rping is read
    and dispatched, the next read fails, `_OpenImpl` as it was resumes: the transport reports
    `open` after a connection failure whose fault signal was raised, with both loops dead.  The
    repaired model ends `closed` on the same input. -/
theorem C08_mux_race_as_found_counterexample :
    ((MuxT.runOps MuxT.St.init [.openT .ok, .wr .ok]).raceMidAsFound
        [(.ok, .junk), (.ok, .rping)] .rdRaise).1.cstate = .opened ∧
    ((MuxT.runOps MuxT.St.init [.openT .ok, .wr .ok]).raceMidAsFound
        [(.ok, .junk), (.ok, .rping)] .rdRaise).2.eff.faults = 1 ∧
    ((MuxT.runOps MuxT.St.init [.openT .ok, .wr .ok]).raceMidAsFound
        [(.ok, .junk), (.ok, .rping)] .rdRaise).1.rl = .dead ∧
    ((MuxT.runOps MuxT.St.init [.openT .ok, .wr .ok]).raceMidAsFound
        [(.ok, .junk), (.ok, .rping)] .rdRaise).1.sl = .dead ∧
    ((MuxT.runOps MuxT.St.init [.openT .ok, .wr .ok]).race
        [(.ok, .junk), (.ok, .rping)] .mid .rdRaise).1.cstate = .closed := by decide

/-- **a connection that is accepted and answered, reset or ended at once** (`openBurst`: the outcomes
    of the receive loop's first reads are there when it starts, before the send loop and the ping
    helper spawned by the same `_OpenImpl` have run) is the open followed by the burst: same state,
    same fault signals, same responses, one connect.  With `C08_mux_shutdown_fails_all_once` and
    `C08_mux_closed_and_signalled` (whose `connFailure` covers it): a reset right after the connect
    leaves the transport closed, the open failed and the fault signal raised once. -/
theorem C08_mux_open_burst_is_open_then_burst (s : MuxT.St) (rs : List (IOOut × MuxT.Frame)) :
    (MuxT.stepOut s (.openBurst rs)).1 = (MuxT.stepOut (MuxT.stepOut s (.openT .ok)).1 (.burst rs)).1 ∧
    (MuxT.stepOut s (.openBurst rs)).2.eff.faults =
      (MuxT.stepOut (MuxT.stepOut s (.openT .ok)).1 (.burst rs)).2.eff.faults ∧
    (MuxT.stepOut s (.openBurst rs)).2.eff.dels =
      (MuxT.stepOut (MuxT.stepOut s (.openT .ok)).1 (.burst rs)).2.eff.dels ∧
    (MuxT.stepOut s (.openBurst rs)).2.eff.conns = (MuxT.stepOut s (.openT .ok)).2.eff.conns :=
  ⟨rfl, rfl, rfl, rfl⟩

/-- **ThriftMux transport with the callers blocked on its open result, specification level.**  For
    every operation list of the component `muxt` satisfying its hypotheses — operations of the
    transport, connects that take time, requests handed to the transport while the open is
    pending, in any order — the history of the model satisfies the executable specification the
    harness evaluates on the implementation's observations; in particular every request owed a
    response when a connection failure is observed — in the tag map or blocked on the open
    result — is handed an error in that operation. -/
theorem C08_mux_model_satisfies_spec (ops : List MuxT.POp) (h : MuxT.pcomp.wf () ops = true) :
    MuxT.pcomp.spec () (MuxT.pcomp.modelTrace () ops) = .ok :=
  (MuxT.simP.run ops MuxT.PSt.init {} [] MuxT.relP_init h).1

/-- **C08, specification level, both components.**  For every operation list satisfying the
    hypotheses of its component, the history of the model satisfies the executable
    specification the harness evaluates on the implementation's observations. -/
theorem C08_model_satisfies_spec :
    (∀ ops, Serial.comp.wf () ops = true →
        Serial.comp.spec () (Serial.comp.modelTrace () ops) = .ok) ∧
    (∀ ops, MuxT.pcomp.wf () ops = true → MuxT.pcomp.spec () (MuxT.pcomp.modelTrace () ops) = .ok) :=
  ⟨C08_serial_model_satisfies_spec, C08_mux_model_satisfies_spec⟩

/-! ## non-vacuity: concrete instances of the hypotheses -/

section
open Scales.Serial
example : comp.wf () [.openT .ok, .req 1 .future, .io .ok, .timeoutHere .refuse, .openT .ok,
    .req 2 .none, .io .ok, .io .ok, .io .eof] = true := by decide
example : connFailure (runOps St.init [.openT .ok, .req 1 .future, .io .ok]) (.timeoutHere .refuse) = true := by
  decide
example : (stepOut (runOps St.init [.openT .ok, .req 1 .future, .io .ok]) (.timeoutHere .refuse)).2.eff
    = { faults := 1, dels := [(1, .timeout)], conns := 1 } := by decide
-- the re-connect as a yield point: a request and a Close() in the window, both ways it can end
example : comp.wf () [.openT .ok, .req 1 .future, .io .ok, .timeoutBlock, .look, .req 2 .none, .reconn .ok,
    .req 3 .none, .io .ok, .io .ok, .io .ok, .req 4 .pastBlock, .req 5 .future, .reconn .refuse, .openT .ok, .req 6 .future,
    .timeoutBlock, .close, .openT .ok] = true := by decide
example : (comp.modelTrace () [.openT .ok, .req 1 .future, .io .ok, .timeoutBlock, .req 2 .none, .reconn .ok]).map
    (fun p => (p.2.state, p.2.busy, p.2.dels, p.2.sock)) =
    [(.opened, false, [], true), (.opened, true, [], true), (.opened, true, [], true),
     (.opened, true, [], false), (.opened, true, [(2, .conc)], false),
     (.opened, false, [(1, .timeout)], true)] := by decide
example : ∃ t, (runOps St.init [.openT .ok, .req 1 .future, .io .ok, .timeoutBlock]).processing = some t ∧
    t.phase = .reconn := ⟨_, rfl, rfl⟩
example : connFailure (runOps St.init [.openT .ok, .req 1 .future, .io .ok, .timeoutBlock]) (.reconn .refuse) = true := by
  decide
end

section
open Scales.MuxT
example : comp.wf () [.openT .ok, .wr .ok, .rd .ok .junk, .rd .ok .rping, .req 1 2, .req 2 3, .wr .ok,
    .req 3 4, .rd .ok .junk, .rd .ok (.reply 2), .pingDue, .wr .ok, .pingSilence, .req 4 0] = true := by decide +kernel
example : (stepOut (runOps St.init [.openT .ok, .wr .ok, .rd .ok .junk, .rd .ok .rping, .req 1 2, .req 2 3,
    .wr .ok, .req 3 4]) (.rd .eof .junk)).2.eff
    = { faults := 1, dels := [(1, .cerr), (2, .cerr), (3, .cerr)] } := by decide +kernel
example : connFailure (runOps St.init [.openT .ok, .wr .ok, .rd .ok .junk, .rd .ok .rping, .req 1 2, .pingDue])
    .pingSilence = true := by decide +kernel
-- the reply to request 1 and the end of the stream arrive together: both requests get one error
example : comp.wf () [.openT .ok, .wr .ok, .rd .ok .junk, .rd .ok .rping, .req 1 2, .req 2 3, .wr .ok, .wr .ok,
    .burst [(.ok, .junk), (.ok, .reply 2), (.eof, .junk)], .look, .req 3 0] = true := by decide +kernel
example : (stepOut (runOps St.init [.openT .ok, .wr .ok, .rd .ok .junk, .rd .ok .rping, .req 1 2, .req 2 3,
    .wr .ok, .wr .ok]) (.burst [(.ok, .junk), (.ok, .reply 2), (.eof, .junk)])).2.eff
    = { faults := 1, dels := [(1, .cerr), (2, .cerr)] } := by decide +kernel
example : connFailure (runOps St.init [.openT .ok, .wr .ok, .rd .ok .junk, .rd .ok .rping, .req 1 2, .req 2 3,
    .wr .ok, .wr .ok]) (.burst [(.ok, .junk), (.ok, .reply 2), (.raise, .junk)]) = true := by decide +kernel
-- two replies in one burst without a fault: both are dispatched
example : (stepOut (runOps St.init [.openT .ok, .wr .ok, .rd .ok .junk, .rd .ok .rping, .req 1 2, .req 2 3,
    .wr .ok, .wr .ok]) (.burst [(.ok, .junk), (.ok, .reply 3), (.ok, .junk), (.ok, .reply 2)])).2.eff
    = { dels := [(2, .stream), (1, .stream)] } := by decide +kernel
-- the connection is accepted and reset at once
example : comp.wf () [.openBurst [(.raise, .junk)], .look, .req 1 0] = true := by decide +kernel
example : connFailure St.init (.openBurst [(.ok, .junk), (.ok, .rping), (.eof, .junk)]) = true := by decide +kernel
example : (comp.modelTrace () [.openBurst [(.raise, .junk)]]).map
    (fun p => (p.2.state, p.2.openRes, p.2.faults, p.2.conns)) = [(.closed, .failed, 1, 1)] := by decide +kernel
-- the handshake's Rping is dispatched, the next read fails, and only then does `_OpenImpl` resume
example : comp.wf () [.openT .ok, .wr .ok, .race [(.ok, .junk), (.ok, .rping)] .mid .rdRaise, .look, .req 1 0]
    = true := by decide +kernel
example : (comp.modelTrace () [.openT .ok, .wr .ok, .race [(.ok, .junk), (.ok, .rping)] .mid .rdRaise]).map
    (fun p => (p.2.state, p.2.openRes, p.2.faults)) =
    [(.idle, .pending, 0), (.idle, .pending, 0), (.closed, .failed, 1)] := by decide +kernel
example : (runOps St.init [.openT .ok, .wr .ok]).opening = true ∧
    hitOk (runOps St.init [.openT .ok, .wr .ok]) [(.ok, .junk), (.ok, .rping)] .mid .rdEof = true := by decide +kernel
-- the same frames without the failure open the transport
example : (runOps St.init [.openT .ok, .wr .ok, .burst [(.ok, .junk), (.ok, .rping)]]).cstate = .opened := by
  decide +kernel
-- a reply is dispatched, then the write of the next request fails: request 1 has its reply, request 2 the error
example : comp.wf () [.openT .ok, .wr .ok, .rd .ok .junk, .rd .ok .rping, .req 1 2, .wr .ok, .req 2 3,
    .race [(.ok, .junk), (.ok, .reply 2)] .mid .wr, .look] = true := by decide +kernel
example : (stepOut (runOps St.init [.openT .ok, .wr .ok, .rd .ok .junk, .rd .ok .rping, .req 1 2, .wr .ok,
    .req 2 3]) (.race [(.ok, .junk), (.ok, .reply 2)] .mid .wr)).2.eff
    = { faults := 1, dels := [(1, .stream), (2, .cerr)] } := by decide +kernel
-- the same with the failing write noticed before the reply is dispatched: both get the error
example : (stepOut (runOps St.init [.openT .ok, .wr .ok, .rd .ok .junk, .rd .ok .rping, .req 1 2, .wr .ok,
    .req 2 3]) (.race [(.ok, .junk), (.ok, .reply 2)] .pre .wr)).2.eff
    = { faults := 1, dels := [(1, .cerr), (2, .cerr)] } := by decide +kernel
-- the Rping of the opening handshake with the end of the stream right behind it: the open fails
example : (runOps St.init [.openT .ok, .wr .ok, .burst [(.ok, .junk), (.ok, .rping), (.eof, .junk)]]).cstate
    = .closed := by decide +kernel
-- every operation list of the transport alone is one of the combined component
example : pcomp.wf () ([.openT .ok, .wr .ok, .rd .ok .junk, .rd .ok .rping, .req 1 2, .req 2 3, .wr .ok,
    .req 3 4, .rd .ok .junk, .rd .ok (.reply 2), .pingDue, .wr .ok, .pingSilence, .req 4 0].map .tr) = true := by
  decide +kernel
-- requests handed to the transport while the connect is in progress and during the handshake; the peer hangs up
example : pcomp.wf () [.openStart, .park 1 2, .connected .ok [], .park 2 3, .tr (.wr .ok), .tr (.rd .eof .junk),
    .tr .look, .tr (.req 3 0)] = true := by decide +kernel
example : (pcomp.modelTrace () [.openStart, .park 1 2, .connected .ok [], .park 2 3, .tr (.wr .ok),
    .tr (.rd .eof .junk)]).map (fun p => (p.2.state, p.2.faults, p.2.dels, p.2.parked)) =
    [(.idle, 0, [], []), (.idle, 0, [], [1]), (.idle, 0, [], [1]), (.idle, 0, [], [1, 2]),
     (.idle, 0, [], [1, 2]), (.closed, 1, [(1, .other), (2, .other)], [])] := by decide +kernel
example : connFailureP (runOpsP PSt.init [.openStart, .park 1 2, .connected .ok [], .park 2 3, .tr (.wr .ok)])
    (.tr (.rd .eof .junk)) = true ∧
    (runOpsP PSt.init [.openStart, .park 1 2, .connected .ok [], .park 2 3, .tr (.wr .ok)]).inflight = [1, 2] := by
  decide +kernel
-- the connect that was in progress is refused
example : (pcomp.modelTrace () [.openStart, .park 1 2, .connected .refuse []]).map
    (fun p => (p.2.state, p.2.openRes, p.2.faults, p.2.dels)) =
    [(.idle, .pending, 0, []), (.idle, .pending, 0, []), (.closed, .failed, 1, [(1, .other)])] := by decide +kernel
example : connFailureP (runOpsP PSt.init [.openStart, .park 1 2]) (.connected .refuse []) = true := by decide +kernel
-- the open succeeds: the blocked callers go on in order; a reply read in the same burst as the Rping finds no tag
example : (pcomp.modelTrace () [.tr (.openT .ok), .park 1 2, .park 2 3, .tr (.wr .ok),
    .tr (.burst [(.ok, .junk), (.ok, .rping), (.ok, .junk), (.ok, .reply 2)]), .tr (.wr .ok), .tr (.wr .ok),
    .tr (.rd .ok .junk), .tr (.rd .ok (.reply 3)), .tr (.rd .raise .junk)]).map
    (fun p => (p.2.state, p.2.dels, p.2.inflight, p.2.parked)) =
    [(.idle, [], [], []), (.idle, [], [], [1]), (.idle, [], [], [1, 2]), (.idle, [], [], [1, 2]),
     (.opened, [], [1, 2], []), (.opened, [], [1, 2], []), (.opened, [], [1, 2], []),
     (.opened, [], [1, 2], []), (.opened, [(2, .stream)], [1], []), (.closed, [(1, .cerr)], [], [])] := by
  decide +kernel
example : (pcomp.modelTrace () [.tr (.openT .ok), .park 1 2, .park 2 3, .tr (.wr .ok),
    .tr (.burst [(.ok, .junk), (.ok, .rping), (.ok, .junk), (.ok, .reply 2)]), .tr (.wr .ok), .tr (.wr .ok)]).map
    (fun p => p.2.sent) = [[], [], [], [.ping], [], [.req 2 1], [.req 3 2]] := by decide +kernel
-- the handshake's Rping is dispatched, the write fails, and only then does `_OpenImpl` resume: the caller gets the error
example : pcomp.wf () [.tr (.openT .ok), .park 1 2, .tr (.race [(.ok, .junk), (.ok, .rping)] .mid .wr), .tr .look]
    = true := by decide +kernel
example : (stepOutP (runOpsP PSt.init [.tr (.openT .ok), .park 1 2])
    (.tr (.race [(.ok, .junk), (.ok, .rping)] .mid .wr))).2.eff = { faults := 1, dels := [(1, .other)] } := by decide +kernel
-- `Close()` while the connect is in progress; the connect then concludes on a transport that is shut down
example : pcomp.wf () [.openStart, .park 1 2, .tr .close, .connected .ok [], .tr (.req 2 0)] = true := by decide +kernel
example : (pcomp.modelTrace () [.openStart, .park 1 2, .tr .close, .connected .ok []]).map
    (fun p => (p.2.state, p.2.faults, p.2.dels, p.2.conns)) =
    [(.idle, 0, [], 0), (.idle, 0, [], 0), (.closed, 0, [(1, .other)], 0), (.closed, 0, [], 1)] := by decide +kernel
example : (runOpsP PSt.init [.tr (.openT .ok), .park 1 2]).parked = [(1, 2)] ∧
    (stepOutP (runOpsP PSt.init [.tr (.openT .ok), .park 1 2]) (.tr .pingSilence)).1.waiting = false ∧
    (stepOut (runOpsP PSt.init [.tr (.openT .ok), .park 1 2]).t .pingSilence).1.cstate ≠ .opened := by decide +kernel
end

end Scales.C08
