/-
  Props/C10.lean — property theorems for C10 (timer queue: once, never early, deadline order,
  cancel).  Model: Model/TimerQueue.lean; invariants and lemmas: Proofs/TimerQueueLemmas.lean,
  Proofs/TimerQueueWorker.lean; executable specification: Adapter/TimerQueue.lean.

  Quantification.  `c` is any configuration (resolution — 0 means none — and initial clock),
  `ls` any list of labels (Schedule calls with any deadline, cancel calls for any issued entry,
  clock advances of any size, and any scheduler choice `start / resumeSet / resumeTimeout /
  resumeSleep / idle`) every one of which is enabled when taken — that is the only hypothesis:
  `runLabels (initSt c) ls = some s`.  In particular `resumeTimeout` may be taken while the
  event is set (the time-out won the race against the notifier), Schedule may come with a past,
  equal or new-earliest deadline at any point, and the clock may pass a wake-up instant long
  before the worker is resumed.  No bound on lengths.

  `s.recs`, `s.cancels`, `s.ran` are the model's history of Schedule calls `(seq, d, ⌈d⌉)`,
  cancel calls `(seq, time)` and spawned actions `(seq, time)`; `s.out` lists the actions
  spawned during the last transition (newest first).  `C10_model_satisfies_spec` ties them to
  the monitor that the harness evaluates on the implementation's observations.
-/
import ScalesModel.Proofs.TimerQueueWorker
namespace Scales.TimerQ

/-- The worker invariant: the heap is sorted; (i) a worker in a timed wait whose event is clear
    waits for exactly the current head (a Schedule that becomes the head, or ties it, sets the
    event), and in any case for an instant not earlier than the head's deadline; (ii) a worker
    blocked on the empty queue with a clear event really has an empty queue; (iii) a set event
    comes with a non-empty queue — and past the `clear()` of an iteration, with at least two
    entries. -/
theorem C10_inv (c : Cfg) (ls : List Label) (s : St) (h : runLabels (initSt c) ls = some s) :
    s.queue.Pairwise Item.lt ∧
    (∀ dl pk, s.pc = .waiting dl pk → ∃ hd rest, s.queue = hd :: rest ∧ hd.deadline ≤ dl ∧
        (s.ev = false → hd.deadline = dl ∧ hd.seq = pk) ∧ (s.ev = true → rest ≠ [])) ∧
    (s.pc = .blockedEmpty → s.ev = false → s.queue = []) ∧
    (s.ev = true → s.queue ≠ []) ∧
    (s.pc = .sleeping0 → s.queue ≠ [] ∧ (s.ev = true → 2 ≤ s.queue.length)) := by
  have hi := reach_init_inv c ls s h
  have hp := hi.pc
  refine ⟨hi.core.sorted, fun dl pk hpc => ?_, fun hpc => (hp.of_pc hpc).2,
    hp.queue_ne_nil, fun hpc => hp.of_pc hpc⟩
  obtain ⟨hd, rest, h1, h2, h3, h4⟩ := hp.of_pc hpc
  exact ⟨hd, rest, h1, h3, h4, h2⟩

/-- The worker greenlet never evaluates `self._queue[0]` or `heappop` on an empty queue — the
    one way it could die and stop every timer. -/
theorem C10_worker_never_crashes (c : Cfg) (ls : List Label) (s : St)
    (h : runLabels (initSt c) ls = some s) : s.pc ≠ .crashed :=
  fun hc => (reach_init_inv c ls s h).pc.of_pc hc

/-- An action is spawned at most once, and only actions that were scheduled are spawned. -/
theorem C10_once (c : Cfg) (ls : List Label) (s : St) (h : runLabels (initSt c) ls = some s) :
    (s.ran.map (·.1)).Nodup ∧ ∀ p ∈ s.ran, ∃ r ∈ s.recs, r.seq = p.1 := by
  have hi := reach_init_inv c ls s h
  refine ⟨hi.core.ran_nodup, ?_⟩
  intro p hp
  obtain ⟨_, r, hr, h1, _⟩ := hi.core.ran_facts p hp
  exact ⟨r, hr, h1⟩

/-- An action runs at a clock not before its deadline — in fact not before its deadline rounded
    up to the resolution. -/
theorem C10_not_early (c : Cfg) (ls : List Label) (s : St) (h : runLabels (initSt c) ls = some s) :
    ∀ p ∈ s.ran, ∃ r ∈ s.recs, r.seq = p.1 ∧ r.rd = ceilTo c.res r.d ∧ r.d ≤ r.rd ∧ r.rd ≤ p.2 ∧
      p.2 ≤ s.now := by
  have hi := reach_init_inv c ls s h
  have hres : s.res = c.res := reach_init_res c ls s h
  intro p hp
  obtain ⟨h1, r, hr, h2, h3⟩ := hi.core.ran_facts p hp
  have h4 := hi.core.recs_rd r hr
  refine ⟨r, hr, h2, by rw [h4, hres], ?_, h3, h1⟩
  rw [h4]; exact le_ceilTo _ _

/-- No lost wake-up: in a state in which no scheduler label is enabled (the worker is blocked and
    neither its event nor its time-out can wake it — only a new Schedule/cancel/clock advance can
    change anything), every action that was not cancelled and whose rounded deadline the clock has
    reached has run.  With `C10_once`: exactly once, with no further scheduling activity. -/
theorem C10_no_lost_wakeup (c : Cfg) (ls : List Label) (s : St) (h : runLabels (initSt c) ls = some s)
    (hq : resumable s = false) :
    ∀ r ∈ s.recs, r.seq ∉ s.cancels.map (·.1) → r.rd ≤ s.now →
      ∃ t, (r.seq, t) ∈ s.ran ∧ r.rd ≤ t ∧ t ≤ s.now :=
  fun _ hr hnc hrd => (reach_init_inv c ls s h).no_lost_wakeup hq hr hnc hrd

/-- Order: consider any transition `s —l→ s'` of a reachable state and any action `k` spawned
    during it, `pre` being the actions spawned earlier in the same transition.  Every other
    action `r` that is pending at that moment (scheduled, not run before the transition nor in
    `pre`, no cancel call) has a larger `(⌈d⌉, seq)` than `k`. -/
theorem C10_order (c : Cfg) (ls : List Label) (s s' : St) (l : Label)
    (h : runLabels (initSt c) ls = some s) (hs : step s l = some s')
    (pre post : List Nat) (k : Nat) (hsplit : s'.out.reverse = pre ++ k :: post)
    (rk r : Rec) (hrk : rk ∈ s'.recs) (hk : rk.seq = k) (hr : r ∈ s'.recs) (hne : r.seq ≠ k)
    (hnotran : r.seq ∉ s.ran.map (·.1)) (hnotpre : r.seq ∉ pre)
    (hnc : r.seq ∉ s'.cancels.map (·.1)) :
    rk.rd < r.rd ∨ (rk.rd = r.rd ∧ rk.seq < r.seq) :=
  step_order (reach_init_inv c ls s h) hs hsplit hrk hk hr hne hnotran hnotpre hnc

/-- A cancel call made while the clock is below the action's rounded deadline is effective: the
    action never runs (it has not run before the call either). -/
theorem C10_cancel_effective (c : Cfg) (ls : List Label) (s : St) (h : runLabels (initSt c) ls = some s)
    (r : Rec) (hr : r ∈ s.recs) (tc : Nat) (hc : (r.seq, tc) ∈ s.cancels) (hlt : tc < r.rd) :
    r.seq ∉ s.ran.map (·.1) :=
  (reach_init_inv c ls s h).core.cancel_effective hr hc hlt

/-- Cancelling never affects any other action.  (Frame) in any reachable state a cancel call
    changes nothing but the `cancelled` flag of its own entry and the call history: heap order,
    event, worker position, clock, sequence counter and the run history are untouched and
    every other entry is kept as it is.  (Guarantee) whatever was cancelled along `ls`, and
    when, an action without a cancel call of its own is still queued with a clear flag or has
    run — exactly once, not before its rounded deadline — and it has run in every quiescent
    state whose clock has reached its rounded deadline. -/
theorem C10_cancel_noninterference (c : Cfg) (ls : List Label) (s : St)
    (h : runLabels (initSt c) ls = some s) :
    (∀ k, (cancel s k).queue.map (fun i => (i.deadline, i.seq)) = s.queue.map (fun i => (i.deadline, i.seq)) ∧
      (∀ i ∈ s.queue, i.seq ≠ k → i ∈ (cancel s k).queue) ∧
      (cancel s k).ev = s.ev ∧ (cancel s k).pc = s.pc ∧ (cancel s k).now = s.now ∧
      (cancel s k).seq = s.seq ∧ (cancel s k).ran = s.ran ∧ (cancel s k).recs = s.recs) ∧
    (∀ r ∈ s.recs, r.seq ∉ s.cancels.map (·.1) →
      ((∃ i ∈ s.queue, i.seq = r.seq ∧ i.deadline = r.rd ∧ i.cancelled = false) ∨
        ∃ t, (r.seq, t) ∈ s.ran ∧ r.rd ≤ t) ∧
      ((s.ran.map (·.1)).count r.seq ≤ 1) ∧
      (resumable s = false → r.rd ≤ s.now → ∃ t, (r.seq, t) ∈ s.ran ∧ r.rd ≤ t)) := by
  have hi := reach_init_inv c ls s h
  constructor
  · intro k
    refine ⟨?_, fun i hi' hne => ?_, rfl, rfl, rfl, rfl, rfl, rfl⟩
    · rw [cancel_queue_flag, List.map_map]; rfl
    · rw [cancel_queue_flag]
      exact List.mem_map.mpr ⟨i, hi', flag_of_ne hne⟩
  · intro r hr hnc
    refine ⟨(hi.core.rec_cases hr hnc).imp_right fun ⟨t, ht, hle, _⟩ => ⟨t, ht, hle⟩,
      List.nodup_iff_count_le_one.mp hi.core.ran_nodup _, fun hq hrd => ?_⟩
    obtain ⟨t, h1, h2, _⟩ := C10_no_lost_wakeup c ls s h hq r hr hnc hrd
    exact ⟨t, h1, h2⟩

/-- The history fields the theorems above talk about are exactly what the labels say: the clock
    is the initial clock plus the ticks, Schedule calls are numbered 1, 2, … in call order and
    recorded with their deadline and its rounding `ceilTo res d`, cancel calls are recorded with
    the clock at the call (`Acc.apply` is the monitor's reading of a label). -/
theorem C10_history_faithful (c : Cfg) (ls : List Label) (s : St) (h : runLabels (initSt c) ls = some s) :
    s.now = (ls.foldl (Acc.apply c.res) (Acc.init c)).clock ∧
    s.seq = (ls.foldl (Acc.apply c.res) (Acc.init c)).n ∧
    s.recs = (ls.foldl (Acc.apply c.res) (Acc.init c)).recs ∧
    s.cancels = (ls.foldl (Acc.apply c.res) (Acc.init c)).cancels :=
  have hf := (reach (Inv.init c.res c.now0) ls h).2.2
  ⟨congrArg Acc.clock hf, congrArg Acc.n hf, congrArg Acc.recs hf, congrArg Acc.cancels hf⟩

/-- Progress.  `idle` (quiescence) is enabled exactly when no scheduler label is; and from any
    reachable state at most `mu s ≤ 3·|queue| + 4` scheduler labels can be taken before the worker
    is quiescent again (every scheduler label decreases `mu`): the worker cannot spin, so under any
    scheduler that eventually resumes a resumable greenlet the quiescent states that
    `C10_no_lost_wakeup` speaks about are reached. -/
theorem C10_progress (c : Cfg) (ls : List Label) (s : St) (h : runLabels (initSt c) ls = some s) :
    (resumable s = true ↔ ∃ l, isSched l = true ∧ (step s l).isSome = true) ∧
    mu s ≤ 3 * s.queue.length + 4 ∧
    ∀ (ws : List Label) (s' : St), (∀ l ∈ ws, isSched l = true) → runLabels s ws = some s' →
      ws.length + mu s' ≤ mu s :=
  ⟨resumable_iff s, mu_le s, fun ws s' hws hr => mu_run ws s s' (reach_init_inv c ls s h) hws hr⟩

/-- The model's observations satisfy the executable specification that the harness evaluates on
    the implementation's observations, for every configuration and every enabled label list. -/
theorem C10_model_satisfies_spec (c : Cfg) (ops : List Op) (hwf : wf c ops = true) :
    spec c (comp.modelTrace c ops) = .ok :=
  trace_ok ops c (initSt c) (Inv.init c.res c.now0) hwf

/-! non-vacuity: concrete label lists satisfying the hypothesis, reaching the interesting states -/

/-- a new earliest deadline arrives while the worker sleeps; both run in deadline order -/
example : (runLabels (initSt ⟨10, 1000⟩) [.schedule 1015, .start, .resumeSleep, .schedule 1005, .resumeSet,
    .resumeSleep, .idle, .tick 10, .resumeTimeout, .idle, .tick 10, .resumeTimeout, .idle]).map
    (fun s => (s.ran, s.pc)) = some ([(1, 1020), (2, 1010)], .blockedEmpty) := by decide +kernel

/-- the time-out wins the race against the notifier: the worker pops an entry it did not peek -/
example : (runLabels (initSt ⟨10, 1000⟩) [.schedule 1020, .start, .resumeSleep, .tick 20, .schedule 1000,
    .resumeTimeout]).map (fun s => (s.ran, s.pc, s.ev, s.queue.length)) =
    some ([(2, 1020)], .sleeping0, false, 1) := by decide +kernel

/-- a head cancelled before its rounded deadline is dropped, the next entry is served -/
example : (runLabels (initSt ⟨10, 1000⟩) [.schedule 1010, .schedule 1020, .start, .resumeSleep, .cancel 1,
    .tick 10, .resumeTimeout, .idle, .tick 10, .resumeTimeout, .idle]).map (fun s => (s.ran, s.cancels)) =
    some ([(2, 1020)], [(1, 1000)]) := by decide +kernel

example : wf ⟨10, 1000⟩ [.schedule 1015, .start, .resumeSleep, .schedule 1005, .resumeSet] = true := by decide +kernel

end Scales.TimerQ
