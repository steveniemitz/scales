/-
  Props/C03.lean — the balancer sends each request to a least-loaded open member.

  Model: Model/Heap.lean (HeapBalancerSink).  The system
  invariant `Inv` (Proofs/HeapInv.lean: index agreement, heap order on loads, load accounting,
  down list, close discipline, membership) is preserved by every operation, for every legal
  `random.randint` draw; from it the choice made by `get` and the executable specification
  `specC03` follow.  Hypothesis throughout: fewer than 2^31−1 dispatches in the history.

  `ApertureBalancerSink` inherits `__Get`; its `_OnNodeDown` hook (called inside the mark-down loop) makes
  the aperture take in an idle endpoint: `_AddSink` appends a node and sifts it up.  The `C03_aperture_*`
  theorems decide the property on that balancer (and on the heap balancer behind base.py's gate): model
  Model/LBBase.lean over Model/Aperture.lean over Model/Heap.lean, invariant `HInv` (= `Inv` without the
  conjunct that ties `_servers` to the heap, which is false for an aperture), executable specification
  `specC03A` (Adapter/ApertureHeap.lean), component `aperture3`.  The hook runs after `Heap.FixDown`
  (`AS.getLoop`), i.e. on an ordered heap; that is what `C03_aperture_getLoop_ok` uses.
-/
import ScalesModel.Proofs.HeapSpec
import ScalesModel.Proofs.LBHeap
namespace Scales.Heap

theorem C03_inv_init : Inv HS.init := Inv_init

theorem C03_inv_join (s : HS) (ep : Nat) (h : Inv s) : Inv (s.join ep) := Inv_join s h ep

theorem C03_inv_leave (s : HS) (ep : Nat) (h : Inv s) : Inv (s.leave ep) := Inv_leave s h ep

/-- a dispatch keeps the invariant as long as the dispatch counter stays below 2^31−1 -/
theorem C03_inv_get (s : HS) (h : Inv s) (hb : s.reqs.length + 1 < 2147483647) : Inv (s.get noHook).1 :=
  Inv_get s h hb

/-- a completion keeps the invariant for every draw `j` the code may have made (1 ≤ j ≤ size
    whenever `__Put` takes the idle branch; `j` is ignored otherwise) -/
theorem C03_inv_put (s : HS) (r j : Nat) (h : Inv s)
    (hj : ∀ nid, s.reqs[r]? = some (nid, false) → s.putDraws nid = true → 1 ≤ j ∧ j ≤ s.size) :
    Inv (s.put r j) := Inv_put s h r j hj

theorem C03_inv_chan (s : HS) (nid st : Nat) (h : Inv s) : Inv (s.setChan nid st) := Inv_setChan s h nid st

/-- the invariant holds after every legal operation list with fewer than 2^31−1 dispatches -/
theorem C03_inv_reachable (ops : List Op) (hok : opsOk HS.init ops = true) (hb : getCount ops < 2147483647) :
    Inv (runOps HS.init ops) := (run_init ops hok hb).1

/-- the fuel given to the mark-down loop suffices: `__Get` returns through its regular exit, with
    the root of the heap, which is Open or marked down; the invariant holds again, and after the
    last scan no listed node is Open -/
theorem C03_getLoop_fuel_suffices (s : HS) (h : Inv s) (hsz : 1 ≤ s.size) :
    Inv (s.getLoop noHook (s.nodes.length + 1)).1 ∧
    (s.getLoop noHook (s.nodes.length + 1)).2 = (s.getLoop noHook (s.nodes.length + 1)).1.idAt 1 ∧
    (((s.getLoop noHook (s.nodes.length + 1)).1.node (s.getLoop noHook (s.nodes.length + 1)).2).chan = chOpen ∨
      ((s.getLoop noHook (s.nodes.length + 1)).1.node (s.getLoop noHook (s.nodes.length + 1)).2).load ≥ 0) ∧
    (∀ id ∈ (s.getLoop noHook (s.nodes.length + 1)).1.down,
      ((s.getLoop noHook (s.nodes.length + 1)).1.node id).chan ≠ chOpen) := by
  have gk := getLoop_ok s (.of_inv h) hsz
  exact ⟨gk.hinv.inv (gk.frame.srv h.srv), gk.top, gk.ok, gk.scanned⟩

/-- **least-loaded dispatch.**  `get` answers `noMembers` exactly when the heap is empty; otherwise
    it answers a node of the heap (with its endpoint and the next dispatch number), and if any heap
    node's channel is Open, the chosen node's channel is Open and its outstanding count is minimal
    among the heap nodes with an Open channel. -/
theorem C03_get_least_loaded (s : HS) (h : Inv s) :
    ((s.get noHook).2 = GetRes.noMembers ↔ s.size = 0) ∧
    (∀ id ep r, (s.get noHook).2 = GetRes.node id ep r →
      InHeap s id ∧ ep = (s.node id).ep ∧ r = s.reqs.length ∧
      ((∃ m, InHeap s m ∧ (s.node m).chan = chOpen) →
        (s.node id).chan = chOpen ∧
        ∀ m, InHeap s m → (s.node m).chan = chOpen → outOf s id ≤ outOf s m)) := by
  have e := get_eff s (.of_inv h)
  generalize (s.get noHook).1 = s' at e
  generalize (s.get noHook).2 = r at e ⊢
  cases e with
  | getNone hsz => exact ⟨⟨fun _ => hsz, fun _ => rfl⟩, fun id ep r hc => nomatch hc⟩
  | getNode gf =>
    refine ⟨⟨fun hc => (nomatch hc), fun hc => absurd hc (Nat.ne_of_gt gf.member.size_pos)⟩, ?_⟩
    intro id ep r hc
    obtain ⟨rfl, rfl, rfl⟩ := GetRes.node.inj hc
    exact ⟨gf.member, rfl, rfl, gf.least⟩

/-- **C03, specification level.**  For every legal operation list (`opsOk`: completions name
    existing dispatches, recorded draws are in range, channel flips name existing nodes) with
    fewer than 2^31−1 dispatches, the history of the model satisfies the executable
    specification `specC03`, the predicate the check evaluates on the implementation. -/
theorem C03_model_satisfies_spec (ops : List Op) (hok : opsOk HS.init ops = true)
    (hb : getCount ops < 2147483647) : specC03 () ((comp 3).modelTrace () ops) = Verdict.ok :=
  spec_ok 3 ops HS.init {} 0 Sim.init hok (init_bound hb)

/-- the same with the hypothesis predicate `wf` of the component, as the driver reports it -/
theorem C03_wf_model_satisfies_spec (ops : List Op) (h : (comp 3).wf () ops = true) :
    (comp 3).spec () ((comp 3).modelTrace () ops) = Verdict.ok :=
  C03_model_satisfies_spec ops ((wfOps_iff ops).mp h).1 ((wfOps_iff ops).mp h).2

/-! non-vacuity: the hypotheses hold on a concrete history with joins, a resurrection-free
    dispatch sequence, an idle completion with a drawn slot, and a removal -/
def c03Hist : List Op :=
  [.join 7, .join 8, .join 9, .chan 0 2, .chan 1 2, .get, .get, .put 0 2, .leave 8, .get, .put 1 0]

set_option maxRecDepth 8000 in
example : (comp 3).wf () c03Hist = true := by decide +kernel

example : Inv HS.init := C03_inv_init
example : ∃ s : HS, Inv s ∧ s.size = 1 := ⟨HS.init.join 7, C03_inv_join _ 7 C03_inv_init, by decide +kernel⟩

/-! ### the balancers that inherit `__Get`: aperture balancer, heap balancer behind base.py's gate -/

/-- the heap invariant holds after every legal operation list (`LB.wf`: protocol order, every recorded random
    choice legal) with fewer than 2^31−1 dispatches: joins, leaves, requests before and after the open
    result, completions, channel faults and recoveries, slow/failed opens, load-driven expansion and
    contraction, jitter rounds -/
theorem C03_aperture_inv_reachable (cfg : Scales.Aperture.Cfg) (ops : List Scales.LB.Op)
    (h : Scales.LB.wfH cfg ops = true) :
    HInv (Scales.LB.runSt cfg (Scales.LB.init cfg) ops).sub.hs := by
  obtain ⟨_, _, j⟩ := (Scales.LB.wfH_ok h).1
  exact j.hinv

/-- **the mark-down loop with the aperture's hook in it.**  From a state with the invariant and a non-empty
    heap, `__Get` leaves through its regular exit (the fuel `nodes + idle + 1` suffices: every round either
    uses up a candidate or an idle endpoint), the invariant holds again although the hook has appended nodes
    (it runs after `FixDown`, on an ordered heap), the chosen node is the root, which is Open or marked down,
    no listed node is Open, no node left the heap, and the nodes created on the way are Idle -/
theorem C03_aperture_getLoop_ok (cfg : Scales.Aperture.Cfg) (a : Scales.Aperture.AS)
    (inv : Scales.Aperture.PInv cfg a) (h : HInv a.hs) (hsz : 1 ≤ a.hs.size) :
    HInv (a.getLoop cfg (a.hs.nodes.length + a.idle.length + 1)).1.hs ∧
    (a.getLoop cfg (a.hs.nodes.length + a.idle.length + 1)).2 =
      (a.getLoop cfg (a.hs.nodes.length + a.idle.length + 1)).1.hs.idAt 1 ∧
    (((a.getLoop cfg (a.hs.nodes.length + a.idle.length + 1)).1.hs.node
        (a.getLoop cfg (a.hs.nodes.length + a.idle.length + 1)).2).chan = chOpen ∨
      ((a.getLoop cfg (a.hs.nodes.length + a.idle.length + 1)).1.hs.node
        (a.getLoop cfg (a.hs.nodes.length + a.idle.length + 1)).2).load ≥ 0) ∧
    (∀ id ∈ (a.getLoop cfg (a.hs.nodes.length + a.idle.length + 1)).1.hs.down,
      ((a.getLoop cfg (a.hs.nodes.length + a.idle.length + 1)).1.hs.node id).chan ≠ chOpen) ∧
    (∀ id, InHeap a.hs id → InHeap (a.getLoop cfg (a.hs.nodes.length + a.idle.length + 1)).1.hs id) ∧
    (∀ id, a.hs.nodes.length ≤ id → id < (a.getLoop cfg (a.hs.nodes.length + a.idle.length + 1)).1.hs.nodes.length →
      ((a.getLoop cfg (a.hs.nodes.length + a.idle.length + 1)).1.hs.node id).chan = 1) := by
  have gk := Scales.Aperture.getLoop_ok_of_get cfg inv h hsz
  exact ⟨gk.hinv, gk.top, gk.ok, gk.scanned, gk.frame.old, fun id => gk.frame.ch.new⟩

/-- **least-loaded dispatch on the aperture.**  `_AsyncProcessRequestImpl` answers `noMembers` exactly when
    the aperture is empty; otherwise it answers a node that is a member of the aperture it started with or was
    taken in on the way, and if any member it started with is Open, the chosen node is such a member, its
    channel is Open and its outstanding count is minimal among the Open members; the invariant holds again -/
theorem C03_aperture_get_least_loaded (cfg : Scales.Aperture.Cfg) (a : Scales.Aperture.AS)
    (inv : Scales.Aperture.PInv cfg a) (h : HInv a.hs) (hb : a.hs.reqs.length + 1 < 2147483647) :
    HInv (a.get cfg).1.hs ∧
    ((a.get cfg).2 = GetRes.noMembers ↔ a.hs.size = 0) ∧
    (∀ nid ep r, (a.get cfg).2 = GetRes.node nid ep r →
      (InHeap a.hs nid ∨ a.hs.nodes.length ≤ nid) ∧
      ((∃ m, InHeap a.hs m ∧ (a.hs.node m).chan = chOpen) →
        InHeap a.hs nid ∧ (a.hs.node nid).chan = chOpen ∧
        ∀ m, InHeap a.hs m → (a.hs.node m).chan = chOpen → outOf a.hs nid ≤ outOf a.hs m)) := by
  obtain ⟨k, g0, g1⟩ := Scales.Aperture.get_ok cfg inv h (fun _ => hb)
  exact ⟨k.hinv, g0, g1⟩

/-- **C03 on the aperture balancer, specification level.**  For every configuration (heap or aperture
    balancer, any min_size/max_size/load band, slow or immediate channel opens, any initial server set) and
    every operation list satisfying the component's hypothesis predicate `wfH` (= the hypotheses of C05/C06 and
    fewer than 2^31−1 dispatches), the history of the model satisfies the executable specification `specC03A`,
    the predicate `./check C03` evaluates on the real balancer's observations (component `aperture3`). -/
theorem C03_aperture_model_satisfies_spec (cfg : Scales.Aperture.Cfg) (ops : List Scales.LB.Op)
    (h : Scales.LB.comp3A.wf cfg ops = true) :
    Scales.LB.comp3A.spec cfg (Scales.LB.comp3A.modelTrace cfg ops) = Verdict.ok :=
  (Scales.LB.wfH_ok h).2.1

/-! non-vacuity: an aperture of min_size 2 over three members; one request outstanding on node 0; node 1 (the
    root) faults; the next request marks it down inside `__Get`, the hook takes in the idle endpoint 2 as node 2
    (appended and sifted up after `FixDown`), node 2 is not open yet and is marked down in the next round,
    the request goes to node 0; then a completion -/
def c03ApCfg : Scales.Aperture.Cfg := ⟨true, 2, 10, 1 / 2, 2, false, [0, 1, 2]⟩
def c03ApHist : List Scales.LB.Op :=
  [.opn, .loaded [0, 1, 2] ⟨[], []⟩, .chan 0 2, .chan 1 2, .get ⟨[], [⟨0, 0, 0⟩]⟩, .chan 1 4,
   .get ⟨[2], [⟨0, 0, 0⟩]⟩, .put 0 0 ⟨[], [⟨0, 0, 0⟩]⟩]

example : Scales.LB.comp3A.wf c03ApCfg c03ApHist = true := by decide +kernel
example : (Scales.LB.runSt c03ApCfg (Scales.LB.init c03ApCfg) c03ApHist).sub.hs.size = 3 ∧
    (Scales.LB.runSt c03ApCfg (Scales.LB.init c03ApCfg) c03ApHist).sub.hs.down = [2, 1] ∧
    (Scales.LB.runSt c03ApCfg (Scales.LB.init c03ApCfg) c03ApHist).sub.idle = [] := by decide +kernel

/-! "requests outstanding" does not include a request that completed before it was dispatched.  A request
    with a deadline waits for the open result, its deadline passes (`expire 0`: its caller has its
    TimeoutError); the observations say it was dispatched to node 0 all the same when the open result
    completed.  Nothing is outstanding on node 0: after one more request to node 1, a request that goes to
    node 1 again has not gone to a least-loaded open member.  The same observations are accepted when the
    deadline has not passed (one request outstanding on each node then). -/
def c03LateObs (res : List Scales.LB.ResV) (load0 load1 : Int) (queued : Nat) : Scales.LB.Obs :=
  { res := res, heap := if queued == 0 then [⟨0, 0, load0, 1, 0, 2⟩, ⟨1, 1, load1, 2, 0, 2⟩] else [], down := [],
    off := [], servers := [0, 1], idle := [], pending := [], initDone := queued == 0, blocked := 0,
    openAr := queued == 0, queued := queued, jitter := false, total := 0, adj := [], gActive := 0, gIdle := 0 }

def c03LateHist (expired : Bool) : List (Scales.LB.Op × Scales.LB.Obs) :=
  [(.opn, c03LateObs [] 0 0 1), (.getd ⟨[], []⟩, c03LateObs [.queued] 0 0 1)] ++
  (if expired then [(Scales.LB.Op.expire 0, c03LateObs [] 0 0 1)] else []) ++
  [(.loaded [0, 1] ⟨[], []⟩, c03LateObs [.node 0 0 0] (Idle + 1) Idle 0),
   (.chan 0 2, c03LateObs [] (Idle + 1) Idle 0), (.chan 1 2, c03LateObs [] (Idle + 1) Idle 0),
   (.get ⟨[], []⟩, c03LateObs [.node 1 1 1] (Idle + 1) (Idle + 1) 0),
   (.get ⟨[], []⟩, c03LateObs [.node 1 1 2] (Idle + 1) (Idle + 2) 0)]

example : Scales.LB.specC03A c03ApCfg (c03LateHist true) =
    .fail "not-least-loaded" [V.ofNat 7, V.ofNat 1, V.ofNat 1] := by rfl
example : Scales.LB.specC03A c03ApCfg (c03LateHist false) = .ok := by rfl

end Scales.Heap
