/-
  Props/C12.lean — timed-out calls are never transmitted afterwards; sent ones are discarded.

  The hops of the request path, each on its component model, for every state / history, in this
  order: the multiplexed transport (a request whose deadline event has fired is dropped by the
  send loop; one that was already written gets a Tdiscarded naming its tag — function level, then
  the histories `spec12` accepts), the front end (expired at dispatch → nothing goes below the
  timeout sink; the deadline event is raised when the timer fires), the serial transport (on the
  model of C08, with the proof that it satisfies the clauses of component `serial12`), the pool
  (C07's theorem), and the balancer — `LoadBalancerSink.AsyncProcessRequest`: a request that
  arrives before the open result is complete waits for it, and `_on_open_done` forwards it only if
  its deadline event is absent or not set — on the balancer model of C05/C06 (Model/LBBase.lean
  over Model/Aperture.lean, component `lbgate`, spec `LB.specGate`).  The assembled stacks are
  judged by the monitor `E2E.comp 12` (Adapter/E2E.lean).
-/
import ScalesModel.Adapter.TagPool
import ScalesModel.Adapter.FrontEnd
import ScalesModel.Proofs.TagPoolHistory
import ScalesModel.Adapter.SerialC12
import ScalesModel.Proofs.SerialLemmas
import ScalesModel.Props.C07
import ScalesModel.Proofs.LBGate
namespace Scales.C12

open Scales.TagPool in
/-- Send-queue hop: the send loop never writes a request whose deadline event has fired. -/
theorem C12_mux_drop_before_send (s : St) (t rid : Nat) (f : Frame)
    (hf : f ∈ (stepSend s).2.wrote) (hk : f.kind = .req) (harg : f.arg = rid) (_ht : f.tag = t) :
    ∃ r, s.reqs[rid]? = some r ∧ r.ev ≠ .fired := by
  obtain ⟨r, -, hr, hev, -⟩ := (stepSend_sent _).wrote_req hf hk
  exact ⟨r, harg ▸ hr, hev⟩

open Scales.TagPool in
/-- an event that has fired in `l` has fired in `l'` (the same as `TagPool.FiredKept`, which the
    proofs use) -/
def SameEv (l l' : List Req) : Prop :=
  ∀ (rid : Nat) (r : Req), l[rid]? = some r → r.ev = Ev.fired → ∃ r' : Req, l'[rid]? = some r' ∧ r'.ev = Ev.fired

open Scales.TagPool in
theorem SameEv.append (l x : List Req) : SameEv l (l ++ x) := FiredKept.append l x

open Scales.TagPool in
/-- the deadline event of a request stays fired (until the connection is replaced), on either
    transport -/
theorem C12_mux_fired_stays (fl : Flavour) (max : Nat) (s : St) (op : Op) (rid : Nat) (r : Req)
    (hop : op ≠ .reopen) (hr : s.reqs[rid]? = some r) (hfired : r.ev = .fired) :
    ∃ r', (stepOp fl max s op).1.reqs[rid]? = some r' ∧ r'.ev = .fired :=
  (stepOp_trans fl max s op).firedKept hop rid r hr hfired

open Scales.TagPool in
/-- On-the-wire hop: when the timeout notification of a request that was written (its tag is
    still in its properties) runs, a Tdiscarded naming exactly that tag is queued, and the send
    loop writes a queued Tdiscarded unconditionally. -/
theorem C12_mux_discard_after_send (s : St) (rid t : Nat) (r : Req)
    (hr : s.reqs[rid]? = some r) (hfired : r.ev = .fired) (hsub : r.sub = true) (hkey : r.key = .tag t) :
    (stepNotify s rid).1.sendq = s.sendq ++ [.discard t] ∧
    ∀ q (s' : St), s'.sendq = .discard t :: q → (stepSend s').2.wrote = [⟨.discard, 0, t⟩] := by
  constructor
  · simp [stepNotify, hr, hfired, hsub, hkey]
  · intro q s' hq
    simp [stepSend, hq]

/-! ### history level, multiplexed transport

  `cfg.max` is any pool size ≥ 2 and `ops` any sequence of atomic transport steps with `opsOk`
  (every label is one the code can take in its state) — requests, deadline events firing at any
  point, send-loop iterations, time-out callbacks, arbitrary peer frames, pings, re-opens.
  `comp.spec` (= `spec12`: the C11 and C02 clauses and the four C12 clauses) is the predicate the
  harness evaluates on the observations of the real `SocketTransportSink`.  Apart from
  `C12_mux_due_once` the theorems below hold of every history that `spec12` accepts
  (Proofs/TagPoolHistory: `no_write_of_fired`, `discard_written_of_due`, `discard_written_of_timed_out`,
  `discard_accounting`); they are stated for the model's. -/

open Scales.TagPool in
/-- **Specification level.**  The component's executable specification, C12 clauses included,
    holds of every history of the model. -/
theorem C12_mux_model_satisfies_spec (cfg : Cfg) (ops : List Op) (hc : cfgWF cfg = true)
    (ho : opsOk cfg (initSt cfg) ops = true) : comp.spec cfg (comp.modelTrace cfg ops) = .ok :=
  (accepts_iff ..).mpr (model_good cfg ops hc ho).1

open Scales.TagPool in
/-- **No transmission after the time-out.**  Once the deadline event of request `rid` has fired,
    no later step writes a request frame of `rid` (as long as the connection is not replaced,
    which starts the request numbering afresh). -/
theorem C12_mux_no_write_after_fire (cfg : Cfg) (ops : List Op) (hc : cfgWF cfg = true)
    (ho : opsOk cfg (initSt cfg) ops = true) (h1 h2 h3 : List (Op × Obs)) (rid : Nat) (o1 : Obs) (op : Op) (o : Obs)
    (htr : comp.modelTrace cfg ops = h1 ++ (.fire rid, o1) :: (h2 ++ (op, o) :: h3))
    (hno : ∀ p ∈ h2, p.1 ≠ .reopen) :
    ∀ f ∈ o.wrote, f.kind = .req → f.arg ≠ rid := by
  have hs := model_accepts hc ho htr
  exact no_write_of_fired (accepts_at hs).2 hno (List.mem_cons_self ..)

open Scales.TagPool in
/-- the same for a request whose deadline had already passed when it was handed to the transport
    (`req .pre`): it is the `nreq`-th request of the connection and is never written -/
theorem C12_mux_no_write_if_expired_at_issue (cfg : Cfg) (ops : List Op) (hc : cfgWF cfg = true)
    (ho : opsOk cfg (initSt cfg) ops = true) (h1 h2 h3 : List (Op × Obs)) (popped : Nat) (o1 : Obs) (op : Op) (o : Obs)
    (htr : comp.modelTrace cfg ops = h1 ++ (.req .pre popped, o1) :: (h2 ++ (op, o) :: h3))
    (hno : ∀ p ∈ h2, p.1 ≠ .reopen) :
    ∀ f ∈ o.wrote, f.kind = .req → f.arg ≠ (accAfter (Acc.init cfg) h1).nreq := by
  have hs := model_accepts hc ho htr
  exact no_write_of_fired (accepts_at hs).2 hno (List.mem_cons_self ..)

open Scales.TagPool in
/-- **A sent request that times out is discarded** (ThriftMux; Kafka has no discard message,
    there the tag simply stays leased — `C11_release_only_answered_or_unsent`).  Request `rid`'s frame was written with tag
    `t` and not answered since (`(t, rid) ∈ unansweredPairs cfg h1`); its time-out callback runs
    (`notify rid`, which requires the fired event); when afterwards, on the same connection, the
    send queue is found empty, a Tdiscarded naming `t` has been written in between. -/
theorem C12_mux_discard_written (cfg : Cfg) (ops : List Op) (hc : cfgWF cfg = true)
    (ho : opsOk cfg (initSt cfg) ops = true) (h1 h2 h3 : List (Op × Obs)) (rid t : Nat) (o1 : Obs) (op : Op) (o : Obs)
    (htr : comp.modelTrace cfg ops = h1 ++ (.notify rid, o1) :: (h2 ++ (op, o) :: h3))
    (hfl : cfg.fl = .thriftmux) (hw : (t, rid) ∈ unansweredPairs cfg h1)
    (hno : ∀ p ∈ h2, p.1 ≠ .reopen) (hop : op ≠ .reopen) (hdrain : o.qlen = 0) :
    ∃ p ∈ (Op.notify rid, o1) :: (h2 ++ [(op, o)]), ∃ f ∈ p.2.wrote, f.kind = .discard ∧ f.arg = t := by
  have hs := model_accepts hc ho htr
  obtain ⟨p, hp, hd⟩ := discard_written_of_due ((accepts_append ..).mp hs).2 hfl nofun hno hop hdrain
    (List.mem_append_right _ (mem_tagsOf.mpr hw))
  exact ⟨p, hp, mem_discTags.mp hd⟩

open Scales.TagPool in
/-- **Exactly one Tdiscarded becomes due per timed-out, written request.**  At the time-out
    callback of request `rid`, whose frame was written with tag `t` and is unanswered, the tags
    that become due are exactly `[t]`. -/
theorem C12_mux_due_once (cfg : Cfg) (ops : List Op) (hc : cfgWF cfg = true)
    (ho : opsOk cfg (initSt cfg) ops = true) (h1 h2 : List (Op × Obs)) (rid t : Nat) (o1 : Obs)
    (htr : comp.modelTrace cfg ops = h1 ++ (.notify rid, o1) :: h2)
    (hw : (t, rid) ∈ unansweredPairs cfg h1) :
    dueAdded (accAfter (Acc.init cfg) h1) (.notify rid) = [t] := by
  obtain ⟨s1, hinv⟩ := run_at cfg ops _ _ h1 _ (InvAll_init cfg hc) ho htr
  exact hinv.tagsOf_eq hw

open Scales.TagPool in
/-- **… and each is written once.**  Over any stretch of a model history without re-open, from
    any point on: the Tdiscarded frames written naming `t`, plus the entries for `t` still due at
    the end, are exactly the entries due at the start plus those that became due in between — no
    Tdiscarded is written that was not due, none is written twice, none is lost. -/
theorem C12_mux_discard_exactly_once (cfg : Cfg) (ops : List Op) (hc : cfgWF cfg = true)
    (ho : opsOk cfg (initSt cfg) ops = true) (hfl : cfg.fl = .thriftmux) (h1 h2 h3 : List (Op × Obs)) (t : Nat)
    (htr : comp.modelTrace cfg ops = h1 ++ h2 ++ h3) (hno : ∀ p ∈ h2, p.1 ≠ .reopen) :
    discardsWritten t h2 + (owedAfter cfg (h1 ++ h2)).count t
      = (owedAfter cfg h1).count t + madeDue t (accAfter (Acc.init cfg) h1) h2 := by
  have hs := model_accepts hc ho htr
  rw [owedAfter, accAfter_append]
  exact discard_accounting cfg hfl t h2 _ hno ((accepts_append ..).mp ((accepts_append ..).mp hs).1).2

/-! ### the write as a yield point

  `self._socket.write(payload)` is the one place inside an iteration of `_SendLoop` at which the
  greenlet can be parked (slow peer).  `wbegin` is the iteration up to the issue of a write call
  that blocks — from then on the frame counts as written, the peer may already hold a prefix of
  it — and `wend` is that call returning; every other step can happen in between.  The deadline
  subscription is made *before* the call is issued, so a deadline that expires while the call is
  blocked finds it: the caller gets its TimeoutError, the time-out callback queues a Tdiscarded
  behind the frame being written, and the send loop writes it once the write has returned. -/

open Scales.TagPool in
/-- Function level: when the send loop blocks in the write of a request frame, the loop is
    parked, and a request whose deadline is still pending is subscribed to its deadline event
    (`_HandleTimeout` ran before `write` was called). -/
theorem C12_mux_blocked_write_is_subscribed (s : St) (t rid : Nat)
    (hf : (⟨.req, t, rid⟩ : Frame) ∈ (stepWBegin s).2.wrote) :
    (stepWBegin s).1.writing = true ∧
    ∃ r, (stepWBegin s).1.reqs[rid]? = some r ∧ r.ev ≠ .fired ∧ (r.ev = .unfired → r.sub = true) := by
  revert hf
  fun_cases stepWBegin s
  · exact fun hf => nomatch hf
  · exact fun hf => nomatch hf
  · intro hf
    obtain ⟨-, r', -, -, hr', he, hs⟩ := (stepSend_sent _).wrote_req hf rfl
    exact ⟨rfl, r', hr', he, hs⟩

open Scales.TagPool in
/-- Function level: the deadline of a written request expires while the send loop is parked in a
    write (of this request's frame or of another one): the time-out callback queues a Tdiscarded
    naming the tag behind whatever waits, and the loop stays parked. -/
theorem C12_mux_expiry_during_write_queues_discard (s : St) (rid t : Nat) (r : Req) (hw : s.writing = true)
    (hr : s.reqs[rid]? = some r) (hfired : r.ev = .fired) (hsub : r.sub = true) (hkey : r.key = .tag t) :
    (stepNotify s rid).1.sendq = s.sendq ++ [.discard t] ∧ (stepNotify s rid).1.writing = true ∧
    (stepNotify s rid).2.res = .ok := by
  simp [stepNotify, hr, hfired, hsub, hkey, hw]

open Scales.TagPool in
/-- **A request that was written — or whose write was in progress — when its caller got
    TimeoutError is discarded** (ThriftMux), stated on what caller and peer see only.
    The write call for request `rid`'s frame with tag `t` was issued in step `opw` (an iteration
    that completed, `send`, or one that blocks, `wbegin`); later, on the same connection and
    with no frame of the peer on tag `t` in between, the deadline event of `rid` fires (`fire rid`:
    the caller is handed TimeoutError).  Then at the first moment afterwards at which nothing is
    runnable, the send queue is empty and no write is in progress (`quiet`), a Tdiscarded naming
    `t` has been written since the deadline fired — unless the peer answered `t` meanwhile. -/
theorem C12_mux_timed_out_written_is_discarded (cfg : Cfg) (ops : List Op) (hc : cfgWF cfg = true)
    (ho : opsOk cfg (initSt cfg) ops = true) (h1 h2 h3 h4 : List (Op × Obs)) (opw : Op) (ow : Obs) (rid t : Nat)
    (o2 o : Obs)
    (htr : comp.modelTrace cfg ops = h1 ++ (opw, ow) :: (h2 ++ (.fire rid, o2) :: (h3 ++ (.quiet, o) :: h4)))
    (hfl : cfg.fl = .thriftmux)
    (hw : (⟨.req, t, rid⟩ : Frame) ∈ ow.wrote) (hopw : opw ≠ .reopen)
    (hno : ∀ p ∈ h2 ++ (Op.fire rid, o2) :: h3, p.1 ≠ .reopen)
    (hna : ∀ p ∈ h2 ++ (Op.fire rid, o2) :: h3, ∀ m, p.1 ≠ .process m t)
    (hq : o.qlen = 0)
    (hidle : writeInProgress cfg (h1 ++ (opw, ow) :: (h2 ++ (Op.fire rid, o2) :: h3)) = false) :
    ∃ p ∈ (Op.fire rid, o2) :: h3, ∃ f ∈ p.2.wrote, f.kind = .discard ∧ f.arg = t := by
  have hs := model_accepts hc ho htr
  rw [writeInProgress, accAfter_append, accAfter_cons, accAfter_append, accAfter_cons] at hidle
  obtain ⟨p, hp, hd⟩ := discard_written_of_timed_out ((accepts_append ..).mp hs).2 hfl (mem_reqPairs hw rfl) hopw
    hno hna hq hidle
  exact ⟨p, hp, mem_discTags.mp hd⟩

open Scales.TagPool in
/-- **The deadline expires while the request's frame is being written.**  The send loop blocked
    in the write of request `rid`'s frame (`wbegin`), the write has not returned (`h2` contains no
    `wend`) when the deadline event of `rid` fires.  The write is indeed still in progress at that
    moment, and — the frame does go out — a Tdiscarded naming its tag has been written by the
    first idle moment after the write returned (same side conditions as above). -/
theorem C12_mux_timeout_during_write_is_discarded (cfg : Cfg) (ops : List Op) (hc : cfgWF cfg = true)
    (ho : opsOk cfg (initSt cfg) ops = true) (h1 h2 h3 h4 : List (Op × Obs)) (ow : Obs) (rid t : Nat) (o2 o : Obs)
    (htr : comp.modelTrace cfg ops = h1 ++ (.wbegin, ow) :: (h2 ++ (.fire rid, o2) :: (h3 ++ (.quiet, o) :: h4)))
    (hfl : cfg.fl = .thriftmux)
    (hw : (⟨.req, t, rid⟩ : Frame) ∈ ow.wrote)
    (hblocked : ∀ p ∈ h2, p.1 ≠ .wend)
    (hno : ∀ p ∈ h2 ++ (Op.fire rid, o2) :: h3, p.1 ≠ .reopen)
    (hna : ∀ p ∈ h2 ++ (Op.fire rid, o2) :: h3, ∀ m, p.1 ≠ .process m t)
    (hq : o.qlen = 0)
    (hidle : writeInProgress cfg (h1 ++ (Op.wbegin, ow) :: (h2 ++ (Op.fire rid, o2) :: h3)) = false) :
    writeInProgress cfg (h1 ++ (Op.wbegin, ow) :: h2) = true ∧
    ∃ p ∈ (Op.fire rid, o2) :: h3, ∃ f ∈ p.2.wrote, f.kind = .discard ∧ f.arg = t := by
  refine ⟨?_, C12_mux_timed_out_written_is_discarded cfg ops hc ho h1 h2 h3 h4 .wbegin ow rid t o2 o htr hfl hw
    nofun hno hna hq hidle⟩
  rw [writeInProgress, accAfter_append, accAfter_cons]
  exact inprog_persist h2 _ hblocked (fun p hp => hno p (List.mem_append_left _ hp)) rfl

open Scales.TagPool in
/-- non-vacuity: request 0 (with a deadline) blocks in its write, request 1 queues up behind it,
    the deadline fires while the write is blocked, the callback queues the Tdiscarded behind
    request 1, the write returns, request 1 and the Tdiscarded go out -/
example : comp.wf { max := 2 ^ 24 - 1, fl := .thriftmux }
    [.req .ev 0, .wbegin, .req .noev 0, .quiet, .fire 0, .notify 0, .quiet, .wend, .send, .send, .quiet] = true := by
  decide +kernel

open Scales.TagPool in
example : (comp.modelTrace { max := 2 ^ 24 - 1, fl := .thriftmux }
    [.req .ev 0, .wbegin, .req .noev 0, .quiet, .fire 0, .notify 0, .quiet, .wend, .send, .send, .quiet]).map
      (fun p => (p.2.wrote, p.2.qlen)) =
    [([], 1), ([⟨.req, 2, 0⟩], 0), ([], 1), ([], 1), ([], 1), ([], 2), ([], 2), ([], 2),
     ([⟨.req, 3, 1⟩], 1), ([⟨.discard, 0, 2⟩], 0), ([], 0)] := by
  decide +kernel

open Scales.TagPool in
/-- the same on Kafka: `_OnTimeout` is a no-op, nothing is queued, the tag stays leased -/
example : (comp.modelTrace { max := 2 ^ 24 - 1, fl := .kafka }
    [.req .ev 0, .wbegin, .fire 0, .notify 0, .quiet, .wend, .quiet]).map (fun p => (p.2.wrote, p.2.qlen, p.2.tagmap)) =
    [([], 1, [2]), ([⟨.req, 2, 0⟩], 0, [2]), ([], 0, [2]), ([], 0, [2]), ([], 0, [2]), ([], 0, [2]), ([], 0, [2])] := by
  decide +kernel

open Scales.TagPool in
/-- an aged connection (high-water mark 0x010203, tags 2, 258 and 65538 released — they differ in one
    tag byte only): the three requests hold them together, the one holding 65538 times out on the
    wire, the Tdiscarded names exactly 65538; a request past its deadline on issue gives 258 back unsent -/
example : (comp.modelTrace { max := 2 ^ 24 - 1, fl := .thriftmux, next := 0x010203, free := [2, 258, 65538] }
    [.req .noev 2, .req .ev 65538, .req .pre 258, .send, .send, .send, .quiet, .fire 1, .notify 1, .send, .quiet]).map
      (fun p => (p.2.wrote, p.2.tagmap, p.2.free)) =
    [([], [2], [258, 65538]), ([], [2, 65538], [258]), ([], [2, 258, 65538], []),
     ([⟨.req, 2, 0⟩], [2, 258, 65538], []), ([⟨.req, 65538, 1⟩], [2, 258, 65538], []), ([], [2, 65538], [258]),
     ([], [2, 65538], [258]), ([], [2, 65538], [258]), ([], [2, 65538], [258]),
     ([⟨.discard, 0, 65538⟩], [2, 65538], [258]), ([], [2, 65538], [258])] := by
  decide +kernel

open Scales.TagPool in
example : comp.wf { max := 2 ^ 24 - 1, fl := .thriftmux, next := 0x010203, free := [2, 258, 65538] }
    [.req .noev 2, .req .ev 65538, .req .pre 258, .send, .send, .send, .quiet, .fire 1, .notify 1, .send, .quiet] = true := by
  decide +kernel

open Scales.TagPool in
/-- what a transport that subscribes to the deadline event only *after* `write` returned shows
    (seeded/C12-mux-watch-after-write): the deadline fires during the blocked write, no callback
    ever runs, the frame goes out, no Tdiscarded follows — the specification rejects the history at
    the first idle moment after the write -/
theorem C12_mux_watch_after_write_rejected :
    spec12 { max := 2 ^ 24 - 1, fl := .thriftmux }
      [(.req .ev 0, ⟨.ok, 2, [], [], [2], [], 2, 1⟩),
       (.wbegin, ⟨.ok, 0, [⟨.req, 2, 0⟩], [], [2], [], 2, 0⟩),
       (.fire 0, ⟨.ok, 0, [], [], [2], [], 2, 0⟩),
       (.quiet, ⟨.ok, 0, [], [], [2], [], 2, 0⟩),
       (.wend, ⟨.ok, 0, [], [], [2], [], 2, 0⟩),
       (.quiet, ⟨.ok, 0, [], [], [2], [], 2, 0⟩)]
      = .fail "timeout-not-discarded" [V.ofNat 5, V.ofNats [2]] := by
  rfl

open Scales.FrontEnd in
/-- Dispatch hop: a call whose deadline has passed when it is dispatched gets TimeoutError at
    once and its request is never handed to the sink below the timeout sink. -/
theorem C12_frontend_refuses_expired (cl : Call) (now : Nat) (g : Option Nat) (hp : cl.phase = .waitOpen g)
    (hT : cl.T ≠ 0) (hd : cl.issueT + cl.T < now) (hl : cl.lowerGot = false) :
    (cl.dispatch now).lowerGot = false ∧ (cl.dispatch now).sets = cl.sets ++ [(now, .timeout)] := by
  simp [Call.dispatch, hp, hT, hd, hl]

open Scales.FrontEnd in
/-- the timer action of a dispatched call raises the call's deadline event before anything else,
    so every hop below that looks at the event afterwards sees it set -/
theorem C12_frontend_timer_raises_event (cl : Call) (now : Nat) (hd : ∀ g, cl.phase ≠ .waitOpen g) :
    (cl.fire now).evtSet = true := by
  cases hp : cl.phase with
  | waitOpen g => exact absurd hp (hd g)
  | live d => cases d <;> simp only [Call.fire, hp]
  | over e => cases e <;> simp only [Call.fire, hp]

open Scales.FrontEnd in
/-- Dispatch hop, call issued while the client is still opening: when the dispatcher's own timer
    times the call out, the call is over; the open result completing later does not dispatch it —
    its request is never handed to the sink below, and its result is not touched again. -/
theorem C12_frontend_timed_out_while_opening_never_dispatched (cl : Call) (due t now : Nat)
    (hp : cl.phase = .waitOpen (some due)) (hl : cl.lowerGot = false) :
    ((cl.fire t).dispatch now).lowerGot = false ∧
    ((cl.fire t).dispatch now).sets = cl.sets ++ [(t, .timeout)] := by
  simp [Call.fire, Call.dispatch, hp, hl]

open Scales.Serial Scales.Transport in
/-- Serial transport hop (pre-write check): a request whose deadline has already passed when the
    transaction starts is answered with TimeoutError, nothing is written, and the transaction is
    gone (so no later I/O step can write it). -/
theorem C12_serial_expired_not_written (s : Serial.St) (id : Nat) (r : Conn) (hp : s.processing = none) :
    (s.request id (.past r)).2.sent = [] ∧ (s.request id (.past r)).1.processing = none ∧
    (id, Resp.timeout) ∈ (s.request id (.past r)).2.eff.dels := by
  have h := txnTimeout_ends { s with processing := some ⟨id, true, .write⟩ } id r
  unfold Serial.St.request
  rw [hp]
  exact ⟨rfl, h.1, h.2 ▸ List.mem_singleton_self _⟩

open Scales.Serial Scales.Transport in
/-- Serial transport hop (in flight): when the transaction's timeout fires (and the re-connect of
    the handler concludes at once), the transaction is gone; a step of the transport can put a
    frame on the wire only for the transaction in flight, so nothing of that request is written
    afterwards. -/
theorem C12_serial_timeout_ends_transaction (s : Serial.St) (r : Conn) (t : Txn)
    (hp : s.processing = some t) (hd : t.hasDl = true) (hph : t.phase ≠ .reconn) :
    (s.timeoutHere r).1.processing = none ∧ (s.timeoutHere r).2.sent = [] ∧
    (∀ o, ((s.timeoutHere r).1.io o).2.sent = []) := by
  have hb : (t.hasDl && t.phase != .reconn) = true := by simp [hd, hph]
  have h1 : (s.timeoutHere r).1.processing = none := by
    unfold Serial.St.timeoutHere
    simp only [hp, hb, if_true]
    exact (txnTimeout_ends s t.id r).1
  refine ⟨h1, ?_, ?_⟩
  · unfold Serial.St.timeoutHere; simp [hp, hb]
  · intro o; unfold Serial.St.io; simp [h1]

open Scales.Serial Scales.Transport in
/-- Serial transport hop, the re-connect of the time-out handler takes time: from the moment the
    transaction's deadline has passed (its timeout fired, or it was expired at the pre-write
    check) it is blocked in the re-connect, and whatever happens then — I/O outcomes, further
    requests, the re-connect concluding either way, `Close()` — no frame is written, and the
    transaction is either still blocked there or gone.  (So the request handed its TimeoutError
    when the re-connect concludes has not been written meanwhile, and is not afterwards.) -/
theorem C12_serial_reconnecting_never_writes (s : Serial.St) (t : Txn) (op : Serial.Op)
    (hp : s.processing = some t) (hph : t.phase = .reconn) :
    (Serial.stepOut s op).2.sent = [] ∧
    ((Serial.stepOut s op).1.processing = none ∨ (Serial.stepOut s op).1.processing = some t) :=
  (hp ▸ Serial.tstep s op).in_reconn hph

open Scales.Serial Scales.Transport in
/-- the two ways into that state write nothing either: the timeout firing with a re-connect that
    takes time, and a request already expired at the pre-write check -/
theorem C12_serial_timeout_block_not_written (s : Serial.St) (id : Nat) :
    (s.timeoutBlock).2.sent = [] ∧ (s.request id .pastBlock).2.sent = [] ∧
    (∀ t', (s.timeoutBlock).1.processing = some t' → s.processing ≠ some t' → t'.phase = .reconn) ∧
    (∀ t', s.processing = none → (s.request id .pastBlock).1.processing = some t' → t'.phase = .reconn) := by
  have h1 := (Serial.tstep s .timeoutBlock).enters_reconn (.inl rfl)
  have h2 := (Serial.tstep s (.req id .pastBlock)).enters_reconn (.inr ⟨id, rfl⟩)
  exact ⟨h1.1, h2.1, h1.2, fun t' hp ht' => h2.2 t' ht' (hp ▸ nofun)⟩

open Scales.Serial in
/-- a frame reaches the peer only in an `io ok` step of a transaction blocked in its write -/
theorem C12_serial_writes_only_in_flight (s : Serial.St) (o : Transport.IOOut) (id : Nat)
    (h : id ∈ (s.io o).2.sent) : ∃ t, s.processing = some t ∧ t.id = id ∧ t.phase = .write :=
  (Serial.tstep s (.io o)).sent_in_write h

open Scales.Watermark in
/-- Pool hop: a waiter that completed (timed out) while queued is skipped by the hand-off and
    the connection goes to the oldest waiter that is still pending — C07's theorem, restated
    here because it is the pool's part of this property. -/
theorem C12_pool_skips_timed_out (cfg : Watermark.Cfg) (ops : List Watermark.Op) (sid c : Nat)
    (rest w1 w2 : List Nat)
    (ht : (runOps cfg Watermark.St.init ops).tasks = sid :: rest)
    (hw : (runOps cfg Watermark.St.init ops).waiters = w1 ++ c :: w2)
    (hgone : ∀ x ∈ w1, (runOps cfg Watermark.St.init ops).base.calls[x]? ≠ some .pending)
    (hc : (runOps cfg Watermark.St.init ops).base.calls[c]? = some .pending) :
    -- only the pending waiter `c` is handed the connection: no request of a completed waiter
    -- is started
    (Watermark.step cfg (runOps cfg Watermark.St.init ops) .run).2.evs = [.sent sid c] :=
  (C07_timed_out_waiter_skipped cfg ops sid c rest w1 w2 ht hw hgone hc).1

namespace SerialSpec
open Scales.Serial Scales.Transport

theorem mem_timeoutsIn {id : Nat} {dels : List (Nat × Resp)} :
    id ∈ SerialC12.timeoutsIn dels ↔ (id, Resp.timeout) ∈ dels := by
  simp [SerialC12.timeoutsIn]

theorem isReq_of_mem_expiredOf {op : Serial.Op} {id : Nat} (h : id ∈ SerialC12.expiredOf op) :
    Serial.isReq op = some id := by
  cases op with
  | req id' dl =>
    cases dl with
    | past r => cases List.mem_singleton.mp h; rfl
    | pastBlock => cases List.mem_singleton.mp h; rfl
    | _ => cases h
  | _ => cases h

/-- what the accumulator of the specification (`SerialC12.Acc`) and the model's state have to do with
    each other; `seen` are the request ids issued so far -/
structure Rel (s : Serial.St) (a : SerialC12.Acc) (seen : List Nat) : Prop where
  timedOut_seen : ∀ id ∈ a.timedOut, id ∈ seen
  -- a transaction that can still write (it is not blocked in the re-connect) is not recorded as timed out
  inflight : ∀ t, s.processing = some t → t.id ∈ seen ∧ (t.phase ≠ .reconn → t.id ∉ a.timedOut)

variable {s : Serial.St} {a : SerialC12.Acc} {seen : List Nat} {op : Serial.Op}

/-- a frame is only written for the transaction in flight blocked in its write: it is not recorded as
    timed out, and it is not the request this very operation issues, whose id is fresh -/
theorem specObs_ok (hrel : Rel s a seen) (hen : Serial.enabled s seen op = true) :
    SerialC12.specObs a op (Serial.obsOf (Serial.stepOut s op).1 (Serial.stepOut s op).2) = .ok := by
  have hstep := Serial.tstep s op
  have hnew : ∀ id, Serial.isReq op = some id →
      ¬ id ∈ (Serial.obsOf (Serial.stepOut s op).1 (Serial.stepOut s op).2).sent := by
    intro id hreq hid
    obtain ⟨t, ht, rfl, _⟩ := hstep.sent_in_write hid
    exact Serial.enabled_fresh hen hreq (hrel.inflight t ht).1
  have h1 : (Serial.obsOf (Serial.stepOut s op).1 (Serial.stepOut s op).2).sent.find?
      (fun id => a.timedOut.contains id) = none := by
    rw [List.find?_eq_none]
    intro id hid
    obtain ⟨t, ht, rfl, hph⟩ := hstep.sent_in_write hid
    simpa using (hrel.inflight t ht).2 (hph ▸ nofun)
  unfold SerialC12.specObs
  rw [h1]
  cases op with
  | req id dl =>
    cases dl with
    | past r => simp [hnew id rfl]
    | pastBlock => simp [hnew id rfl]
    | none => rfl
    | future => rfl
  | _ => rfl

theorem Rel_step (hrel : Rel s a seen) (hen : Serial.enabled s seen op = true) :
    Rel (Serial.stepOut s op).1 (a.after op (Serial.obsOf (Serial.stepOut s op).1 (Serial.stepOut s op).2))
      (Serial.seenAfter op seen) := by
  have hstep := Serial.tstep s op
  constructor
  · intro id hid
    simp only [SerialC12.Acc.after, List.mem_append] at hid
    rcases hid with (hid | hid) | hid
    · exact Serial.mem_seenAfter_of_mem (hrel.timedOut_seen id hid)
    · exact Serial.mem_seenAfter_of_req (isReq_of_mem_expiredOf hid)
    · obtain ⟨_, _, _, hr⟩ | ⟨_, ⟨t, ht, rfl, _⟩ | ⟨_, hreq, _⟩⟩ := hstep.handed (mem_timeoutsIn.mp hid)
      · cases hr
      · exact Serial.mem_seenAfter_of_mem (hrel.inflight t ht).1
      · exact Serial.mem_seenAfter_of_req hreq
  · intro t' ht'
    -- a transaction is in flight afterwards, so this operation handed out no TimeoutError
    have hto : SerialC12.timeoutsIn (Serial.obsOf (Serial.stepOut s op).1 (Serial.stepOut s op).2).dels = [] :=
      List.eq_nil_iff_forall_not_mem.mpr fun id hid => by
        obtain ⟨_, _, _, hr⟩ | ⟨hn, _⟩ := hstep.handed (mem_timeoutsIn.mp hid)
        · cases hr
        · rw [hn] at ht'; cases ht'
    simp only [SerialC12.Acc.after, hto, List.append_nil]
    rcases hstep.origin ht' with ⟨t, ht, hte, hphase⟩ | ⟨dl, rfl, -, hexpd⟩
    · obtain ⟨h1, h2⟩ := hrel.inflight t ht
      rw [← hte]
      refine ⟨Serial.mem_seenAfter_of_mem h1, fun hph hin => ?_⟩
      rcases List.mem_append.mp hin with hin | hin
      · exact h2 (hphase hph) hin
      · exact Serial.enabled_fresh hen (isReq_of_mem_expiredOf hin) h1
    · refine ⟨Serial.mem_seenAfter_of_req rfl, fun hph hin => ?_⟩
      rcases List.mem_append.mp hin with hin | hin
      · exact Serial.enabled_fresh hen rfl (hrel.timedOut_seen _ hin)
      · -- an expired request is answered at once or blocked in the re-connect: it is not a
        -- transaction that can still write
        obtain rfl | rfl | hre := hexpd
        · cases hin
        · cases hin
        · exact hph hre

theorem specGo_ok : ∀ (ops : List Serial.Op) (s : Serial.St) (a : SerialC12.Acc) (seen : List Nat),
    Rel s a seen → Serial.opsOk s seen ops = true →
    SerialC12.specGo a (SerialC12.comp.trace () s ops) = .ok := by
  intro ops
  induction ops with
  | nil => intros; rfl
  | cons op ops ih =>
    intro s a seen hrel hok
    obtain ⟨hen, hrest⟩ := Serial.opsOk_cons.mp hok
    rw [Serial.trace_cons SerialC12.comp, SerialC12.specGo]
    exact Verdict.and_ok (specObs_ok hrel hen) (ih _ _ _ (Rel_step hrel hen) hrest)

end SerialSpec

open SerialSpec in
/-- the serial transport model satisfies the C12 clauses evaluated by component `serial12` on
    every legal operation list (request ids fresh): no frame of a request is written once it has
    been handed TimeoutError; a request already expired at the pre-write check is never written -/
theorem C12_serial_model_satisfies_spec (ops : List Serial.Op) (h : Serial.opsOk Serial.St.init [] ops = true) :
    SerialC12.spec () (SerialC12.comp.modelTrace () ops) = .ok :=
  specGo_ok ops Serial.St.init {} [] ⟨nofun, nofun⟩ h

/-! ### balancer hop: the gate in front of the open result

  `LB.Cfg.aperture = false` is the `HeapBalancerSink`, `true` the `ApertureBalancerSink`.  A history is
  the model's trace for an operation list; `get`/`getd` issue a request without / with a deadline
  event, `expire k` sets the event of the `k`-th waiting request (its caller has its TimeoutError).
  `LB.specGateGo` rebuilds the queue of waiting requests from the history and judges the observation
  in which the open result completed: its results, oldest first, are what became of them. -/

open Scales.LBBase in
/-- Function level, any subclass: requests whose deadline event is set leave no trace — serving a
    queue does to the balancer exactly what serving its live requests alone does. -/
theorem C12_gate_dropped_leave_no_trace {σ ρ : Type} (S : Sub σ ρ) (q : List (Option Bool)) (s : σ) :
    (flush S q s).1 = (flush S (q.filter live) s).1 ∧
    (flush S q s).2.filterMap id = (flush S (q.filter live) s).2.filterMap id :=
  flush_eq_filter_live S q s

open Scales.LB Scales.LBBase in
/-- Function level, both balancers: when the open result completes there is one result per waiting
    request, oldest first; a request whose deadline event is set is dropped, every other one is
    forwarded (to a member or to the no-members sink), and the forwarded ones receive growing
    dispatch numbers, i.e. they are forwarded in arrival order. -/
theorem C12_gate_flush (cfg : Aperture.Cfg) (q : List (Option Bool)) (a : Aperture.AS) :
    dropOk q ((flush (sub cfg) q a).2.map ResV.ofFlush) = true ∧
    liveOk q ((flush (sub cfg) q a).2.map ResV.ofFlush) = true ∧
    increasing (dispatchIds ((flush (sub cfg) q a).2.map ResV.ofFlush)) = true := by
  obtain ⟨h1, h2, h3⟩ := flush_gate cfg q a
  exact ⟨h1, h2, h3.increasing⟩

open Scales.LB in
/-- **History level, both balancers: a waiting request whose deadline event was set before the open
    result completed is never forwarded** — in the observation in which the open result completes
    its entry is `dropped` (no dispatch to any member, no answer from the balancer), and the
    balancer keeps no record of it afterwards.  Holds for every configuration and every operation
    list (`wf` is not even needed). -/
theorem C12_gate_drops_timed_out (cfg : Aperture.Cfg) (ops : List Scales.LB.Op) (_hwf : Scales.LB.wf cfg ops = true) :
    specGateDrop cfg (compGate.modelTrace cfg ops) = .ok :=
  specGate_trace cfg 1 ops (Scales.LB.init cfg) 0 (GInv.init cfg)

open Scales.LB in
/-- **History level, both balancers: a waiting request whose deadline event is absent or not set is
    forwarded exactly once, in arrival order** — one result per waiting request, a dispatch for
    every live one, dispatch numbers growing along the queue. -/
theorem C12_gate_forwards_live (cfg : Aperture.Cfg) (ops : List Scales.LB.Op) (_hwf : Scales.LB.wf cfg ops = true) :
    specGateLive cfg (compGate.modelTrace cfg ops) = .ok :=
  specGate_trace cfg 2 ops (Scales.LB.init cfg) 0 (GInv.init cfg)

open Scales.LB in
/-- the model satisfies the specification the harness evaluates on the real balancers (component `lbgate`) -/
theorem C12_gate_model_satisfies_spec (cfg : Aperture.Cfg) (ops : List Scales.LB.Op) (_hwf : Scales.LB.wf cfg ops = true) :
    specGate cfg (compGate.modelTrace cfg ops) = .ok :=
  specGate_trace cfg 0 ops (Scales.LB.init cfg) 0 (GInv.init cfg)

end Scales.C12
