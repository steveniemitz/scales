/-
  Props/C06.lean — the aperture keeps a partitioned, bounded, load-tracking active subset.

  Model: Model/Aperture.lean (`_idle_endpoints`, `_pending_endpoints`, `_AddSink`, `_RemoveSink`,
  `_TryExpandAperture`, `_ContractAperture`, `_OnNodeDown`, `_Jitter`, `_AdjustAperture`) over
  Model/Heap.lean, stepped by Adapter/LB.lean; Model/Ema.lean for the smoothing.
  `(runSt cfg (init cfg) ops).sub` is the balancer after the operation list `ops`; `heapEps` the endpoints
  of its heap nodes (the active set), `idle` the idle set, `hs.servers` the keys of `_servers` (the
  members), `hs.size` the aperture size.

  Quantification: every configuration (min_size, max_size, min_load, max_load, initial members), every
  operation list satisfying `wf` (LB.wf): traffic, time (through the EMA inputs: every sequence of wall-clock
  readings, forwards or backwards, and every decay weight `exp` can return for the resulting time deltas),
  member failures, joins/leaves, slow and failing opens, jitter rounds, every legal random choice.
  `wf6` = `wf` and every recorded result of the float arithmetic that is not modelled (`math.exp`, the
  multiply-add of `Ema.Update`) is one exact arithmetic allows (`recLegal`).
-/
import ScalesModel.Proofs.LBSpec
import ScalesModel.Proofs.ApertureSettle
import ScalesModel.Proofs.EmaLemmas
namespace Scales.LB
open Scales.Heap Scales.Aperture Scales.LBBase

/-- **Partition.**  After every operation every member is in exactly one of the active and the idle
    set: the two lists together have no duplicates and hold exactly the members. -/
theorem C06_partition (cfg : Cfg) (ops : List Op) (hwf : wf cfg ops = true) :
    (heapEps (runSt cfg (init cfg) ops).sub.hs ++ (runSt cfg (init cfg) ops).sub.idle).Nodup ∧
    (runSt cfg (init cfg) ops).sub.hs.servers.Nodup ∧
    ∀ x, x ∈ (runSt cfg (init cfg) ops).sub.hs.servers ↔
      (x ∈ heapEps (runSt cfg (init cfg) ops).sub.hs ∨ x ∈ (runSt cfg (init cfg) ops).sub.idle) := by
  obtain ⟨_, h, _⟩ := run_RInv cfg ops _ _ (RInv.init cfg) (wf_proto hwf)
  refine ⟨h.full.inv.nodup, h.full.snodup, fun x => ?_⟩
  rw [← h.full.part x]; unfold E; exact List.mem_append

/-- **Lower bound.**  After every operation at least `min(min_size, members)` members are active. -/
theorem C06_lower_bound (cfg : Cfg) (ops : List Op) (hwf : wf cfg ops = true) :
    min cfg.minSize (runSt cfg (init cfg) ops).sub.hs.servers.length ≤ (runSt cfg (init cfg) ops).sub.hs.size := by
  obtain ⟨_, h, _⟩ := run_RInv cfg ops _ _ (RInv.init cfg) (wf_proto hwf)
  exact h.full.lower_bound

/-- **The decision table of `_AdjustAperture`, stated outright.**  In any state satisfying the
    invariant `PInv` (`WF` of the heap; active and idle endpoints pairwise distinct — it holds after every
    operation of every run, see `C06_invariant_every_run`), with `load` the smoothed outstanding count
    per active member (`max_load` when nothing is active): the call grows the aperture by one idle
    endpoint iff `load ≥ max_load`, an idle endpoint exists and `size < max_size` (`AS.growCond`);
    otherwise it shrinks it by one iff `load ≤ min_load`, `size > min_size`, no open is pending and
    more than `min_size` active members are healthy (`AS.shrinkCond`); otherwise it leaves both sets
    alone. -/
theorem C06_adjust_decision (cfg : Cfg) (a : AS) (inv : PInv cfg a) (hap : cfg.aperture = true) (amount : Int)
    (i : AdjIn) (rest : List AdjIn) (missing : Bool) :
    (a.growCond cfg i.avg →
      (a.adjustWith cfg amount i rest missing).hs.size = a.hs.size + 1 ∧
      (a.adjustWith cfg amount i rest missing).idle.length + 1 = a.idle.length) ∧
    (¬ a.growCond cfg i.avg → a.shrinkCond cfg i.avg →
      (a.adjustWith cfg amount i rest missing).hs.size + 1 = a.hs.size ∧
      (a.adjustWith cfg amount i rest missing).idle.length = a.idle.length + 1) ∧
    (¬ a.growCond cfg i.avg → ¬ a.shrinkCond cfg i.avg →
      (a.adjustWith cfg amount i rest missing).hs.size = a.hs.size ∧
      (a.adjustWith cfg amount i rest missing).idle.length = a.idle.length) := by
  -- the sample moves neither set and the log is not one of them: the table is that of the branch taken
  have h := (adjusted_spec cfg (a := sampled a amount i rest missing) ⟨inv.wf, inv.nodup, inv.kind⟩ hap i.avg).2
  rw [adjustWith_eq]
  generalize adjusted cfg (sampled a amount i rest missing) i.avg = a2 at h ⊢
  exact h

/-- the invariant assumed by `C06_adjust_decision` and `C06_load_growth_le_max` holds after every
    operation of every run (inside an operation `Moves.stable` and the `_spec` lemmas of Proofs/ApertureInv.lean carry it
    through each function of the model) -/
theorem C06_invariant_every_run (cfg : Cfg) (ops : List Op) (hwf : wf cfg ops = true) :
    PInv cfg (runSt cfg (init cfg) ops).sub := by
  obtain ⟨_, h, _⟩ := run_RInv cfg ops _ _ (RInv.init cfg) (wf_proto hwf)
  exact h.full.inv

/-- **Load-driven growth stays within `max_size`.**  A call of `_AdjustAperture` that enlarges the
    aperture leaves it no larger than `max_size`. -/
theorem C06_load_growth_le_max (cfg : Cfg) (a : AS) (inv : PInv cfg a) (hap : cfg.aperture = true) (amount : Int)
    (i : AdjIn) (rest : List AdjIn) (missing : Bool)
    (hg : a.hs.size < (a.adjustWith cfg amount i rest missing).hs.size) :
    (a.adjustWith cfg amount i rest missing).hs.size ≤ cfg.maxSize := by
  obtain ⟨d1, d2, d3⟩ := C06_adjust_decision cfg a inv hap amount i rest missing
  by_cases hgrow : cfg.maxLoad ≤ apLoad cfg a.hs.size i.avg ∧ a.idle ≠ [] ∧ a.hs.size < cfg.maxSize
  · have := (d1 hgrow).1; omega
  · by_cases hs : apLoad cfg a.hs.size i.avg ≤ cfg.minLoad ∧ cfg.minSize < a.hs.size ∧ a.pending = [] ∧
        cfg.minSize < a.numHealthy
    · have := (d2 hgrow hs).1; omega
    · have := (d3 hgrow hs).1; omega

/-- **Every `_AdjustAperture` call of every run followed the table** (as recorded in the log of the
    operation it belongs to): growth only within `max_size`, growth exactly under the growth
    condition, shrinking exactly under the shrink condition, no other size change. -/
theorem C06_adjust_decision_logged (cfg : Cfg) (ops : List Op) (hwf : wf cfg ops = true) :
    ∀ r ∈ (runSt cfg (init cfg) ops).sub.adjLog,
      (r.size' = r.size + 1 → r.size' ≤ cfg.maxSize) ∧
      (tableExpand cfg r = true → r.size' = r.size + 1) ∧
      (tableExpand cfg r = false → tableContract cfg r = true → r.size' + 1 = r.size) ∧
      (tableExpand cfg r = false → tableContract cfg r = false → r.size' = r.size) := by
  obtain ⟨_, h, _⟩ := run_RInv cfg ops _ _ (RInv.init cfg) (wf_proto hwf)
  intro r hr
  obtain ⟨h1, h2, h3, h4, _⟩ := h.full.log r hr
  exact ⟨h1, h2, h3, h4⟩

/-- **Load-tracking: `_total` is the number of outstanding requests.**  After every operation of every
    run the aperture's `_total` equals the number of dispatches that have not completed (entries of
    the dispatch table whose `put_called` flag is still false): `_OnGet` counts every dispatch once,
    `_OnPut` every first completion once — also when the node has meanwhile left the heap (member
    left, contraction, jitter).  The plain heap balancer keeps no total.  Needs no hypothesis. -/
theorem C06_total_is_sum (cfg : Cfg) (ops : List Op) :
    (runSt cfg (init cfg) ops).sub.total =
      if cfg.aperture then (((flagsOf (runSt cfg (init cfg) ops).sub.hs).count false : Nat) : Int) else 0 :=
  run_TInv cfg ops _ (TInv.init cfg)

/-- **The clock of the EMA never steps back.**  `MonoClock.Sample()` returns the later of its last value and
    the wall-clock reading: whatever the wall clock reads — also a reading earlier than every reading before
    it (NTP step, VM resume) — the sampled time is not earlier than the last sampled time, and it is the
    reading itself whenever the reading is later. -/
theorem C06_clock_never_steps_back (last now : Rat) :
    MonoClock.sample last now = max last now ∧ last ≤ MonoClock.sample last now ∧
      (last < now → MonoClock.sample last now = now) := by
  refine ⟨MonoClock.sample_eq_max last now, MonoClock.le_sample last now, fun h => ?_⟩
  rw [MonoClock.sample_eq_max, max_eq_right (le_of_lt h)]

/-- **Sampled times never decrease, whatever the wall clock does.**  For every sequence of wall-clock
    readings (no assumption on their order) the times returned by successive `Sample()` calls are sorted,
    and none is earlier than the clock's starting value. -/
theorem C06_sampled_times_monotone (last : Rat) (readings : List Rat) :
    (MonoClock.samples last readings).Pairwise (· ≤ ·) ∧ ∀ t ∈ MonoClock.samples last readings, last ≤ t :=
  ⟨(MonoClock.samples_sorted readings last).2, (MonoClock.samples_sorted readings last).1⟩

/-- **One `_AdjustAperture` call moves the clock to the later of its value and the reading** (`i.now`, any
    rational: the wall clock may have stepped back), never backwards — whichever branch (grow, shrink,
    stay) the call takes. -/
theorem C06_adjust_clock (cfg : Cfg) (a : AS) (amount : Int) (i : AdjIn) (rest : List AdjIn) (missing : Bool) :
    (a.adjustWith cfg amount i rest missing).clock = max a.clock i.now ∧
    a.clock ≤ (a.adjustWith cfg amount i rest missing).clock := by
  have h : (a.adjustWith cfg amount i rest missing).clock = MonoClock.sample a.clock i.now :=
    (adjustWith_book cfg a amount i rest missing).2.1
  rw [h]
  exact ⟨MonoClock.sample_eq_max _ _, MonoClock.le_sample _ _⟩

/-- **Every time delta of every run is legal.**  In every run — every wall-clock reading on the tape
    arbitrary, in particular earlier than the one before — every `Ema.Update` of every `_AdjustAperture`
    call of every operation saw a time delta `≥ 0`. -/
theorem C06_time_delta_nonneg (cfg : Cfg) (ops : List Op) (hwf : wf cfg ops = true) :
    ∀ q ∈ comp6.modelTrace cfg ops, ∀ r ∈ q.2.adj, 0 ≤ r.dt :=
  fun q hq r hr => (trace_adjGood cfg ops _ _ (RInv.init cfg) (wf_proto hwf) q hq r hr).2.2.2.2

/-- **Consequently every decay weight lies in [0, 1] and the load is smoothed, not extrapolated.**  If the
    recorded weights are values `exp(-dt/window)` can take for the time deltas of the run and the recorded
    results agree with exact arithmetic up to rounding (`wf6`), then in every `_AdjustAperture` call of every
    operation the decay weight (when one is used: not for the first sample) lies in [0, 1] and the smoothed
    load the decision is taken on lies between the previous smoothed load and the current number of
    outstanding requests (`emaBetween`, up to the relative rounding slack 1e-9). -/
theorem C06_weights_in_unit_interval (cfg : Cfg) (ops : List Op) (hwf : wf6 cfg ops = true) :
    ∀ q ∈ comp6.modelTrace cfg ops, ∀ r ∈ q.2.adj,
      (r.prev.isSome = true → 0 ≤ r.w ∧ r.w ≤ 1) ∧ emaBetween r = true :=
  fun q hq r hr =>
    recLegal_smooth (C06_time_delta_nonneg cfg ops (wf6_wf hwf) q hq r hr)
      (trace_legal cfg ops _ (wf6_legal hwf) q hq r hr)

/-- a weight `exp` can return for a time delta `≥ 0` lies in [0, 1] (the only fact about `exp` used) -/
theorem C06_legal_weight_unit (dt w : Rat) (h : Ema.weightLegal dt w = true) (hdt : 0 ≤ dt) : 0 ≤ w ∧ w ≤ 1 :=
  Ema.weightLegal_unit h hdt

/-- **EMA.**  With a decay weight in [0,1] each update lies between the previous value and the sample. -/
theorem C06_ema_between (w prev sample : Rat) (h0 : 0 ≤ w) (h1 : w ≤ 1) :
    min prev sample ≤ Ema.update (some prev) w sample ∧ Ema.update (some prev) w sample ≤ max prev sample :=
  Ema.step_between w prev sample h0 h1

/-- **EMA, constant sample.**  If every decay weight lies in `[0, w]` the distance to the sample shrinks
    at least geometrically: after `k` updates it is at most `w^k` times the initial distance. -/
theorem C06_ema_converges (ws : List Rat) (w v x : Rat) (h : ∀ u ∈ ws, 0 ≤ u ∧ u ≤ w) :
    |Ema.iter v x ws - x| ≤ w ^ ws.length * |v - x| :=
  Ema.iter_converges ws w v x h

/-- one `_AdjustAperture` call with every active member healthy and no open pending is one step of
    the size dynamics `sizeStep` on (active size, idle count) -/
theorem C06_adjust_is_sizeStep (cfg : Cfg) (a : AS) (inv : PInv cfg a) (hap : cfg.aperture = true) (amount : Int)
    (i : AdjIn) (rest : List AdjIn) (missing : Bool) (hp : a.pending = []) (hh : a.numHealthy = a.hs.size) :
    ((a.adjustWith cfg amount i rest missing).hs.size, (a.adjustWith cfg amount i rest missing).idle.length)
      = sizeStep cfg i.avg (a.hs.size, a.idle.length) := by
  obtain ⟨d1, d2, d3⟩ := C06_adjust_decision cfg a inv hap amount i rest missing
  have hg : a.growCond cfg i.avg ↔ expandCond cfg i.avg (a.hs.size, a.idle.length) := by
    unfold AS.growCond expandCond; rw [List.length_pos_iff]
  have hs : a.shrinkCond cfg i.avg ↔ contractCond cfg i.avg (a.hs.size, a.idle.length) := by
    unfold AS.shrinkCond contractCond; rw [hp, hh]
    exact ⟨fun h => ⟨h.1, h.2.1⟩, fun h => ⟨h.1, h.2, rfl, h.2⟩⟩
  by_cases he : expandCond cfg i.avg (a.hs.size, a.idle.length)
  · obtain ⟨x, y⟩ := d1 (hg.2 he)
    rw [sizeStep_expand he, x, ← y]; rfl
  · by_cases hc : contractCond cfg i.avg (a.hs.size, a.idle.length)
    · obtain ⟨x, y⟩ := d2 (mt hg.1 he) (hs.2 hc)
      rw [sizeStep_contract he hc, y, ← x]; rfl
    · obtain ⟨x, y⟩ := d3 (mt hg.1 he) (mt hs.1 hc)
      rw [sizeStep_fix cfg _ _ he hc, x, y]

/-- **Settles (partial).**  Constant smoothed outstanding count `n` (the EMA at its limit), all members
    healthy, `min_size ≥ 1`, `0 ≤ min_load`, `2·min_load < max_load`: from any (size, idle) repeated
    adjustment reaches, within `size + idle` (= members) steps, a state that further adjustment leaves
    alone, and there the load is strictly inside the band or the size is pinned: at most `min_size`, at
    least `max_size`, or no idle member is left. -/
theorem C06_settles_partial (cfg : Cfg) (n : Rat) (hm : 1 ≤ cfg.minSize) (h0 : 0 ≤ cfg.minLoad)
    (hb : 2 * cfg.minLoad < cfg.maxLoad) (s : Nat × Nat) :
    ∃ k, k ≤ s.1 + s.2 ∧
      sizeStep cfg n ((sizeStep cfg n)^[k] s) = (sizeStep cfg n)^[k] s ∧
      ((cfg.minLoad < apLoad cfg ((sizeStep cfg n)^[k] s).1 n ∧ apLoad cfg ((sizeStep cfg n)^[k] s).1 n < cfg.maxLoad) ∨
        ((sizeStep cfg n)^[k] s).1 ≤ cfg.minSize ∨ cfg.maxSize ≤ ((sizeStep cfg n)^[k] s).1 ∨
        ((sizeStep cfg n)^[k] s).2 = 0) := by
  obtain ⟨k, hk, hfix⟩ := settles cfg n hm h0 hb s
  exact ⟨k, hk, hfix, fix_pinned cfg n _ hfix⟩

/-- **The band condition is needed.**  With `min_load = max_load = 1` (min_size 1, max_size 4), two
    active members, one idle and a constant load of two requests, adjustment alternates between sizes
    2 and 3 for ever: no number of steps reaches a state that adjustment leaves alone. -/
theorem C06_oscillation_counterexample :
    ∀ k, sizeStep oscCfg 2 ((sizeStep oscCfg 2)^[k] (2, 1)) ≠ (sizeStep oscCfg 2)^[k] (2, 1) :=
  osc_never_settles

/-- **`min_size ≥ 1` is needed.**  With `min_size = 0` (band [1/2, 2], max_size 4) and no traffic the size
    dynamics alternate between 0 and 1 active members for ever.  (The implementation does not even
    get that far: with nothing active a request is answered `NoMembersError` before
    `_AdjustAperture` is reached, so a balancer configured with `min_size = 0` keeps every member idle —
    see corpus/C06/min-size-zero-never-activates.json.) -/
theorem C06_min_size_zero_counterexample :
    ∀ k, sizeStep oscCfg0 0 ((sizeStep oscCfg0 0)^[k] (0, 1)) ≠ (sizeStep oscCfg0 0)^[k] (0, 1) :=
  osc0_never_settles

/-- **The smoothed load is this balancer's own.**  Take the `_AdjustAperture` records of a whole run of the
    model, in call order (`adjRecords`: the records of the first operation, then those of the second, …).  The
    Ema held no sample before the first record (`prev = none`), and before every later record it held exactly
    the value the record before it left (`prev = some avg` of the predecessor): nothing but this balancer's own
    samples moves its smoothed load — whatever the traffic, the clock, the membership changes, the opens and
    the jitter rounds in between.  The value held after the run is the one the last record left. -/
theorem C06_smoothed_load_is_own (cfg : Cfg) (ops : List Op) (hwf : wf cfg ops = true) :
    (∀ r rest, adjRecords (comp6.modelTrace cfg ops) = r :: rest → r.prev = none) ∧
    (∀ pre r r' post, adjRecords (comp6.modelTrace cfg ops) = pre ++ r :: r' :: post → r'.prev = some r.avg) ∧
    (runSt cfg (init cfg) ops).sub.ema = heldAfter none (adjRecords (comp6.modelTrace cfg ops)) := by
  obtain ⟨h1, h2⟩ := trace_own cfg ops { ref := cfg.initial } (init cfg) (fun _ => rfl) (wf_proto hwf)
  have h1' : chainB none (adjRecords (comp6.modelTrace cfg ops)) = true := h1
  refine ⟨fun r rest e => ?_, fun pre r r' post e => ?_, h2⟩
  · rw [e] at h1'; exact chainB_head h1'
  · rw [e] at h1'; exact chainB_pair h1'

/-- **C06, specification level.**  For every configuration and every operation list satisfying `wf6`
    (the hypothesis predicate of component `aperture`), the history of the model satisfies the executable
    specification `specC06` — the predicate the harness evaluates on the implementation's observations. -/
theorem C06_model_satisfies_spec (cfg : Cfg) (ops : List Op) (hwf : comp6.wf cfg ops = true) :
    specC06 cfg (comp6.modelTrace cfg ops) = .ok :=
  specC06_trace cfg ops _ _ 0 (RInv.init cfg) (TInv.init cfg) (wf_proto (wf6_wf hwf)) (wf6_legal hwf)

/-! non-vacuity: concrete instances of the hypotheses -/

/-- aperture balancer (min_size 1, max_size 3, band [1/2, 2]): gated callbacks; a first sample at wall-clock
    time 7; the wall clock steps back to 5 (time delta 0, weight 1, the smoothed load stays); at 12 load-driven
    growth (choice 3); at 60 shrinking; a jitter round (choice 0), a leave
    (cf. corpus/C06/lean-witness-aperture.json, corpus/C06/clock-steps-back-steady-traffic.json) -/
example : wf6 ⟨true, 1, 3, 1/2, 2, false, [0, 1, 2]⟩
    [.opn, .join 3 ⟨[], []⟩, .leave 1 ⟨[], []⟩, .loaded [2, 0, 1] ⟨[], []⟩, .chan 0 2, .get ⟨[], [⟨0, 1, 7⟩]⟩,
     .get ⟨[], [⟨1, 1, 5⟩]⟩, .get ⟨[3], [⟨1/4, 5/2, 12⟩]⟩, .put 0 0 ⟨[], [⟨1/2, 9/4, 14⟩]⟩,
     .put 1 0 ⟨[], [⟨0, 1, 60⟩]⟩, .jitter ⟨[0], []⟩, .leave 2 ⟨[], []⟩] = true := by decide +kernel

/-- a weight above 1 for a clock that has not moved (what `exp` returns for a negative time delta) is
    outside the hypotheses: the model does not produce it -/
example : wf6 ⟨true, 1, 3, 1/2, 2, false, [0, 1, 2]⟩
    [.opn, .loaded [2, 0, 1] ⟨[], []⟩, .chan 0 2, .get ⟨[], [⟨0, 1, 7⟩]⟩, .get ⟨[], [⟨3/2, 1/2, 5⟩]⟩] = false := by
  decide +kernel

/-- the hypotheses of `C06_settles_partial` for the shipped defaults (min_size 1, band [0.5, 2]) -/
example : (1 : Nat) ≤ (⟨true, 1, 2147483648, 1/2, 2, false, []⟩ : Cfg).minSize ∧
    (0 : Rat) ≤ (⟨true, 1, 2147483648, 1/2, 2, false, []⟩ : Cfg).minLoad ∧
    2 * (⟨true, 1, 2147483648, 1/2, 2, false, []⟩ : Cfg).minLoad < (⟨true, 1, 2147483648, 1/2, 2, false, []⟩ : Cfg).maxLoad := by
  refine ⟨le_refl _, ?_, ?_⟩ <;> norm_num

/-- the EMA hypotheses: weights `exp(-Δ/5)` lie in [0, 1]; e.g. 1/2 -/
example : (0 : Rat) ≤ 1/2 ∧ (1/2 : Rat) ≤ 1 := by norm_num

end Scales.LB
