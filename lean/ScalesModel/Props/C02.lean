/-
  Props/C02.lean — a call only ever receives the reply to its own request: the multiplexed hop,
  and (second half of the file) serial connections and the pool.

  The assembled Thrift / ThriftMux stacks are judged by the monitor `E2E.comp 2` (acceptance,
  harness/props/c02.py).  The theorems here are about the multiplexed transport itself, on the
  model of Model/Mux.lean that is compared step by step with the real `SocketTransportSink`
  (component `tagpool`): replies are routed by tag through `_tag_map`, and the tag map entry of
  a tag is the request whose frame the peer received under that tag.

  No assumption is made on the peer: `ops` contains arbitrary `process mtype tag` steps — replies
  in any order, repeated, on unknown, reserved or not yet transmitted tags.  The clause speaks
  about a delivery only when a written, unanswered request frame with that tag exists.
-/
import ScalesModel.Props.C11
import ScalesModel.Adapter.SerialC02
import ScalesModel.Proofs.SerialLemmas
import ScalesModel.Props.C07
namespace Scales.TagPool

/-- **Specification level.**  The executable `spec` (the C11 clauses and the `own-reply` clause;
    part of `spec12`, which the harness evaluates) holds of every history of the model. -/
theorem C02_mux_model_satisfies_spec (cfg : Cfg) (ops : List Op) (hc : cfgWF cfg = true)
    (ho : opsOk cfg (initSt cfg) ops = true) : spec cfg (comp.modelTrace cfg ops) = .ok :=
  C11_model_satisfies_spec cfg ops hc ho

/-- **Step level.**  On the Kafka transport every reply goes through `_ProcessTaggedReply` with
    its correlation id: it is delivered exactly when `_tag_map` holds a request under that id, to
    that request -/
theorem C02_mux_delivery_via_tagmap_kafka (s : St) (t rid : Nat) :
    (rid ∈ (stepProcessKafka s t).2.delivered ↔ tmLookup t s.tagmap = some rid) ∧
    (stepProcessKafka s t).2.delivered.length ≤ 1 := by
  unfold stepProcessKafka
  cases hl : tmLookup t s.tagmap with
  | none => rw [releaseTag_none hl]; simp
  | some r =>
    rw [releaseTag_some hl]
    exact ⟨List.mem_singleton.trans ⟨fun e => e ▸ rfl, fun h => (Option.some.inj h).symm⟩, Nat.le_refl 1⟩

/-- ThriftMux: `_ProcessReply` hands a frame to a request exactly when the frame is not
    the ping answer, its tag is not 0 and `_tag_map` holds that request under the frame's tag;
    at most one request gets it. -/
theorem C02_mux_delivery_via_tagmap (s : St) (mt : Int) (t rid : Nat) :
    (rid ∈ (stepProcess s mt t).2.delivered ↔
      (¬(t = 1 ∧ mt = -65) ∧ t ≠ 0 ∧ tmLookup t s.tagmap = some rid)) ∧
    (stepProcess s mt t).2.delivered.length ≤ 1 := by
  rw [stepProcess_eq]
  split
  · next h => exact ⟨iff_of_false nofun fun c => h.elim c.1 c.2.1, Nat.zero_le 1⟩
  · next h =>
    have := C02_mux_delivery_via_tagmap_kafka s t rid
    exact ⟨this.1.trans ⟨fun e => ⟨fun c => h (Or.inl c), fun c => h (Or.inr c), e⟩, fun c => c.2.2⟩, this.2⟩

/-- an iteration of the send loop delivers nothing to a request -/
theorem C02_mux_send_delivers_nothing (s : St) : (stepSend s).2.delivered = [] :=
  (stepSend_sent s).delivered_nil

/-- no other step of the transport delivers anything to a request -/
theorem C02_mux_only_process_delivers (fl : Flavour) (max : Nat) (s : St) (op : Op)
    (h : ∀ mt t, op ≠ .process mt t) : (stepOp fl max s op).2.delivered = [] :=
  (stepOp_trans fl max s op).delivered_nil h

/-- **History level.**  For every pool size ≥ 2, every well-formed starting pool (a connection of any
    age, tags of all three byte lengths: `cfgWF`) and every legal sequence of transport steps:
    whenever a step processing a peer frame on tag `t` delivers to request `rid`, and a request
    frame carrying `t` was written on this connection and has not been answered since, that
    frame is the frame of request `rid` — the reply goes to the request the peer received
    under that tag, never to another call. -/
theorem C02_mux_own_reply (cfg : Cfg) (ops : List Op) (hc : cfgWF cfg = true)
    (ho : opsOk cfg (initSt cfg) ops = true) (h1 h2 : List (Op × Obs)) (mt : Int) (t : Nat) (o : Obs)
    (htr : comp.modelTrace cfg ops = h1 ++ (.process mt t, o) :: h2)
    (rid : Nat) (hd : rid ∈ o.delivered) (rid' : Nat) (hw : (t, rid') ∈ unansweredPairs cfg h1) :
    rid' = rid := by
  have hs := model_accepts hc ho htr
  exact (ownReplyBad_eq_none_iff.mp (accepts_at hs).1.ownReply (t, rid') hw rfl rid hd).symm

/-- the written, unanswered frames known to the specification are the tag map's entries:
    `(t, rid)` unanswered ⇒ `_tag_map[t]` is request `rid` (so `C02_mux_delivery_via_tagmap`
    delivers the next frame on `t` to `rid`) -/
theorem C02_mux_unanswered_owner_in_tagmap (cfg : Cfg) (ops : List Op) (hc : cfgWF cfg = true)
    (ho : opsOk cfg (initSt cfg) ops = true) (t rid : Nat)
    (hw : (t, rid) ∈ unansweredPairs cfg (comp.modelTrace cfg ops)) :
    tmLookup t (reach cfg ops).tagmap = some rid :=
  (model_good cfg ops hc ho).2.inv.own (t, rid) hw

/-! a concrete history: three requests written, answered out of order, one answered twice, one
    frame on an unknown tag — each delivery reaches the request that owns the tag -/
example : (comp.modelTrace { max := 2 ^ 24 - 1, fl := .thriftmux }
      [.req .noev 0, .req .noev 0, .req .noev 0, .send, .send, .send,
       .process (-2) 4, .process (-2) 2, .process (-2) 2, .process (-2) 9, .process (-2) 3]).map
      (fun p => p.2.delivered) = [[], [], [], [], [], [], [2], [0], [], [], [1]] := by decide +kernel

example : comp.wf { max := 2 ^ 24 - 1, fl := .thriftmux }
      [.req .noev 0, .req .noev 0, .req .noev 0, .send, .send, .send,
       .process (-2) 4, .process (-2) 2, .process (-2) 2, .process (-2) 9, .process (-2) 3] = true := by decide +kernel

/-! an aged connection: tags 256, 65792 (= 2^16 + 256), 2, 258, 65538 in flight together — they agree
    in two of their three bytes; replies in another order, one for a tag held since before the
    script (65537), one for a tag that differs from a tag in flight in the high byte only (131074) -/
example : (comp.modelTrace { max := 2 ^ 24 - 1, fl := .thriftmux, next := 131075, free := [256, 65792, 2, 258, 65538] }
      [.req .noev 256, .req .noev 65792, .req .noev 2, .req .noev 258, .req .noev 65538,
       .send, .send, .send, .send, .send,
       .process (-2) 65792, .process (-2) 65537, .process (-2) 131074, .process (-2) 2, .process (-2) 65538,
       .process (-2) 256, .process (-2) 258]).map
      (fun p => p.2.delivered) = [[], [], [], [], [], [], [], [], [], [], [1], [], [], [2], [4], [0], [3]] := by decide +kernel

example : comp.wf { max := 2 ^ 24 - 1, fl := .thriftmux, next := 131075, free := [256, 65792, 2, 258, 65538] }
      [.req .noev 256, .req .noev 65792, .req .noev 2, .req .noev 258, .req .noev 65538,
       .send, .send, .send, .send, .send,
       .process (-2) 65792, .process (-2) 65537, .process (-2) 131074, .process (-2) 2, .process (-2) 65538,
       .process (-2) 256, .process (-2) 258] = true := by decide +kernel

/-! ### serial connections

  On a serial connection the peer answers requests in the order it received them, one reply
  per request frame (the server hypothesis of C02).  The reply a transaction reads is therefore
  the reply to its own frame provided no *earlier* frame on the same connection is still
  unanswered.  The ghost `owed` below lists the request frames written on the current
  connection whose replies have not been consumed; it is reset whenever the connection is
  replaced or dropped.  The theorem: in every reachable state `owed` is empty, or holds exactly
  the transaction in flight (past its write) — so a consumed reply is the caller's own, and a
  request abandoned by a timeout or fault never leaves a stale reply on a connection that a
  later call will read. -/

namespace SerialGhost
open Scales.Serial Scales.Transport

inductive SOp where
  | openT (r : Conn)
  | request (id : Nat) (dl : DL)
  | io (o : IOOut)
  | timeoutHere (r : Conn)
  | timeoutBlock               -- the deadline passes, the re-connect takes time (Model/Serial.lean)
  | reconn (r : Conn)          -- the re-connect in progress concludes
  | close
  deriving Repr, DecidableEq

structure G where
  s : Serial.St
  owed : List Nat
  deriving Repr, DecidableEq

def G.init : G := ⟨Serial.St.init, []⟩

/-- replies consumed in a step: the `.stream` deliveries -/
def consumed (e : Eff) : List Nat := (e.dels.filter (fun p => p.2 == Resp.stream)).map (·.1)

def G.step (g : G) : SOp → G
  | .openT r =>
    let (s', e) := g.s.openT r
    ⟨s', if e.conns > 0 ∨ s'.sockOpen ≠ g.s.sockOpen then [] else g.owed⟩
  | .request id dl =>
    let (s', o) := g.s.request id dl
    ⟨s', if o.eff.conns > 0 ∨ s'.sockOpen ≠ g.s.sockOpen then [] else g.owed ++ o.sent⟩
  | .io o =>
    let (s', out) := g.s.io o
    ⟨s', if out.eff.conns > 0 ∨ s'.sockOpen ≠ g.s.sockOpen then []
         else (g.owed ++ out.sent).filter (fun id => !(consumed out.eff).contains id)⟩
  | .timeoutHere r =>
    let (s', out) := g.s.timeoutHere r
    ⟨s', if out.eff.conns > 0 ∨ s'.sockOpen ≠ g.s.sockOpen then [] else g.owed⟩
  | .timeoutBlock =>
    let (s', out) := g.s.timeoutBlock
    ⟨s', if out.eff.conns > 0 ∨ s'.sockOpen ≠ g.s.sockOpen then [] else g.owed⟩
  | .reconn r =>
    let (s', out) := g.s.reconnDone r
    ⟨s', if out.eff.conns > 0 ∨ s'.sockOpen ≠ g.s.sockOpen then [] else g.owed⟩
  | .close => ⟨g.s.close, []⟩

/-- what `owed` must be: the transaction in flight, once its frame has been written — and until
    its time-out handler has dropped the connection (blocked in the re-connect, nothing is
    outstanding on a connection in use: there is none) -/
def unreadOf (s : Serial.St) : List Nat :=
  match s.processing with
  | some t =>
    match t.phase with
    | .write => []
    | .reconn => []
    | _ => [t.id]
  | none => []

structure GInv (g : G) : Prop where
  inv : Serial.Inv g.s
  owed : g.owed = unreadOf g.s

theorem GInv_init : GInv G.init := ⟨Serial.inv_init, rfl⟩

/-- `owed` follows the transaction: its frame is added when the write succeeds and removed when the
    body is read; every other end of a transaction replaces or drops the connection, which empties
    the list.  In each form of the state (`Serial.Shape`) and for each operation both sides compute. -/
theorem GInv_step (g : G) (op : SOp) (h : GInv g) : GInv (g.step op) := by
  refine ⟨?_, ?_⟩
  · -- a ghost step performs an operation of the transport
    cases op with
    | openT r => exact Serial.inv_step _ (.openT r) h.inv
    | request id dl => exact Serial.inv_step _ (.req id dl) h.inv
    | io o => exact Serial.inv_step _ (.io o) h.inv
    | timeoutHere r => exact Serial.inv_step _ (.timeoutHere r) h.inv
    | timeoutBlock => exact Serial.inv_step _ .timeoutBlock h.inv
    | reconn r => exact Serial.inv_step _ (.reconn r) h.inv
    | close => exact Serial.inv_step _ .close h.inv
  obtain ⟨hinv, ho⟩ := h
  obtain ⟨s, owed⟩ := g
  simp only at hinv ho
  subst ho
  cases hinv.shape with
  | down cs ores hcs =>
    cases cs with
    | opened => exact absurd rfl hcs
    | _ =>
      cases op with
      | openT r => cases ores <;> cases r <;> rfl
      | request id dl => cases dl <;> rfl
      | _ => rfl
  | openIdle =>
    cases op with
    | request id dl => rcases dl with _ | _ | (_ | _) | _ <;> rfl
    | _ => rfl
  | inIO id dl ph hph =>
    cases ph with
    | reconn => exact absurd rfl hph
    | _ =>
      cases op with
      | io o =>
        cases o with
        | ok => simp [G.step, Serial.St.io, consumed, SerialGhost.unreadOf]
        | _ => rfl
      | timeoutHere r => cases dl <;> cases r <;> rfl
      | timeoutBlock => cases dl <;> rfl
      | _ => rfl
  | reconnecting id dl =>
    cases op with
    | timeoutHere r => cases dl <;> rfl
    | timeoutBlock => cases dl <;> rfl
    | reconn r => cases r <;> rfl
    | _ => rfl

def G.run (g : G) : List SOp → G
  | [] => g
  | op :: ops => (g.step op).run ops

theorem GInv_run : ∀ (ops : List SOp) (g : G), GInv g → GInv (g.run ops) := by
  intro ops
  induction ops with
  | nil => intro g h; exact h
  | cons op ops ih => intro g h; exact ih _ (GInv_step g op h)

end SerialGhost

open SerialGhost Scales.Serial Scales.Transport in
/-- **Serial connections: a consumed reply is the caller's own.**  After any history of opens,
    requests (with or without deadline, also already expired), I/O outcomes, time-outs with
    accepted or refused re-connects (concluding at once, or taking time with anything arriving in
    between) and closes: when a reply body is handed to request `id`, the
    frames written on the current connection whose replies had not been consumed are exactly
    `[id]` — no frame of an earlier, abandoned transaction is outstanding on it. -/
theorem C02_serial_own_reply (ops : List SOp) (o : IOOut) (id : Nat)
    (h : (id, Resp.stream) ∈ ((G.init.run ops).s.io o).2.eff.dels) : (G.init.run ops).owed = [id] := by
  obtain ⟨_, _, hq, _⟩ | ⟨_, ⟨t, hp, rfl, _, hph⟩ | ⟨_, hq, _⟩⟩ := (Serial.tstep _ (.io o)).handed h
  · cases hq
  · simp only [(GInv_run ops G.init GInv_init).owed, SerialGhost.unreadOf, hp, hph rfl]
  · cases hq

open SerialGhost Scales.Serial in
/-- a transaction that ended (reply, time-out, fault, refusal, close) leaves no unconsumed frame
    on a connection that stays in use: the next transaction starts on a clean connection -/
theorem C02_serial_abandon_clears (ops : List SOp) (h : (G.init.run ops).s.processing = none) :
    (G.init.run ops).owed = [] := by
  have hinv := GInv_run ops G.init GInv_init
  simp only [hinv.owed, SerialGhost.unreadOf, h]

open Scales.Watermark in
/-- Pool: a connection is never lent to two calls at once (C07's exclusivity theorem, which is
    the pool's part of this property) -/
theorem C02_pool_exclusive (cfg : Watermark.Cfg) (ops : List Watermark.Op) (c1 c2 sid : Nat)
    (h1 : (runOps cfg Watermark.St.init ops).base.calls[c1]? = some (.started sid))
    (h2 : (runOps cfg Watermark.St.init ops).base.calls[c2]? = some (.started sid)) : c1 = c2 :=
  (C07_exclusive cfg ops c1 c2 sid h1 h2).1

namespace SerialSpec
open Scales.Serial Scales.Transport Scales.SerialC02

section
attribute [local simp] SerialC02.Acc.after SerialC02.respOf SerialC02.replaced Serial.obsOf Serial.St.state
  Serial.reconnected

/-- row by row (`Serial.Tr`): a transaction only ends without its reply in a row that makes a connect
    attempt or leaves the transport not open -/
theorem after_of_tr {s s' : Serial.St} {op : Serial.Op} {o : Serial.Out} (ht : Serial.Tr s op s' o) (idx : Nat) :
    (⟨s.processing.map (·.id), false, idx⟩ : SerialC02.Acc).after op (Serial.obsOf s' o) =
      ⟨s'.processing.map (·.id), false, idx + 1⟩ := by
  cases ht with
  | look | reopen => cases s.processing <;> simp
  | ignored op hen =>
    -- requests, `Open()`, `Close()` and `look` are always enabled; an event that finds nothing to do only moves `idx`
    cases op with
    | req | close | look | openT => cases hen
    | _ => cases s.processing <;> simp
  | close => rfl
  | downFail hdl | downFailClosed hdl => rcases hdl with rfl | rfl <;> simp
  | expired r | timedOut r | reconnDone r => cases r <;> simp
  | _ => simp
end

/-- the accumulator is read off the state (`after_of_tr`): the request the specification takes to be in flight is the
    model's transaction, and the connection in use never saw an abandoned one, so the clause has nothing to judge -/
theorem specGo_ok : ∀ (ops : List Serial.Op) (s : Serial.St) (idx : Nat), Serial.Inv s →
    SerialC02.specGo ⟨s.processing.map (·.id), false, idx⟩ (SerialC02.comp.trace () s ops) = .ok := by
  intro ops
  induction ops with
  | nil => intros; rfl
  | cons op ops ih =>
    intro s idx h
    rw [Serial.trace_cons SerialC02.comp, SerialC02.specGo, after_of_tr (Serial.tr h.shape op) idx]
    exact Verdict.and_ok rfl (ih _ _ (Serial.inv_step s op h))

end SerialSpec

open SerialSpec in
/-- the serial transport model satisfies the C02 clause evaluated by component `serial2` on
    every operation list (no hypothesis needed): a connection that saw an abandoned transaction
    never carries a later request -/
theorem C02_serial_model_satisfies_spec (ops : List Serial.Op) :
    SerialC02.spec () (SerialC02.comp.modelTrace () ops) = .ok :=
  specGo_ok ops Serial.St.init 0 Serial.inv_init

end Scales.TagPool
