/-
  Props/C20.lean — property theorems for C20 (generated proxies and URI parsing).
  Statements rely on Model/Proxy.lean, Model/Uri.lean and their adapters.

  Quantification: an interface is any list of classes, each any list of function names
  (any characters, so with and without leading/trailing underscores; inheritance is the
  list having more than one class); arguments are any integer lists and any keyword lists;
  a URI is any list of characters, a rendered URI lists any number n ≥ 1 of endpoints.
-/
import ScalesModel.Proofs.ProxyLemmas
import ScalesModel.Proofs.UriLemmas
namespace Scales.C20
section proxy
open Scales.Proxy

/-- The user methods are exactly the functions of any class of the interface (inheritance
    flattened) whose name neither starts nor ends with two underscores. -/
theorem C20_user_methods (classes : List (List Name)) (m : Name) :
    m ∈ userMethods classes ↔ (∃ c ∈ classes, m ∈ c) ∧ isUserMethod m = true := by
  simp [userMethods, mem_dedup, List.mem_flatten]

/-- The `_async` form exists for every user method, whatever other names the interface has. -/
theorem C20_async_form_always (classes : List (List Name)) (m : Name) (hm : m ∈ userMethods classes) :
    dget (m ++ asyncSuffix) (table (userMethods classes)) = some (.async, m) := by
  rw [dget_table, asyncBase, find?_key (key := (· ++ asyncSuffix)) (fun _ _ => List.append_cancel_right) hm]
  rfl

/-- **Both forms (partial, K2 excluded).**  If no user method is named `m ++ "_async"` for a
    user method `m`, then for every user method `m` the generated class has the attribute
    `m`, the blocking form handing `m` to the dispatcher, and the attribute `m ++ "_async"`,
    the asynchronous form handing `m` to the dispatcher. -/
theorem C20_both_forms_partial (classes : List (List Name))
    (hnc : noCollision (userMethods classes) = true) (m : Name) (hm : m ∈ userMethods classes) :
    dget m (table (userMethods classes)) = some (.sync, m) ∧
    dget (m ++ asyncSuffix) (table (userMethods classes)) = some (.async, m) := by
  refine ⟨?_, C20_async_form_always classes m hm⟩
  rw [dget_table, asyncBase_eq_none_of_noCollision hnc hm, if_pos hm]
  rfl

/-- Nothing else is generated: every generated attribute is the blocking form `m` or the
    asynchronous form `m ++ "_async"` of a user method `m`. -/
theorem C20_only_user_methods (classes : List (List Name)) (n : Name) (g : Gen)
    (h : dget n (table (userMethods classes)) = some g) :
    g.2 ∈ userMethods classes ∧
      ((g.1 = .sync ∧ n = g.2) ∨ (g.1 = .async ∧ n = g.2 ++ asyncSuffix)) := by
  rw [dget_table, Option.or_eq_some_iff] at h
  rcases h with h | ⟨_, h⟩
  · obtain ⟨m, hb, rfl⟩ := Option.map_eq_some_iff.mp h
    exact ⟨(asyncBase_some _ n m hb).1, .inr ⟨rfl, (asyncBase_some _ n m hb).2.symm⟩⟩
  · split at h
    · cases h; exact ⟨‹_›, .inl ⟨rfl, rfl⟩⟩
    · cases h

/-- Forwarding is the identity on (method name, positional arguments, keyword arguments);
    the blocking form makes the caller wait for the result and yields its value or raises its
    error, the asynchronous form returns the pending result at once. -/
theorem C20_forwarding_identity (g : Gen) (args : List Int) (kwargs : List (Name × Int)) (late : Bool)
    (out : Outcome) :
    (callGen g args kwargs late out).method = g.2 ∧ (callGen g args kwargs late out).args = args ∧
    (callGen g args kwargs late out).kwargs = kwargs ∧
    (g.1 = .sync → (callGen g args kwargs late out).blocked = late ∧
        (callGen g args kwargs late out).ret = out.ret) ∧
    (g.1 = .async → (callGen g args kwargs late out).blocked = false ∧
        (callGen g args kwargs late out).ret = .pending) := by
  obtain ⟨f, m⟩ := g
  cases f <;> simp [callGen]

/-- **K2 (known finding).**  For the interface with methods `foo` and `foo_async` the
    hypothesis of `C20_both_forms_partial` fails and so does its conclusion: the attribute
    `foo_async` is the asynchronous form of `foo`; the blocking form of the user's
    `foo_async` does not exist, and the executable specification rejects the model's trace. -/
theorem C20_async_collision_counterexample :
    let foo : Name := ['f', 'o', 'o']
    let cfg : Cfg := ⟨[[foo, foo ++ asyncSuffix]]⟩
    noCollision (userMethods cfg.classes) = false ∧
    dget (foo ++ asyncSuffix) (table (userMethods cfg.classes)) = some (.async, foo) ∧
    (spec cfg (comp.modelTrace cfg [.call (foo ++ asyncSuffix) [] [] false (.ok 1)])).isOk = false := by
  decide

/-- **C20 (proxy), specification level.**  For every interface that shadows no `_ProxyBase`
    attribute and every list of calls none of which targets an attribute that is both a user
    method and another user method's `_async` name, the model's history satisfies `spec`.
    Both conditions are `comp.wf`; the second alone carries the proof. -/
theorem C20_model_satisfies_spec (cfg : Cfg) (ops : List Op) (hw : comp.wf cfg ops = true) :
    spec cfg (comp.modelTrace cfg ops) = .ok := by
  simp only [comp, wf, Bool.and_eq_true] at hw
  exact specGo_model cfg ops 0 hw.2

example : noCollision (userMethods [[['f', 'o', 'o'], ['_', 'b']], [['_', '_', 'x'], ['y', '_', '_']]]) = true := by
  decide
example : userMethods [[['f', 'o', 'o'], ['_', 'b']], [['_', '_', 'x'], ['y', '_', '_'], ['f', 'o', 'o']]]
    = [['f', 'o', 'o'], ['_', 'b']] := by decide

end proxy

section uri
open Scales.Uri

/-- characters a tcp host must not contain (DESIGN §4, out-of-domain inputs) -/
def hostOk (h : Str) : Bool := h.all (fun c => ![',', ':', '/', '#', '?', '@', '[', ']'].contains c)

/-- No character of a rendered endpoint ends the endpoint (`,`) or the netloc, or is a bracket. -/
theorem renderServer_chars (ep : Str × Nat) (hh : hostOk ep.1 = true) (c : Char)
    (hc : c ∈ renderServer ep) : c ≠ ',' ∧ c ≠ '/' ∧ c ≠ '?' ∧ c ≠ '#' ∧ c ≠ '[' ∧ c ≠ ']' := by
  simp only [renderServer, List.mem_append, List.mem_cons] at hc
  rcases hc with hc | rfl | hc
  · have := List.all_eq_true.mp hh c hc
    refine ⟨?_, ?_, ?_, ?_, ?_, ?_⟩ <;> (rintro rfl; revert this; decide)
  · decide
  · have := natToDec_digits _ c hc
    refine ⟨?_, ?_, ?_, ?_, ?_, ?_⟩ <;> (rintro rfl; revert this; decide)

theorem handleTcp_render (eps : List (Str × Nat)) (hne : eps ≠ [])
    (hh : ∀ ep ∈ eps, hostOk ep.1 = true) :
    handleTcp (intercalate ',' (eps.map renderServer)) = .tcp eps := by
  have hsplit : splitOn ',' (intercalate ',' (eps.map renderServer)) = eps.map renderServer := by
    apply splitOn_intercalate _ _ (mt List.map_eq_nil_iff.mp hne)
    intro p hp hc
    obtain ⟨ep, hep, rfl⟩ := List.mem_map.mp hp
    exact (renderServer_chars ep (hh ep hep) _ hc).1 rfl
  have hmap : (eps.map renderServer).mapM parseServer = some eps :=
    mapM_map_some _ _ _ fun ep hep =>
      parseServer_render _ _ fun hc => absurd (List.all_eq_true.mp (hh ep hep) _ hc) (by decide)
  simp only [handleTcp, hsplit, hmap]

/-- **tcp round trip.**  A tcp:// URI listing n ≥ 1 endpoints host:port (hosts free of the
    delimiters `, : / # ? @ [ ]`, any port number) parses to exactly those endpoints, in order. -/
theorem C20_tcp_roundtrip (eps : List (Str × Nat)) (hne : eps ≠ [])
    (hh : ∀ ep ∈ eps, hostOk ep.1 = true) : parseUri (renderTcp eps) = .tcp eps := by
  have hbody : ∀ c ∈ intercalate ',' (eps.map renderServer),
      c ≠ '/' ∧ c ≠ '?' ∧ c ≠ '#' ∧ c ≠ '[' ∧ c ≠ ']' := by
    intro c hc
    rcases mem_intercalate _ _ _ hc with rfl | ⟨p, hp, hcp⟩
    · decide
    · obtain ⟨ep, hep, rfl⟩ := List.mem_map.mp hp
      exact (renderServer_chars ep (hh ep hep) c hcp).2
  have := parseUri_render 't' ['c', 'p'] _ [] none (by decide) (by decide) hbody ⟨.inl rfl, nofun⟩ nofun
  rw [List.append_nil, List.append_nil, if_pos (by decide)] at this
  exact this.trans (handleTcp_render eps hne hh)

/-- **zk fields.**  A zk:// URI with hosts (free of `/ ? # [ ]`), a path (empty or starting with
    `/`, free of `? #`) and an optional non-empty endpoint name after `#` parses to a
    ZooKeeper-backed provider for exactly those hosts, that path and that endpoint name. -/
theorem C20_zk_fields (hosts path : Str) (endpoint : Option Str)
    (hhosts : ∀ c ∈ hosts, c ≠ '/' ∧ c ≠ '?' ∧ c ≠ '#' ∧ c ≠ '[' ∧ c ≠ ']')
    (hpath : (path = [] ∨ ∃ rest, path = '/' :: rest) ∧ ∀ c ∈ path, c ≠ '?' ∧ c ≠ '#')
    (hep : endpoint ≠ some []) :
    parseUri (renderZk hosts path endpoint) = .zk hosts path endpoint := by
  rw [renderZk.eq_def, List.append_assoc, List.append_assoc]
  exact (parseUri_render 'z' ['k'] hosts path endpoint (by decide) (by decide) hhosts hpath hep).trans
    (by rw [if_neg (by decide), if_pos (by decide)])

/-- **Other schemes are rejected**: whatever the URI, if its scheme is neither tcp nor zk
    (case-insensitively) parsing yields an error, never a provider. -/
theorem C20_other_scheme_rejected (s : Str) (h1 : schemeOf s ≠ tcpScheme) (h2 : schemeOf s ≠ zkScheme) :
    ∃ e, parseUri s = .err e := by
  unfold schemeOf at h1 h2
  simp only [parseUri, if_neg h1, if_neg h2]
  split <;> exact ⟨_, rfl⟩

theorem specObs_parse (idx : Nat) (s : Str) : specObs idx (.parse s) (parseUri s) = .ok := by
  simp only [specObs]
  split
  · rename_i hs
    simp only [Bool.and_eq_true, decide_eq_true_eq] at hs
    obtain ⟨e, he⟩ := C20_other_scheme_rejected s hs.1 hs.2
    rw [he]; rfl
  · cases parseUri s <;> simp only [if_true]

/-- **C20 (uri), specification level.**  The specification demands an error for a URI whose scheme
    is neither tcp nor zk; for tcp and zk it takes `parseUri` itself as the reference reading, and
    what that reading returns is the subject of `C20_tcp_roundtrip` and `C20_zk_fields`. -/
theorem C20_uri_model_satisfies_spec (ops : List Op) : spec () (comp.modelTrace () ops) = .ok := by
  have : ∀ (ops : List Op) (idx : Nat), specGo idx (comp.trace () () ops) = .ok := by
    intro ops
    induction ops with
    | nil => intros; rfl
    | cons op ops ih => exact fun idx => Verdict.and_ok (specObs_parse idx _) (ih (idx + 1))
  exact this ops 0

example : parseUri (renderTcp [(['h', '1'], 80), (['h', '2'], 8081)]) = .tcp [(['h', '1'], 80), (['h', '2'], 8081)] := by
  decide +kernel

/-! A string literal is by definition `String.ofList` of its characters, so `String.toList_ofList`
    rewrites `"…".toList` to the list of characters. -/
example : renderTcp [(['h'], 80), (['g'], 0)] = "tcp://h:80,g:0".toList := by
  rw [String.toList_ofList]; decide
example : parseUri "zk://z1:2181,z2:2181/a/b#ep".toList =
    .zk "z1:2181,z2:2181".toList "/a/b".toList (some "ep".toList) := by
  rw [String.toList_ofList, String.toList_ofList, String.toList_ofList, String.toList_ofList]; decide +kernel
example : parseUri "http://h:1".toList = .err .nohandler := by rw [String.toList_ofList]; decide
example : parseUri "tcp://h".toList = .err .value := by rw [String.toList_ofList]; decide

end uri
end Scales.C20
