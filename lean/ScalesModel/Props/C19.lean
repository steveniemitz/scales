/-
  Props/C19.lean — property theorems for C19 (ZooKeeper server set reports exactly the
  membership changes that occurred).  Model: Model/ServerSet.lean; helper lemmas:
  Proofs/ServerSet{Lemmas,Steps,Inv,Keys,Runs,Settle}.lean.

  Quantification: `cfg` is any member filter and any choice of raising callbacks; `ops` is any
  list of tree operations (create/delete the watched path, create/delete children — any
  names, re-used freely), construction of the ServerSet at any point, listings of the members by
  the consumer (`get_members()`, begun at any point after construction, any number of them,
  overlapping each other and everything else — each holds the worker back from *beginning* an
  update until the last one has returned), and scheduler steps (deliver the oldest fired watch
  event, serve / return the member read in flight of the worker or of any listing) in any
  interleaving, with any legal choice of which node the worker / a listing reads next.
  `wf cfg ops` says no more than that every operation is enabled when it is issued (there is a
  fired event to deliver, a read to serve / return, the tree operation is possible in
  ZooKeeper) and that its label is a legal choice — in particular the watched path may be
  deleted and re-created at any time, also before the client has been told.
  `quiet`: the ServerSet constructed, no fired event undelivered, no read in flight, no listing in
  progress — once it is constructed, in a state that is not quiet some scheduler step is enabled (`progress`).  Nothing about the worker's queue: that
  it is empty then is part of what is proved — `C19_worker_not_held_without_listing`.
  `exec cfg St.init ops = (final state, all notifications in order)`.

  Members by content: `cfg.keyOf n` is the Member znode `n` carries, up to `Member.__eq__` (which
  ignores the znode name) — any assignment, so different znodes may carry equal Members (a server
  that re-registers).  `keyNote cfg.keyOf` turns a notification into what a consumer sees that
  identifies members that way (as LoadBalancerSink does).  `distinctAlong cfg Tree.init ops`:
  after none of the operations do two member znodes carry equal Members *at the same time*.
-/
import ScalesModel.Proofs.ServerSetRuns
import ScalesModel.Proofs.ServerSetSettle
namespace Scales.ServerSet

set_option linter.unusedVariables false in
/-- At every point of every history the fold of the delivered joins/leaves is the worker's
    `_members`; the tree the model holds is the tree the history's operations built; and
    whenever nothing is on its way the consumer holds exactly the members present. -/
theorem C19_view_eq_tree_at_quiescence (cfg : Cfg) (ops : List Op) (hwf : wf cfg ops = true) :
    viewOf [] (exec cfg St.init ops).2 = (exec cfg St.init ops).1.members ∧
    (exec cfg St.init ops).1.tree = ops.foldl specTree Tree.init ∧
    ((exec cfg St.init ops).1.quiet = true →
      ∀ n, n ∈ viewOf [] (exec cfg St.init ops).2 ↔
           n ∈ (ops.foldl specTree Tree.init).present cfg.lim) := by
  -- the general statement, without `hwf`: `history_view`
  obtain ⟨_, hf, ht, hq⟩ := history_view cfg ops
  exact ⟨hf.view, ht, hq⟩

/-- The blocker never leaves the worker stranded: whenever no listing is in progress and the
    worker is not in the middle of an update, no update is waiting — the worker went on when
    the last listing returned (or was never held back).  For *every* operation list (operations
    that are not enabled are skipped).  This is what lets the quiet-state clause hold with
    listings interleaved anywhere. -/
theorem C19_worker_not_held_without_listing (cfg : Cfg) (ops : List Op)
    (hl : (exec cfg St.init ops).1.lists = []) (hj : (exec cfg St.init ops).1.job = none) :
    (exec cfg St.init ops).1.queue = [] :=
  have hi : Inv cfg (exec cfg St.init ops).1 := (history_view cfg ops).1
  hi.idle hj (by rw [hl]; rfl)

/-- "Once everything is quiet" always comes: after any history (the ServerSet constructed), the
    scheduler steps alone — deliver the oldest fired event, serve / return the read in flight of
    the worker or of a listing; no tree operation, no new listing — can be continued, with legal
    labels, to a quiet state, in which (the tree being what the history made it) the consumer
    holds exactly the members present.  In particular no listing, however it overlaps the
    notification activity, leaves the worker behind the blocker: every state that is not quiet has
    an enabled scheduler step that decreases a measure (`Proofs/ServerSetSettle`: `progress`).
    One such schedule is shown to exist; that every schedule which keeps taking steps gets there
    is not. -/
theorem C19_settles (cfg : Cfg) (ops : List Op) (hwf : wf cfg ops = true)
    (hst : (exec cfg St.init ops).1.started = true) :
    ∃ sched : List Op, (∀ op ∈ sched, op.isSched = true) ∧ wf cfg (ops ++ sched) = true ∧
      (exec cfg St.init (ops ++ sched)).1.quiet = true ∧
      ∀ n, n ∈ viewOf [] (exec cfg St.init (ops ++ sched)).2 ↔
           n ∈ (ops.foldl specTree Tree.init).present cfg.lim := by
  obtain ⟨sched, h1, h2, h3⟩ := settles_from cfg _ (exec cfg St.init ops).1 (Nat.lt_succ_self _) hst
  have hq : (exec cfg St.init (ops ++ sched)).1.quiet = true := by
    rw [exec_append]; exact h3
  have hwf' : wf cfg (ops ++ sched) = true :=
    (wfGo_append cfg ops sched St.init).trans (Bool.and_eq_true_iff.mpr ⟨hwf, h2⟩)
  refine ⟨sched, h1, hwf', hq, ?_⟩
  have ht : (ops ++ sched).foldl specTree Tree.init = ops.foldl specTree Tree.init := by
    rw [List.foldl_append]; exact foldl_specTree_sched sched h1 _
  rw [← ht]
  obtain ⟨_, _, _, hv⟩ := history_view cfg (ops ++ sched)
  exact hv hq

/-- No member is reported as joining while the consumer holds it, nor as leaving while the
    consumer does not hold it (so joins and leaves of a name alternate, starting with a join),
    and the fold of the notifications is the worker's `_members` — for *every* operation list:
    operations that are not enabled are skipped by `exec`, so not even `wf` is needed. -/
theorem C19_alternation (cfg : Cfg) (ops : List Op) :
    altOk [] (exec cfg St.init ops).2 = true ∧
    viewOf [] (exec cfg St.init ops).2 = (exec cfg St.init ops).1.members :=
  have hf : Fits [] (exec cfg St.init ops).2 (exec cfg St.init ops).1.members := (history_view cfg ops).2.1
  ⟨hf.ok, hf.view⟩

/-- Which callbacks raise has no influence on what the ServerSet does next: the state reached
    and the notifications delivered are the same as with callbacks that never raise.  (With
    `C19_view_eq_tree_at_quiescence`, which holds for every `cfg`: errors in callbacks never
    stop later notifications.)  True of the model by construction — `next` never reads `raiseJoin` /
    `raiseLeave`, only the observation counts `errs` from them — as every `on_leave` / `on_join` call
    of `_notification_worker` sits in a `try` / `except Exception` of its own; that the
    implementation behaves so is what the correspondence run checks. -/
theorem C19_callback_errors_isolated (cfg : Cfg) (ops : List Op) :
    exec cfg St.init ops = exec { cfg with raiseJoin := [], raiseLeave := [] } St.init ops := by
  have hnext : ∀ s op, next cfg s op = next { cfg with raiseJoin := [], raiseLeave := [] } s op := by
    intro s op
    cases op <;> rfl
  generalize St.init = s
  induction ops generalizing s with
  | nil => rfl
  | cons op ops ih =>
    simp only [exec, ← hnext]
    cases next cfg s op with
    | none => exact ih s
    | some p => simp only [ih p.1]

/-- An empty child list (what the repaired `_data_changed` queues when the path is deleted)
    makes the worker report every announced member as leaving, once, and forget them all. -/
theorem C19_empty_listing_removes_all (members : List Nat) :
    finishJob members [] [] = ([], members.map (fun n => (false, n))) := by
  simp only [finishJob, List.contains_nil, List.filter_false, List.append_nil, List.map_nil,
    Bool.not_false]
  congr 2
  exact List.filter_eq_self.mpr (fun _ _ => rfl)

/-- After the watched path has been deleted, once nothing is on its way the consumer holds
    nothing: every member it was told about has been reported as leaving. -/
theorem C19_parent_delete_reports_all (cfg : Cfg) (ops : List Op) (hwf : wf cfg ops = true)
    (hq : (exec cfg St.init ops).1.quiet = true)
    (hgone : (ops.foldl specTree Tree.init).parent = none) :
    viewOf [] (exec cfg St.init ops).2 = [] := by
  obtain ⟨_, _, h⟩ := C19_view_eq_tree_at_quiescence cfg ops hwf
  apply List.eq_nil_iff_forall_not_mem.mpr
  intro n hn
  have := (h hq n).mp hn
  simp [Tree.present, hgone] at this

/-- Re-creation: if the consumer held nothing at some quiet point (e.g. after the path was
    deleted) and `n` is present at a later quiet point, then a join for `n` was delivered in
    between — also when `n` had been announced and removed before. -/
theorem C19_recreate_reannounces (cfg : Cfg) (ops1 ops2 : List Op) (n : Nat)
    (hwf : wf cfg (ops1 ++ ops2) = true)
    (hq1 : (exec cfg St.init ops1).1.quiet = true)
    (hgone : (ops1.foldl specTree Tree.init).parent = none)
    (hq2 : (exec cfg St.init (ops1 ++ ops2)).1.quiet = true)
    (hn : n ∈ ((ops1 ++ ops2).foldl specTree Tree.init).present cfg.lim) :
    (true, n) ∈ (exec cfg (exec cfg St.init ops1).1 ops2).2 := by
  have hwf1 : wf cfg ops1 = true :=
    (Bool.and_eq_true_iff.mp ((wfGo_append cfg ops1 ops2 St.init).symm.trans hwf)).1
  have h1 := C19_parent_delete_reports_all cfg ops1 hwf1 hq1 hgone
  obtain ⟨_, _, h2⟩ := C19_view_eq_tree_at_quiescence cfg (ops1 ++ ops2) hwf
  have hin := (h2 hq2 n).mpr hn
  rw [exec_append] at hin
  simp only [viewOf_append, h1] at hin
  rcases mem_viewOf_join _ _ _ hin with h | h
  · cases h
  · exact h

/-- A member whose read was in flight when it (or the whole path) was removed is never left
    behind: if `n` is not present at a quiet point, every join of `n` delivered so far is
    followed by a leave of `n`. -/
theorem C19_inflight_read_ordered_before_removal (cfg : Cfg) (ops : List Op) (n : Nat)
    (hwf : wf cfg ops = true) (hq : (exec cfg St.init ops).1.quiet = true)
    (hn : n ∉ (ops.foldl specTree Tree.init).present cfg.lim)
    (pre post : List Note) (hsplit : (exec cfg St.init ops).2 = pre ++ (true, n) :: post) :
    (false, n) ∈ post := by
  obtain ⟨_, _, h⟩ := C19_view_eq_tree_at_quiescence cfg ops hwf
  by_contra hno
  apply hn
  apply (h hq n).mp
  rw [hsplit, viewOf_append]
  simp only [viewOf, List.foldl_cons]
  apply mem_viewOf_stays _ _ _ _ hno
  simp [applyNote]

set_option linter.unusedVariables false in
/-- **C19, specification level.**  For every configuration and every operation list that
    satisfies the hypotheses, the history of the model satisfies the executable specification
    `spec` — the predicate the harness evaluates on the implementation's observations. -/
theorem C19_model_satisfies_spec (cfg : Cfg) (ops : List Op) (h : comp.wf cfg ops = true) :
    comp.spec cfg (comp.modelTrace cfg ops) = .ok :=
  -- the general statement, without `h`: `spec_trace`
  spec_trace cfg ops St.init [] true 0 (Inv_init cfg) (fun _ => ⟨KInv_init _, rfl, rfl⟩)

set_option linter.unusedVariables false in
/-- **Members by content** (`Member.__eq__`, not the znode name).  As long as no two member znodes
    carry equal Members at the same time: a consumer that identifies members by content is never
    told of a join of a Member it holds nor of a leave of a Member it does not hold; what it holds
    is always the content of `_members`; and whenever nothing is on its way it holds exactly the
    Members of the znodes present — in particular a server whose znode went and which
    re-registered under another znode is held, whether or not the client saw the two changes in
    one children update. -/
theorem C19_member_view_eq_tree_at_quiescence (cfg : Cfg) (ops : List Op) (hwf : wf cfg ops = true)
    (hd : distinctAlong cfg Tree.init ops = true) :
    altOk [] ((exec cfg St.init ops).2.map (keyNote cfg.keyOf)) = true ∧
    viewOf [] ((exec cfg St.init ops).2.map (keyNote cfg.keyOf)) =
      (exec cfg St.init ops).1.members.map cfg.keyOf ∧
    ((exec cfg St.init ops).1.quiet = true →
      ∀ m, m ∈ viewOf [] ((exec cfg St.init ops).2.map (keyNote cfg.keyOf)) ↔
           m ∈ ((ops.foldl specTree Tree.init).present cfg.lim).map cfg.keyOf) := by
  -- the general statement, without `hwf`: `history_member_view`
  obtain ⟨hf, hq⟩ := history_member_view cfg ops hd
  exact ⟨hf.ok, hf.view, hq⟩

/-- One update — the worker holds `members`, takes the child list `listing` and has read `got` —
    delivers its leaves before its joins; so if the nodes of `listing` carry pairwise different
    Members, a Member that is both leaving (under an old znode) and joining (under a new one:
    `b ∈ got`) is held by the Member-equality consumer afterwards, and no notification of the
    update is a join of a Member held or a leave of a Member not held. -/
theorem C19_restart_within_one_update (k : Nat → Nat) (members listing got : List Nat)
    (hm : members.Nodup) (hg : got.Nodup) (hgm : ∀ n ∈ got, n ∉ members)
    (hgl : ∀ n ∈ got, n ∈ listing) (hkm : (members.map k).Nodup) (hkl : (listing.map k).Nodup)
    (b : Nat) (hb : b ∈ got) :
    altOk (members.map k) ((finishJob members listing got).2.map (keyNote k)) = true ∧
    k b ∈ viewOf (members.map k) ((finishJob members listing got).2.map (keyNote k)) := by
  have h := finishJob_fits k members listing got hkm (finishJob_kd hkl hm hg hgm hgl)
  exact ⟨h.ok, h.view ▸ List.mem_map_of_mem (mem_finishJob.mpr (Or.inr hb))⟩

/-! ### non-vacuity: the hypotheses are satisfiable on non-trivial histories
  (`demoOps`: three children, one filtered; a read misses; the path is torn down and re-created
  with an old name; on_join/on_leave of that name raise) -/

example : wf ⟨3, [1], [1], []⟩ demoOps = true := by decide +kernel
example : (exec ⟨3, [1], [1], []⟩ St.init demoOps).1.quiet = true := by decide +kernel
example : (exec ⟨3, [1], [1], []⟩ St.init demoOps).2 = [(true, 1), (false, 1), (true, 1)] := by decide +kernel
example : ((demoOps.take 16).foldl specTree Tree.init).parent = none := by decide +kernel
example : (exec ⟨3, [1], [1], []⟩ St.init (demoOps.take 16)).1.quiet = true := by decide +kernel
/- the path is re-created before the DataWatch was told of its deletion, the ChildrenWatch of the
   old incarnation ends on the vanished path: the new incarnation gets a watch of its own -/
example : wf ⟨3, [], [], []⟩ recreateUnobservedOps = true := by decide +kernel
example : (exec ⟨3, [], [], []⟩ St.init recreateUnobservedOps).1.quiet = true := by decide +kernel
example : (exec ⟨3, [], [], []⟩ St.init recreateUnobservedOps).2 = [(true, 0), (false, 0), (true, 1)] := by decide +kernel

/- a server restarts (`restartOps`, znodes 0 and 1 carry equal Members): the client learns of the
   removal of znode 0 and the creation of znode 1 in one children update, and is told
   leave-then-join; the hypotheses of `C19_member_view_eq_tree_at_quiescence` hold, and the
   other order (join-then-leave) is one the specification rejects -/
example : wf ⟨2, [], [], [0, 0]⟩ restartOps = true := by decide +kernel
example : distinctAlong ⟨2, [], [], [0, 0]⟩ Tree.init restartOps = true := by decide +kernel
example : (exec ⟨2, [], [], [0, 0]⟩ St.init restartOps).1.quiet = true := by decide +kernel
example : (exec ⟨2, [], [], [0, 0]⟩ St.init restartOps).2 = [(true, 0), (false, 0), (true, 1)] := by decide +kernel
example : altOk [] ([(true, 0), (true, 1), (false, 0)].map (keyNote (Cfg.keyOf ⟨2, [], [], [0, 0]⟩))) = false := by
  decide +kernel
example : viewOf [] ([(true, 0), (false, 0), (true, 1)].map (keyNote (Cfg.keyOf ⟨2, [], [], [0, 0]⟩))) = [0] := by
  decide +kernel

/- listings by the consumer (`listDemoOps`): the client lists right after construction, a second
   listing overlaps the first; the worker finishes the update it is in, is held back on the next
   two, and goes on when the second listing returns; the listings return [0] and [1] -/
example : wf ⟨3, [], [], []⟩ listDemoOps = true := by decide +kernel
example : (exec ⟨3, [], [], []⟩ St.init listDemoOps).1.quiet = true := by decide +kernel
example : (exec ⟨3, [], [], []⟩ St.init listDemoOps).2 = [(true, 0), (true, 1), (false, 0)] := by decide +kernel
example : viewOf [] (exec ⟨3, [], [], []⟩ St.init listDemoOps).2 = [1] := by decide +kernel
example : (exec ⟨3, [], [], []⟩ St.init listDemoOps).1.done = [(0, [0]), (1, [1])] := by decide +kernel
/- … after `lret 0` (first listing returned, second still reading) two updates are waiting and the
   worker is held back; it has delivered nothing but the first join -/
example : (exec ⟨3, [], [], []⟩ St.init (listDemoOps.take 13)).1.queue = [[0, 1], [1]] := by decide +kernel
example : (exec ⟨3, [], [], []⟩ St.init (listDemoOps.take 13)).1.lists.length = 1 := by decide +kernel
example : (exec ⟨3, [], [], []⟩ St.init (listDemoOps.take 13)).2 = [(true, 0)] := by decide +kernel
/- … a state to which `C19_settles` applies (not quiet, ServerSet constructed) -/
example : wf ⟨3, [], [], []⟩ (listDemoOps.take 13) = true := by decide +kernel
example : (exec ⟨3, [], [], []⟩ St.init (listDemoOps.take 13)).1.started = true := by decide +kernel
example : (exec ⟨3, [], [], []⟩ St.init (listDemoOps.take 13)).1.quiet = false := by decide +kernel

end Scales.ServerSet
