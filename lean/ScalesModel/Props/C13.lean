/-
  Props/C13.lean — property theorems for C13 (ThriftMux frames are byte-exact).

  Encoder side (Model/MuxCodec.lean): `wire tag m` is what the client writes to the connection
  for message `m` under `tag`; `marshal`, `writeContext`, `buildHeader`, `readHeader`,
  `unmarshal` are its parts, `utf8` / `utf8Decode` model `str.encode` / `bytes.decode`.  Decoder
  side (Adapter/MuxCodec.lean): `parseFrame`, `parseTdispatch`, `parseTdiscarded`, `decodeWire`,
  `i64?` are written from the frame description and share no code with the encoder.

  The connection's byte stream: `splitStream` / `parseStream` (Adapter) split a stream by its
  length prefixes alone; `streamOf items` (the model) is what the send loop — the only writer —
  puts on the connection for the messages queued, whole frame after whole frame.

  Quantification: every message type in int8, every tag < 2^24, every sequence of property
  and header assignments with text (Unicode scalar values, UTF-8 length < 2^15) or deadline
  (two int64) values, every payload; no size bounds other than the format's own
  (`Msg.inDomain`), and `C13_dispatch_written_iff_in_domain` shows that this domain is
  exactly the set of dispatches the code writes at all.
-/
import ScalesModel.Proofs.MuxCodecLemmas
namespace Scales.MuxCodec

/-- the strict UTF-8 decoder recovers the code points from the encoder's bytes -/
theorem C13_utf8_roundtrip (s : Text) (bs : Bytes) (h : utf8 s = some bs) : utf8Decode bs = some s :=
  utf8Decode_enc h

/-- the encoder is defined exactly on sequences of Unicode scalar values -/
theorem C13_utf8_defined_iff_scalar (s : Text) :
    (utf8 s).isSome = s.all (fun c => decide (c < 1114112) && !(decide (55296 ≤ c) && decide (c < 57344))) :=
  utf8_isSome_iff s

/-- every frame written is a 4-byte big-endian length followed by exactly that many bytes:
    one type byte, three tag bytes and the body (no condition on the message: it holds whenever
    anything is written at all) -/
theorem C13_frame_length_exact (tag : Nat) (m : Msg) (bs : Bytes) (h : wire tag m = .ok bs) :
    ∃ rest t body, bs = be32 rest.length ++ rest ∧ rest = [t] ++ encodeTag tag ++ body ∧
      t < 256 ∧ rest.length < 2147483648 := by
  obtain ⟨⟨_, hlen⟩, rfl⟩ := wire_eq_ok.1 h
  have hl : ([toU 256 (bodyOf m).1] ++ encodeTag tag ++ (bodyOf m).2).length = 4 + (bodyOf m).2.length := by
    simp [encodeTag_length]; omega
  refine ⟨_, _, (bodyOf m).2, ?_, rfl, toU8_lt (bodyOf_type m), by omega⟩
  rw [hl, encFrame, List.append_assoc, List.append_assoc]; rfl

/-- header + body of any type in int8, any 24-bit tag and any body parses back to exactly
    that type, tag and body -/
theorem C13_frame_roundtrip (tag : Nat) (ty : Int) (body : Bytes) (hty : -128 ≤ ty ∧ ty ≤ 127)
    (htag : tag < 16777216) (hlen : 4 + body.length < 2147483648) :
    ∃ bs, frameOf tag ty body = .ok bs ∧ parseFrame bs = some ⟨ty, tag, body⟩ := by
  have h8 : inI8 ty = true := inI8_iff.2 hty
  exact ⟨_, frameOf_eq_ok.2 ⟨⟨h8, hlen⟩, rfl⟩, parseFrame_enc ⟨h8, htag, Nat.lt_trans hlen (by decide)⟩⟩

/-- `_BuildHeader`: the 8 bytes are length 4 + data_len, the signed type byte and the tag -/
theorem C13_header_exact (tag : Nat) (ty : Int) (len : Nat) (hty : -128 ≤ ty ∧ ty ≤ 127)
    (htag : tag < 16777216) (hlen : 4 + len < 2147483648) :
    ∃ bs, buildHeader tag ty len = .ok bs ∧ parseHeader bs = some (4 + len, ty, tag) := by
  have h8 : inI8 ty = true := inI8_iff.2 hty
  exact ⟨_, buildHeader_eq_ok.2 ⟨⟨h8, hlen⟩, rfl⟩, parseHeader_enc h8 (Nat.lt_trans hlen (by decide)) htag⟩

/-- the independent decoder recovers exactly the type, tag, contexts, (empty) destination and
    delegation table, and payload that were supplied — for every in-domain message and tag -/
theorem C13_roundtrip (tag : Nat) (m : Msg) (hd : m.inDomain = true) (htag : tag < 16777216) :
    ∃ bs, wire tag m = .ok bs ∧ decodeWire bs = some (expectedOf tag m) := by
  exact ⟨_, wire_ok tag hd, decodeWire_item (it := (tag, m)) (itemOk_iff.2 ⟨hd, htag⟩)⟩

/-- the domain guard is not narrower than the code: a dispatch is written (no exception) if
    and only if it is in the domain -/
theorem C13_dispatch_written_iff_in_domain (tag : Nat) (props hdrs : List (Text × CtxVal)) (payload : Bytes) :
    (∃ bs, wire tag (.call props hdrs payload) = .ok bs) ↔ (Msg.call props hdrs payload).inDomain = true := by
  constructor
  · rintro ⟨bs, h⟩
    obtain ⟨⟨hm, hs⟩, _⟩ := wire_eq_ok.1 h
    rw [bodyOf_length] at hs
    simpa [Msg.inDomain, hs, marshalOk] using hm
  · intro h; exact ⟨_, wire_ok tag h⟩

/-- `_WriteContext` (F7 repaired): a 2-byte count, then for every entry of the dictionary, in
    order, the UTF-8 key preceded by its byte length and the value (UTF-8 text, or the 16
    bytes of a deadline) preceded by its byte length -/
theorem C13_context_lengths_are_byte_lengths (d : Dict) (bs : Bytes) (h : writeContext d = .ok bs) :
    bs = be16 d.length ++ (d.map (fun kv =>
        be16 (rawEntry kv).1.length ++ ((rawEntry kv).1 ++ (be16 (rawEntry kv).2.length ++ (rawEntry kv).2)))).flatten ∧
      ∀ kv ∈ d, utf8 kv.1 = some (rawEntry kv).1 ∧ rawVal kv.2 = some (rawEntry kv).2 := by
  obtain ⟨hok, rfl⟩ := writeContext_eq_ok.1 h
  simp only [dictOk, Bool.and_eq_true, List.all_eq_true] at hok
  exact ⟨by simp [ctxBytes, pairBytes, List.map_map, Function.comp_def], fun kv hkv => (entryOk_raw (hok.2 kv hkv)).1⟩

/-- before the repair the character count was written as the length: for the one-character
    text "é" the independent reader gets back one byte, not the two bytes of its UTF-8 form -/
theorem C13_charcount_lengths_counterexample :
    writeTextOld [233] = .ok [0, 1, 195] ∧ sized16? [0, 1, 195] = some ([195], []) ∧
      utf8 [233] = some [195, 169] := by decide

/-- a dispatch body is the contexts, then an empty destination and an empty delegation table
    (four zero bytes), then the Thrift call, and its type is Tdispatch -/
theorem C13_dst_dtab_empty (props hdrs : List (Text × CtxVal)) (payload : Bytes) (ty : Int) (body : Bytes)
    (h : marshal (.call props hdrs payload) = .ok (ty, body)) :
    ty = 2 ∧ ∃ c, writeContext (dispatchCtx props hdrs) = .ok c ∧ body = c ++ [0, 0, 0, 0] ++ payload := by
  obtain ⟨hok, e⟩ := marshal_eq_ok.1 h
  cases e
  exact ⟨rfl, _, writeContext_eq_ok.2 ⟨hok, rfl⟩, by simp⟩

/-- a discard body carries the discarded tag (3 bytes) and the reason, and its type is Tdiscarded -/
theorem C13_discard_body (which : Nat) (reason : Text) (ty : Int) (body : Bytes)
    (h : marshal (.discard which reason) = .ok (ty, body)) :
    ty = 66 ∧ ∃ r, utf8 reason = some r ∧ body = be24 which ++ r ∧
      (which < 16777216 → parseTdiscarded body = some (which, r)) := by
  obtain ⟨hok, e⟩ := marshal_eq_ok.1 h
  cases e
  obtain ⟨r, hr⟩ := Option.isSome_iff_exists.1 hok
  exact ⟨rfl, r, hr, by rw [hr]; rfl, fun hw => by rw [hr]; exact parseTdiscarded_enc hw⟩

/-- the context dictionary has one entry per key -/
theorem C13_ctx_keys_unique (props hdrs : List (Text × CtxVal)) :
    ((dispatchCtx props hdrs).map Prod.fst).Nodup :=
  dispatchCtx_nodup props hdrs

/-- the context dictionary holds, for every key, the header assigned last (client id, deadline) if there is
    one, else the caller property assigned last unless the key is private (`__…`) -/
theorem C13_ctx_lookup (props hdrs : List (Text × CtxVal)) (k : Text) :
    (dispatchCtx props hdrs).get? k = want props hdrs k :=
  dispatchCtx_get? props hdrs k

/-- the byte strings of an in-domain entry decode back to the typed key and value supplied:
    strict UTF-8 decoding for text, two signed 64-bit integers for a deadline -/
theorem C13_typed_contexts_recovered (k : Text) (v : CtxVal) (h : entryOk (k, v) = true) :
    utf8Decode (rawEntry (k, v)).1 = some k ∧
    (∀ s, v = .text s → utf8Decode (rawEntry (k, v)).2 = some s) ∧
    (∀ ts timeout, v = .deadline ts timeout →
      i64? ((rawEntry (k, v)).2.take 8) = some ts ∧ i64? ((rawEntry (k, v)).2.drop 8) = some timeout) := by
  obtain ⟨⟨hk, hv⟩, _⟩ := entryOk_raw h
  refine ⟨utf8Decode_enc hk, ?_, ?_⟩
  · rintro s rfl
    exact utf8Decode_enc hv
  · rintro ts timeout rfl
    simp only [entryOk, valOk, Bool.and_eq_true] at h
    simp only [rawEntry, rawVal, Option.getD_some, List.take_left' (be64_length _), List.drop_left' (be64_length _)]
    exact ⟨i64?_be64 h.2.1, i64?_be64 h.2.2⟩

/-! ## the decoder accepts a single byte string per value -/

/-- a byte string the frame decoder accepts is the canonical encoding of what it returns -/
theorem C13_frame_decoder_canonical (bs : Bytes) (f : Frame) (hb : ∀ b ∈ bs, b < 256)
    (h : parseFrame bs = some f) :
    bs = be32 (4 + f.body.length) ++ ([toU 256 f.ty] ++ encodeTag f.tag) ++ f.body :=
  parseFrame_inv hb h

/-- the same for a Tdispatch body -/
theorem C13_tdispatch_decoder_canonical (bs : Bytes) (d : Tdispatch) (hb : ∀ b ∈ bs, b < 256)
    (h : parseTdispatch bs = some d) :
    bs = be16 d.ctxs.length ++ ((d.ctxs.map pairBytes).flatten ++
      (be16 d.dst.length ++ (d.dst ++ (be16 d.dtab.length ++ ((d.dtab.map pairBytes).flatten ++ d.payload))))) :=
  parseTdispatch_inv hb h

/-- `ReadHeader` (F8 repaired) returns the signed type byte and the 24-bit tag, for every
    four bytes -/
theorem C13_readHeader_decodes (b0 b1 b2 b3 : Nat) (rest : Bytes) (h0 : b0 < 256) (h1 : b1 < 256)
    (h2 : b2 < 256) (h3 : b3 < 256) :
    readHeader (b0 :: b1 :: b2 :: b3 :: rest) = .ok (sgn8 b0, b1 * 65536 + b2 * 256 + b3) :=
  readHeader_eq b0 b1 b2 b3 rest h0 h1 h2 h3

/-- the reply-header reader inverts the header writer for every type byte and every tag -/
theorem C13_readHeader_inverts (tag : Nat) (ty : Int) (len : Nat) (bs : Bytes) (htag : tag < 16777216)
    (h : buildHeader tag ty len = .ok bs) : readHeader (bs.drop 4) = .ok (ty, tag) := by
  obtain ⟨⟨hty, _⟩, rfl⟩ := buildHeader_eq_ok.1 h
  have hd : (be32 (4 + len) ++ ([toU 256 ty] ++ encodeTag tag)).drop 4 = [toU 256 ty] ++ be24 tag := rfl
  have h256 (n : Nat) : n % 256 < 256 := Nat.mod_lt n (by decide)
  rw [hd, be24]
  exact (readHeader_eq _ _ _ _ [] (toU8_lt hty) (h256 _) (h256 _) (h256 _)).trans (by
    rw [sgn8_toU hty, be24_val htag])

/-- before the repair every non-negative type byte came back 256 too small: BAD_Rerr (127),
    which the unmarshal map knows, was read as −129 -/
theorem C13_readHeader_old_counterexample :
    buildHeader 5 127 0 = .ok [0, 0, 0, 4, 127, 0, 0, 5] ∧
      readHeaderOld [127, 0, 0, 5] = .ok (-129, 5) ∧ readHeader [127, 0, 0, 5] = .ok (127, 5) := by decide

/-- `_Unmarshal_Rdispatch` skips the reply contexts (whatever they contain) and hands exactly
    the remaining bytes to the Thrift deserializer when the status is OK -/
theorem C13_unmarshal_skips_contexts (cs : List (Bytes × Bytes)) (rest : Bytes) (hn : cs.length < 32768)
    (h : ∀ kv ∈ cs, kv.1.length < 32768 ∧ kv.2.length < 32768) :
    unmarshal (-2) ([0] ++ be16 cs.length ++ (cs.map pairBytes).flatten ++ rest) = .ok (.ret rest) := by
  simp only [unmarshal, rDispatch, if_true, be16, List.cons_append, List.nil_append, unmarshalRdispatch]
  rw [s16_be16 hn]
  simp only [Int.toNat_natCast, skipContexts_enc rest h, s8]
  simp

/-- framing, for all frames: the bytes of any sequence of frames — any type in int8, any
    24-bit tag, any body — written one after the other split, by the length prefixes alone,
    into exactly those frames (`parseStream (frames.flatten) = frames`) -/
theorem C13_stream_framing (fs : List Frame) (bss : List Bytes)
    (hw : List.Forall₂ (fun f bs => frameOf f.tag f.ty f.body = .ok bs) fs bss)
    (htag : ∀ f ∈ fs, f.tag < 16777216) :
    parseStream bss.flatten = some fs := by
  obtain ⟨hok, rfl⟩ := (forall₂_eq_ok frameOf_eq_ok).1 hw
  exact parseStream_enc fun f hf => ⟨(hok f hf).1, htag f hf, Nat.lt_trans (hok f hf).2 (by decide)⟩

/-- prefix code, with no hypothesis on the messages: whatever byte strings the client writes
    for a sequence of queued messages, their concatenation splits back into exactly those
    byte strings — the send loop being the only writer, the peer sees the frames it was sent -/
theorem C13_stream_splits_into_written_frames (items : List (Nat × Msg)) (bss : List Bytes)
    (hw : List.Forall₂ (fun it bs => wire it.1 it.2 = .ok bs) items bss) :
    splitStream bss.flatten = some bss := by
  obtain ⟨hok, rfl⟩ := (forall₂_eq_ok wire_eq_ok).1 hw
  refine List.map_map (g := encFrame) (f := frameOfItem) ▸ splitStream_frames fun f hf => ?_
  obtain ⟨it, hit, rfl⟩ := List.mem_map.1 hf
  exact Nat.lt_trans (hok it hit).2 (by decide)

/-- the stream of any in-domain messages queued under 24-bit tags (calls, the transport's
    Tdiscarded, keep-alive pings, in any number and order) splits into one byte string per
    message, and the independent decoder recovers from each exactly the message supplied -/
theorem C13_stream_of_queued_messages (items : List (Nat × Msg))
    (h : ∀ it ∈ items, it.2.inDomain = true ∧ it.1 < 16777216) :
    ∃ bss, splitStream (streamOf items) = some bss ∧
      bss.map decodeWire = items.map (fun it => some (expectedOf it.1 it.2)) :=
  ⟨_, splitStream_streamOf (items_all_ok h), decode_items (items_all_ok h)⟩

/-- no two different sequences of frames have the same byte stream -/
theorem C13_stream_unambiguous (fs gs : List Frame) (bss css : List Bytes)
    (hf : List.Forall₂ (fun f bs => frameOf f.tag f.ty f.body = .ok bs) fs bss)
    (hg : List.Forall₂ (fun f bs => frameOf f.tag f.ty f.body = .ok bs) gs css)
    (htf : ∀ f ∈ fs, f.tag < 16777216) (htg : ∀ f ∈ gs, f.tag < 16777216)
    (h : bss.flatten = css.flatten) : fs = gs := by
  have h1 := C13_stream_framing fs bss hf htf
  have h2 := C13_stream_framing gs css hg htg
  rw [h, h2] at h1
  exact (Option.some.inj h1).symm

/-- a stream has one reading: a byte stream the stream decoder accepts is the concatenation
    of the canonical encodings of the frames it returns -/
theorem C13_stream_decoder_canonical (bs : Bytes) (fs : List Frame) (hb : ∀ b ∈ bs, b < 256)
    (h : parseStream bs = some fs) :
    bs = (fs.map (fun f => be32 (4 + f.body.length) ++ ([toU 256 f.ty] ++ encodeTag f.tag) ++ f.body)).flatten :=
  parseStream_inv hb h

/-- what goes wrong when the send loop is not the only writer: a Tping written after the
    first 6 bytes of a Tdispatch leaves a stream that is not a sequence of frames, while the
    same two frames written whole, in either order, are read back -/
theorem C13_interleaved_write_counterexample :
    wire 2 (.call [] [] [7, 8]) = .ok [0, 0, 0, 12, 2, 0, 0, 2, 0, 0, 0, 0, 0, 0, 7, 8] ∧
    wire 1 .ping = .ok [0, 0, 0, 4, 65, 0, 0, 1] ∧
    parseStream ([0, 0, 0, 12, 2, 0, 0, 2, 0, 0, 0, 0, 0, 0, 7, 8] ++ [0, 0, 0, 4, 65, 0, 0, 1])
      = some [⟨2, 2, [0, 0, 0, 0, 0, 0, 7, 8]⟩, ⟨65, 1, []⟩] ∧
    parseStream ([0, 0, 0, 12, 2, 0] ++ [0, 0, 0, 4, 65, 0, 0, 1] ++ [0, 2, 0, 0, 0, 0, 0, 0, 7, 8]) = none := by
  decide

/-! ## the model satisfies the executable specification the harness evaluates -/

theorem C13_model_satisfies_spec (cfg : Cfg) (ops : List Op) (_h : wf cfg ops = true) :
    spec cfg (comp.modelTrace cfg ops) = .ok := by
  unfold spec TComp.modelTrace
  exact specGo_trace ops 0

/-! non-vacuity: concrete instances -/
example : (Msg.call [([107, 233, 121], .text [118, 228, 108, 8364]), ([95, 95, 84], .other)]
    [([99], .deadline 1000000000 (-5))] [128, 1]).inDomain = true := by decide
example : wire 16777215 (.discard 77 [67, 108]) = .ok [0, 0, 0, 9, 66, 255, 255, 255, 0, 0, 77, 67, 108] := by decide
example : decodeWire [0, 0, 0, 9, 66, 255, 255, 255, 0, 0, 77, 67, 108] = some (.discarded 16777215 77 [67, 108]) := by
  decide
example : dispatchCtx [([97], .text [1]), ([95, 95, 98], .other), ([97], .text [2])] [([99], .deadline 1 2)]
    = [([97], .text [2]), ([99], .deadline 1 2)] := by decide
example : utf8 [107, 233, 8364, 128512] = some [107, 195, 169, 226, 130, 172, 240, 159, 152, 128] := by decide
example : unmarshal (-2) [0, 0, 1, 0, 1, 97, 0, 2, 98, 99, 7, 8] = .ok (.ret [7, 8]) := by decide

end Scales.MuxCodec
