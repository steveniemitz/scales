/-
  Props/C17.lean — property theorems for C17 (async combinators).  The combinator theorems are
  stated on Model/Async.lean (`C17_unwrap_inv` through the invariant `UWInv` of
  Proofs/AsyncLemmas.lean), `C17_model_satisfies_spec` on the executable specification of
  Adapter/Async.lean.

  Quantification: `outs` is any assignment of success/failure to n ≥ 1 inputs, `ds` is any
  duplicate-free sequence of deliveries (a completion order, or any prefix of one), `pre`
  any subset already complete at call time.
-/
import ScalesModel.Proofs.AsyncLemmas
namespace Scales.Async

/-- WhenAll: a success result carries the inputs' values in input order, and occurs exactly
    when every input succeeded and all have been delivered. -/
theorem C17_whenAll_success_iff_all (outs : List Out) (ds : List Nat) (hn : 1 ≤ outs.length)
    (hnd : ds.Nodup) (hlt : ∀ x ∈ ds, x < outs.length) (vs : List (Option Nat)) :
    (WA.run outs (WA.init outs.length) ds).ret = .vals vs ↔
      (vs = outs.map valOf ∧ (∀ o ∈ outs, o.isOk = true) ∧ ds.length = outs.length) := by
  have hdl : Deliv outs.length ds := ⟨hnd, hlt⟩
  rw [WA_run_ret hn hdl, allExpected]
  cases hf : (failsIn outs ds).getLast? with
  | some d =>
    -- a delivered input failed
    obtain ⟨hd, herr⟩ := List.mem_filter.mp (List.mem_of_getLast? hf)
    have hdlt := hlt d hd
    rw [isErrAt_of (List.getElem?_eq_getElem hdlt), Bool.not_eq_true'] at herr
    exact ⟨nofun, fun h => absurd (h.2.1 _ (List.getElem_mem hdlt)) (herr ▸ nofun)⟩
  | none =>
    by_cases hfull : ds.length = outs.length
    · simp only [hfull, if_true, Res.vals.injEq, and_true]
      refine ⟨fun h => ⟨h.symm, fun o ho => ?_⟩, fun h => h.1.symm⟩
      -- every input was delivered, and none of the delivered ones failed
      obtain ⟨i, hi, rfl⟩ := List.getElem_of_mem ho
      have := List.filter_eq_nil_iff.mp (List.getLast?_eq_none_iff.mp hf) i (hdl.mem_of_full hfull hi)
      simpa [isErrAt_of (List.getElem?_eq_getElem hi)] using this
    · simp only [hfull, if_false, and_false]
      exact ⟨nofun, False.elim⟩

/-- WhenAll is failed as soon as a failing input has been delivered, and carries the exception
    of the failing input delivered last (every failure overwrites the result); it stays
    pending while nothing failed and not everything has been delivered. -/
theorem C17_whenAll_fails_at_first_failure (outs : List Out) (ds : List Nat) (hn : 1 ≤ outs.length)
    (hnd : ds.Nodup) (hlt : ∀ x ∈ ds, x < outs.length) :
    (∀ d, (failsIn outs ds).getLast? = some d →
        (WA.run outs (WA.init outs.length) ds).ret = .err (errAt outs d)) ∧
    ((failsIn outs ds) = [] → ds.length ≠ outs.length →
        (WA.run outs (WA.init outs.length) ds).ret = .pending) := by
  rw [WA_run_ret hn ⟨hnd, hlt⟩, allExpected]
  exact ⟨fun d hd => by rw [hd], fun he hne => by rw [he, List.getLast?_nil, if_neg hne]⟩

/-- WhenAny without a pre-completed success returns a fresh result that counts down the
    deliveries and shows `anyExpected outs ds`, which the next two theorems read. -/
theorem C17_whenAny_fresh (outs : List Out) (pre : List Bool) (ds : List Nat)
    (hnd : ds.Nodup) (hlt : ∀ x ∈ ds, x < outs.length) (hpre : firstReadyOk outs pre = none) :
    WAny.run outs (WAny.init outs pre) ds = .fresh (outs.length - ds.length) (anyExpected outs ds) := by
  rw [WAny_run_init outs pre ⟨hnd, hlt⟩, anyState, hpre]

/-- Once a success has been delivered, `anyExpected` is the value of the first one. -/
theorem C17_whenAny_first_success (outs : List Out) (ds : List Nat) (d : Nat)
    (hd : ds.find? (isOkAt outs) = some d) : anyExpected outs ds = .val (valAt outs d) := by
  unfold anyExpected; rw [hd]

/-- `anyExpected` is a failure exactly when every input has been delivered and none succeeded,
    and then carries the failure delivered last. -/
theorem C17_whenAny_fails_iff_all_failed_with_last (outs : List Out) (ds : List Nat) (e : Nat)
    (hn : 1 ≤ outs.length) :
    anyExpected outs ds = .err e ↔
      (ds.find? (isOkAt outs) = none ∧ ds.length = outs.length ∧
        ∃ d, ds.getLast? = some d ∧ errAt outs d = e) := by
  unfold anyExpected
  cases hf : ds.find? (isOkAt outs) with
  | some d => simp
  | none =>
    by_cases hfull : ds.length = outs.length
    · obtain ⟨d, hl⟩ := getLast?_of_full hn hfull
      simp [hfull, hl]
    · simp [hfull]

/-- WhenAny with a pre-completed success returns that (first such) input itself, so the
    caller sees that input's value at once, whatever happens later. -/
theorem C17_whenAny_shortcut (outs : List Out) (pre : List Bool) (ds : List Nat) (i : Nat)
    (hpre : firstReadyOk outs pre = some i) :
    WAny.run outs (WAny.init outs pre) ds = .same i ∧
    ∃ v, outs[i]? = some (.ok v) ∧ pre.getD i false = true ∧
      WAny.view outs pre ds (.same i) = .val v := by
  obtain ⟨hp, v, ho⟩ := firstReadyOk_some hpre
  unfold WAny.init
  rw [hpre]
  exact ⟨WAny_run_same outs i ds, v, ho, hp, view_same ds hp ho⟩

/-- the operations of the Unwrap theorems below: completion of a level, a link delivery -/
inductive UWOp where
  | set (k : Nat)
  | deliver

def UW.apply (s : UW) : UWOp → UW
  | .set k => s.setLevel k
  | .deliver => s.deliver

theorem foldl_apply_inv (ops : List UWOp) {s : UW} (h : UWInv s) :
    UWInv (ops.foldl UW.apply s) ∧ (ops.foldl UW.apply s).chain = s.chain := by
  induction ops generalizing s with
  | nil => exact ⟨h, rfl⟩
  | cons op ops ih =>
    cases op with
    | set k => exact ih (UW_setLevel_inv k h)
    | deliver => exact (ih (UW_deliver_inv h).1).imp_right (·.trans (deliver_chain s).1)

/-- `UWInv` holds in every state of the Unwrap model reachable from `UW.init`, so a client may
    read any such state by the two cases of `UWInv`. -/
theorem C17_unwrap_inv (chain : List Lvl) (pre : List Bool) (ops : List UWOp)
    (hwf : chainWF chain = true) : UWInv (ops.foldl UW.apply (UW.init chain pre)) :=
  (foldl_apply_inv ops (UW_init_inv chain pre hwf)).1

/-- Unwrap: in every state reachable by completions of any levels in any order interleaved
    with link deliveries, the target has been set at most once, and a set target carries
    the chain's innermost plain value or first failure. -/
theorem C17_unwrap_innermost_or_first_failure (chain : List Lvl) (pre : List Bool)
    (ops : List UWOp) (hwf : chainWF chain = true) :
    let s := ops.foldl UW.apply (UW.init chain pre)
    s.sets ≤ 1 ∧ (s.target ≠ .pending → s.target = chainOutcome chain ∧ s.sets = 1) ∧
    -- quiescent (no delivery outstanding) with every level up to the terminal one complete
    ((∀ j, j ≤ termIdx chain → s.ready.getD j false = true) → s.deliverEnabled = false →
        s.target = chainOutcome chain ∧ s.sets = 1) := by
  obtain ⟨hinv, hchain⟩ := foldl_apply_inv ops (UW_init_inv chain pre hwf)
  replace hchain := hchain.trans (settle_chain _ 0).1
  generalize ops.foldl UW.apply (UW.init chain pre) = s at hinv hchain ⊢
  subst hchain
  cases hinv with
  | wait wf posle below =>
    exact ⟨Nat.zero_le 1, fun h => absurd rfl h,
      fun hall hde => (Bool.false_ne_true (hde.symm.trans (hall _ posle))).elim⟩
  | done wf upto => exact ⟨Nat.le_refl 1, fun _ => ⟨rfl, rfl⟩, fun _ _ => ⟨rfl, rfl⟩⟩

/-- ContinueWith: before the source result is delivered the continuation has not run and the
    result is pending; one delivery runs it once and captures its value or exception.  (That
    the source is delivered once is the gevent link contract.) -/
theorem C17_continueWith_once (f : FnRes) :
    CW.init.ran = 0 ∧ CW.init.cw = .pending ∧ (CW.init.deliver f).ran = 1 ∧
    (CW.init.deliver f).cw = (match f with | .ret v => .val v | .raise e => .err e) := by
  cases f <;> simp [CW.init, CW.deliver]

/-- Map applies its function only to successful values. -/
theorem C17_map_only_success (o : Out) (f : FnRes) :
    ((mapDeliver o f).1 = 1 ↔ o.isOk = true) ∧
    (∀ e, o = .err e → mapDeliver o f = (0, .err e)) := by
  cases o <;> cases f <;> simp [mapDeliver, Out.isOk]

/-- **C17, specification level.**  For every well-formed configuration (n ≥ 1 inputs; a
    well-formed chain) and every legal operation list (each link delivered at most once),
    the history of the model satisfies the executable specification `spec` — the predicate
    the harness evaluates on the implementation's observations. -/
theorem C17_model_satisfies_spec (cfg : Cfg) (ops : List Op) (hc : cfgWF cfg = true)
    (ho : opsOk cfg {} ops = true) : spec cfg (comp.modelTrace cfg ops) = .ok := by
  unfold spec TComp.modelTrace
  cases cfg with
  | whenAll outs =>
    exact specGo_of_rel _ _ (whenAll_pres outs) (whenAll_obs outs) ops {} _ 0
      ⟨_, rfl, .nil, WAInv_init outs (of_decide_eq_true hc)⟩ ho
  | whenAny outs pre =>
    exact specGo_of_rel _ _ (whenAny_pres outs pre) (whenAny_obs outs pre (of_decide_eq_true hc))
      ops {} _ 0
      ⟨congrArg (St.wany · []) (anyState_nil outs pre).symm, .nil⟩ ho
  | unwrap chain pre =>
    refine specGo_of_rel_step _ _ (unwrap_step chain pre) ops {} _ 0
      ⟨_, rfl, UW_init_inv chain pre hc, (settle_chain _ 0).1, ?_⟩ ho
    rw [UW.init, (settle_chain _ 0).2]; simp [readyOf]
  | cw _ | map _ _ =>
    exact specGo_of_rel _ _ (once_pres _ rfl) (once_obs _ rfl) ops {} _ 0 (.inl ⟨rfl, rfl⟩) ho

example : (WA.run [.ok 5, .ok 6, .ok 7] (WA.init 3) [2, 0, 1]).ret = .vals [some 5, some 6, some 7] := by decide
example : (WA.run [.ok 5, .err 9, .ok 7] (WA.init 3) [2, 1]).ret = .err 9 := by decide
example : WAny.run [.err 1, .ok 6, .err 3] (WAny.init [.err 1, .ok 6, .err 3] [true, false, false]) [0, 2, 1]
    = .fresh 0 (.val 6) := by decide
example : WAny.run [.err 1, .err 3] (WAny.init [.err 1, .err 3] [false, false]) [1, 0]
    = .fresh 0 (.err 1) := by decide
example : chainWF [.inner, .inner, .plain 4] = true := by decide
example : ([UWOp.set 2, .set 0, .deliver, .set 1, .deliver].foldl UW.apply
    (UW.init [.inner, .inner, .plain 4] [false, false, false])).target = .val 4 := by decide

end Scales.Async
