/-
  Props/C16.lean — property theorems for C16 (singleton pool, ref-counted sink, shared sink
  provider).  Statements rely on Model/Shared.lean and Adapter/Shared.lean only.

  Quantification: `ops` is *any* finite history — for the singleton pool any sequence of
  requests, pool Open()/Close() calls, completions (success or failure) of a pending open and
  faults of any sink, in any order (so requests, Open() and Close() may arrive while the first
  open is still in progress), where a pool Close() may run over an underlying Close() that calls
  a caller back who re-submits through the pool from inside it (`pcloseR`, `cresumeR`) or that
  yields and stays suspended while further operations arrive (`pcloseY` … `cresume`); for the
  ref-counted sink any sequence of Open/Close by any holders and faults of the underlying sink;
  for the provider any sequence of CreateSink calls
  with any keys by any holders, of holders calling Open()/Close() on what they hold, of holders
  dropping their reference, and of transport faults of any underlying sink (so CreateSink may
  come while the cached shared sink is Closed — faulted, or closed by its last holder — and
  older holders are alive).  No bounds, no hypotheses on the history.
-/
import ScalesModel.Proofs.SharedLemmas
import ScalesModel.Proofs.SharedProvLemmas
import ScalesModel.Proofs.SharedGuardLemmas
namespace Scales.Shared

/-! ## SingletonPoolSink -/

/-- After every history at most one underlying sink is live (being opened, or open). -/
theorem C16_singleton_at_most_one_live (ops : List SOp) :
    liveCount (Pool.run {} ops).sinks ≤ 1 := by
  have hi := Pool.run_inv ops PInv.init
  rw [← liveN_map_view]
  exact hi.live_le_one

/-- Shares, sequential and concurrent: if after any history some sink `k` is live, it is the
    pool's current sink, and a request creates no other sink; it is handed to sink `k` at once
    if `k` is open, and if `k` is still being opened it joins the greenlets waiting for that
    open (all of which wait on sink `k`). -/
theorem C16_singleton_shares (ops : List SOp) (r k : Nat) (s : USink)
    (hk : (Pool.run {} ops).sinks[k]? = some s) (hl : s.live = true) :
    (Pool.run {} ops).next = some k ∧
    (((Pool.run {} ops).step (.req r)).1.sinks.length = (Pool.run {} ops).sinks.length) ∧
    (((Pool.run {} ops).step (.req r)).1.next = some k) ∧
    (s.st = .opened → ((Pool.run {} ops).step (.req r)).2 = [(r, some k)] ∧
        ((Pool.run {} ops).step (.req r)).1.waiters = []) ∧
    (s.st = .idle → ((Pool.run {} ops).step (.req r)).2 = [] ∧
        ((Pool.run {} ops).step (.req r)).1.waiters = (Pool.run {} ops).waiters ++ [⟨.req r, k⟩] ∧
        ∀ w ∈ ((Pool.run {} ops).step (.req r)).1.waiters, w.on = k) := by
  have hi := Pool.run_inv ops PInv.init
  generalize Pool.run {} ops = p at hi hk
  have hn := hi.live_is_next hk fun h => by simp [USink.live, h] at hl
  refine ⟨hn, ?_⟩
  cases hst : s.st with
  | closed => simp [USink.live, hst] at hl
  | opened =>
    rw [show p.step (.req r) = _ from get_opened (.req r) hn hk hst]
    exact ⟨rfl, hn, fun _ => ⟨rfl, hi.no_waiters_at hn hk (by simp [hst])⟩, nofun⟩
  | idle =>
    have h := get_idle hi (.req r) hn hk hst
    rw [show p.step (.req r) = _ from h.1]
    exact ⟨upd_length .., hn, nofun, fun _ => ⟨rfl, rfl, h.2.wait_on hn⟩⟩

/-- Concurrent first requests: when the pending open of sink `k` completes successfully, every
    request that was waiting (all of them waited on `k`) is handed to sink `k`, in arrival
    order, nobody keeps waiting, and no sink is created. -/
theorem C16_singleton_shares_concurrent (ops : List SOp) (k : Nat)
    (hp : isPending (Pool.run {} ops) k = true) :
    ((Pool.run {} ops).step (.ok k)).2 = (reqsOf (Pool.run {} ops).waiters).map (fun r => (r, some k)) ∧
    ((Pool.run {} ops).step (.ok k)).1.waiters = [] ∧
    ((Pool.run {} ops).step (.ok k)).1.sinks.length = (Pool.run {} ops).sinks.length ∧
    (∀ w ∈ (Pool.run {} ops).waiters, w.on = k) ∧
    ((Pool.run {} ops).step (.ok k)).1.next = some k := by
  have hi := Pool.run_inv ops PInv.init
  generalize Pool.run {} ops = p at hi hp
  have hn := hi.pending_is_next hp
  rw [show p.step (.ok k) = _ from if_pos hp, hi.release_eq hn]
  exact ⟨by rw [hn], rfl, upd_length .., hi.wait_on hn, hn⟩

/-- Every hand-over to a sink, in every step of every history, goes to the pool's current sink
    — the sink in the slot after the step, which is the one that was in the slot before it unless
    the step is a `Close()` with a request arriving from inside the underlying `Close()` (then it
    is the fresh sink that request created) — and every other sink is closed at that moment:
    requests are never spread over two connections. -/
theorem C16_singleton_forward_target (ops : List SOp) (op : SOp) (r k : Nat)
    (h : (r, some k) ∈ ((Pool.run {} ops).step op).2) :
    ((Pool.run {} ops).step op).1.next = some k ∧
    ((Pool.run {} ops).next = some k ∨ ∃ r', op = .pcloseR r') ∧
    ∀ i s, ((Pool.run {} ops).step op).1.sinks[i]? = some s → i ≠ k → s.st = .closed := by
  have hi := Pool.run_inv ops PInv.init
  generalize Pool.run {} ops = p at hi h
  obtain ⟨l, hf, _, hnx⟩ := (step_digest hi op).fwd
  rw [hf, List.mem_map] at h
  obtain ⟨_, hr, he⟩ := h
  have hk : (p.step op).1.next = some k := (Prod.mk.inj he).2
  refine ⟨hk, ?_, fun i s hs hik => (hi.step op).others_of_ne hk hs hik⟩
  rw [hk] at hnx
  rcases hnx with rfl | h
  · cases hr
  · exact h

/-- The one way a request leaves the pool without being handed to a sink (the real code does
    this: `_Get` re-reads `next_sink` after waiting for the open; outside what C16 demands): it
    was waiting for the open of the pool's sink when the pool's `Close()` closed that sink.  In
    every other step of every history every request that leaves `_Get` is handed to a sink. -/
theorem C16_singleton_lost_only_when_closed_during_open (ops : List SOp) (op : SOp) (r : Nat)
    (h : (r, none) ∈ ((Pool.run {} ops).step op).2) :
    (op = .pclose ∨ op = .pcloseY) ∧ r ∈ reqsOf (Pool.run {} ops).waiters ∧
    ((Pool.run {} ops).step op).1.next = none ∧
    liveCount ((Pool.run {} ops).step op).1.sinks = 0 := by
  have hi := Pool.run_inv ops PInv.init
  generalize Pool.run {} ops = p at hi h
  obtain ⟨l, hf, hl, hnx⟩ := (step_digest hi op).fwd
  rw [hf, List.mem_map] at h
  obtain ⟨r', hr, he⟩ := h
  obtain ⟨rfl, hk⟩ := Prod.mk.inj he
  rw [hk] at hnx
  rcases hnx with rfl | ⟨hcl, hac⟩
  · cases hr
  · have hop : op = .pclose ∨ op = .pcloseY := by cases op <;> simp [isClose] at hcl ⊢
    have hq : opReq op = [] := by rcases hop with rfl | rfl <;> rfl
    rw [hq, List.append_nil] at hl
    exact ⟨hop, hl ▸ List.mem_append_left _ hr, hk, (liveCount_eq_zero_iff _).2 hac⟩

/-- A sink that fails — a fault of the current sink at any time, or the failure of its pending
    open — leaves no live sink. -/
theorem C16_singleton_failed_not_live (ops : List SOp) (k : Nat)
    (hk : (Pool.run {} ops).next = some k) :
    liveCount ((Pool.run {} ops).step (.fault k)).1.sinks = 0 ∧
    (isPending (Pool.run {} ops) k = true →
      liveCount ((Pool.run {} ops).step (.fail k)).1.sinks = 0) := by
  have hi := Pool.run_inv ops PInv.init
  generalize Pool.run {} ops = p at hi hk
  have key := (liveCount_eq_zero_iff _).2 (allClosed_upd_next hi hk USink.shut fun _ => rfl)
  refine ⟨?_, fun hp => ?_⟩
  · by_cases hp : isPending p k = true
    · rw [show p.step (.fault k) = _ from if_pos hp]; exact key
    · rw [show p.step (.fault k) = _ from if_neg hp]; exact key
  · rw [show p.step (.fail k) = _ from if_pos hp]; exact key

/-- Replaces: whenever no sink is live — at the start, after the sink has failed, after the
    pool closed it — the next request creates exactly one fresh sink, opens it (one `Open()`
    call, open pending), makes it the pool's current sink and waits for it; the failed sinks are
    left as they are. -/
theorem C16_singleton_replaces_failed (ops : List SOp) (r : Nat)
    (h : liveCount (Pool.run {} ops).sinks = 0) :
    ((Pool.run {} ops).step (.req r)).1.sinks = (Pool.run {} ops).sinks ++ [⟨.idle, .pending, 1, 0⟩] ∧
    ((Pool.run {} ops).step (.req r)).1.next = some (Pool.run {} ops).sinks.length ∧
    ⟨.req r, (Pool.run {} ops).sinks.length⟩ ∈ ((Pool.run {} ops).step (.req r)).1.waiters ∧
    ((Pool.run {} ops).step (.req r)).2 = [] := by
  have hi := Pool.run_inv ops PInv.init
  generalize Pool.run {} ops = p at hi h
  rw [show p.step (.req r) = _ from get_of_allClosed hi ((liveCount_eq_zero_iff _).1 h) _]
  exact ⟨rfl, rfl, List.mem_append_right _ (List.mem_singleton_self _), rfl⟩

/-- **A request arriving during `Close()`.**  The last holder closes the pool (`rc ≤ 1`, sink `k`
    in the slot) and, while the underlying `Close()` of sink `k` is still running, a request
    reaches the pool — (a) re-entrantly, from a caller whose in-flight request that `Close()` has
    just failed (`pcloseR r`), or (b) from another greenlet while that `Close()` is suspended at a
    yield (`pcloseY`, then `req r`).  In both cases the history ends with exactly one live
    connection, and it is the pool's: a fresh sink `n` (the only sink created), in the slot,
    being opened, with request `r` waiting for it; everything handed over in that step goes to
    it.  The end of the suspended `Close()` (`cresume`) then changes nothing, and a request
    re-submitted at that point (`cresumeR`) is an ordinary request — it shares sink `n`. -/
theorem C16_singleton_request_during_close (ops : List SOp) (r k : Nat)
    (hk : (Pool.run {} ops).next = some k) (hrc : (Pool.run {} ops).rc ≤ 1) :
    (∀ q f, (q, f) = (Pool.run {} ops).step (.pcloseR r) ∨
            (q, f) = ((Pool.run {} ops).step .pcloseY).1.step (.req r) →
      q.sinks.length = (Pool.run {} ops).sinks.length + 1 ∧
      q.next = some (Pool.run {} ops).sinks.length ∧
      (∃ s, q.sinks[(Pool.run {} ops).sinks.length]? = some s ∧ s.live = true ∧ s.opens = 1) ∧
      liveCount q.sinks = 1 ∧
      ⟨.req r, (Pool.run {} ops).sinks.length⟩ ∈ q.waiters ∧
      (∀ x ∈ f, x.2 = some (Pool.run {} ops).sinks.length)) ∧
    (∀ (q : Pool) (j r' : Nat), q.step (.cresume j) = (q, []) ∧
      q.step (.cresumeR j r') = q.step (.req r')) := by
  have hi := Pool.run_inv ops PInv.init
  generalize Pool.run {} ops = p at hi hk hrc
  have hrc' : p.rc - 1 ≤ 0 := by omega
  have hlive : liveCount (upd p.sinks k USink.callClose ++ [freshSink]) = 1 := by
    have := (liveCount_eq_zero_iff _).2 (allClosed_upd_next hi hk USink.callClose fun _ => rfl)
    rw [liveCount, List.countP_append, ← liveCount, this]; rfl
  have hlast : (upd p.sinks k USink.callClose ++ [freshSink])[p.sinks.length]? = some freshSink := by
    rw [← upd_length p.sinks k USink.callClose, List.getElem?_concat_length]
  have hlen : (upd p.sinks k USink.callClose ++ [freshSink]).length = p.sinks.length + 1 := by
    rw [List.length_append, upd_length]; rfl
  refine ⟨fun q f hq => ?_, fun q j r' => ⟨rfl, rfl⟩⟩
  rcases hq with hq | hq
  · rw [show p.step (.pcloseR r) = _ from closeR_last hi r hk hrc'] at hq
    cases hq
    exact ⟨hlen, rfl, ⟨_, hlast, rfl, rfl⟩, hlive, List.mem_singleton_self _, fun x hx => by
      obtain ⟨_, _, rfl⟩ := List.mem_map.1 hx; rfl⟩
  · rw [show (p.step .pcloseY).1.step (.req r) = p.close.1.get (.req r) from rfl, close_last hi hk hrc',
      get_none _ rfl] at hq
    cases hq
    exact ⟨hlen, congrArg some (upd_length ..), ⟨_, hlast, rfl, rfl⟩, hlive,
      List.mem_singleton.2 (congrArg _ (upd_length ..).symm), nofun⟩

/-! ## RefCountedSink -/

/-- Open touches the underlying sink exactly at the transition 0 → 1 holders: the underlying
    `Open()` is called iff nobody held the sink, never `Close()`, and every Open — first or
    not — returns the result of the underlying open that is current. -/
theorem C16_refcount_open_iff_0_to_1 (ops : List ROp) (h : Nat) :
    (((RC.run {} ops).step (.ropen h)).1.opens = (RC.run {} ops).opens + 1 ↔ holders 0 ops = 0) ∧
    (((RC.run {} ops).step (.ropen h)).1.opens = (RC.run {} ops).opens ↔ holders 0 ops ≠ 0) ∧
    ((RC.run {} ops).step (.ropen h)).1.closes = (RC.run {} ops).closes ∧
    ((RC.run {} ops).step (.ropen h)).2 = ((RC.run {} ops).step (.ropen h)).1.opens ∧
    ((RC.run {} ops).step (.ropen h)).2 ≠ 0 := by
  have hi := RC.run_inv ops RInv.init
  have hb := hi.bal.opened
  rw [← show (RC.run {} ops).count = _ from RC.run_count ops {}, (hi.ropen_result h).2, RC.ropen_eq]
  dsimp only
  refine ⟨?_, ?_, rfl, rfl, ?_⟩
  · split <;> simp [*]
  · split <;> simp [*]
  · rw [hb]; simp

/-- Close touches the underlying sink exactly at the transition 1 → 0 holders: the underlying
    `Close()` is called iff the caller was the last holder; the underlying `Open()` never. -/
theorem C16_refcount_close_iff_1_to_0 (ops : List ROp) (h : Nat) :
    (((RC.run {} ops).step (.rclose h)).1.closes = (RC.run {} ops).closes + 1 ↔ holders 0 ops = 1) ∧
    (((RC.run {} ops).step (.rclose h)).1.closes = (RC.run {} ops).closes ↔ holders 0 ops ≠ 1) ∧
    ((RC.run {} ops).step (.rclose h)).1.opens = (RC.run {} ops).opens := by
  rw [← show (RC.run {} ops).count = _ from RC.run_count ops {}, RC.rclose_eq]
  dsimp only
  refine ⟨?_, ?_, rfl⟩ <;> split <;> simp [*]

/-- A Close when nobody holds the sink changes nothing at all. -/
theorem C16_surplus_close_ignored (ops : List ROp) (h : Nat) (h0 : holders 0 ops = 0) :
    (RC.run {} ops).step (.rclose h) = (RC.run {} ops, 0) := by
  have hc : (RC.run {} ops).count = 0 := (RC.run_count ops {}).trans h0
  simp [RC.step, hc]

/-- After every history (faults of the underlying sink included) the underlying sink has been
    opened exactly once more than closed if somebody holds it, and exactly as often otherwise. -/
theorem C16_underlying_balance (ops : List ROp) :
    (RC.run {} ops).opens = (RC.run {} ops).closes + (if 0 < holders 0 ops then 1 else 0) ∧
    (RC.run {} ops).count = holders 0 ops := by
  have hc : (RC.run {} ops).count = holders 0 ops := RC.run_count ops {}
  exact ⟨hc ▸ (RC.run_inv ops RInv.init).bal, hc⟩

/-! ## SharedSinkProvider -/

/-- A holder is alive from its CreateSink until it drops its reference or asks again:
    operations of other holders, anybody's Open()/Close() and faults of underlying sinks do not
    affect what it holds. -/
theorem C16_holder_alive_until_it_drops (p : Prov) (h key : Nat) :
    (h, key, (p.step (.create h key)).2) ∈ (p.step (.create h key)).1.held ∧
    (∀ x ∈ p.held, ∀ h' key', x.1 ≠ h' →
      x ∈ (p.step (.create h' key')).1.held ∧ x ∈ (p.step (.drop h')).1.held) ∧
    (∀ h' s, (p.step (.hopen h')).1.held = p.held ∧ (p.step (.hclose h')).1.held = p.held ∧
      (p.step (.fault s)).1.held = p.held) := by
  have hc : ∀ h key, (p.step (.create h key)).1.held =
      p.held.filter (fun x => x.1 != h) ++ [(h, key, (p.step (.create h key)).2)] := fun h key => by
    simp only [Prov.step]
  refine ⟨?_, fun x hx h' key' hne => ?_, fun h' s =>
    ⟨by rw [step_of_touches p (.hopen h') nofun nofun], by rw [step_of_touches p (.hclose h') nofun nofun], rfl⟩⟩
  · rw [hc]; exact List.mem_append_right _ (List.mem_singleton_self _)
  · have hf : x ∈ p.held.filter (fun y => y.1 != h') := List.mem_filter.2 ⟨hx, bne_iff_ne.2 hne⟩
    exact ⟨by rw [hc]; exact List.mem_append_left _ hf, hf⟩

/-- The same sharing key yields the same sink for as long as any holder is alive: if after any
    history — Open()/Close() calls by holders and faults of underlying sinks included, so
    whatever the state of the shared sink — holder `h` holds sink `s` obtained under key
    `key ≠ 0`, then CreateSink with that key, by anybody, returns `s`; the next provider is not
    asked for another underlying sink and no underlying sink is touched. -/
theorem C16_same_key_same_sink_while_alive (ops : List POp) (h key s h2 : Nat) (hk : key ≠ 0)
    (hh : (h, key, s) ∈ (Prov.run {} ops).held) :
    ((Prov.run {} ops).step (.create h2 key)).2 = s ∧
    ((Prov.run {} ops).step (.create h2 key)).1.created = (Prov.run {} ops).created ∧
    ((Prov.run {} ops).step (.create h2 key)).1.sinks = (Prov.run {} ops).sinks := by
  have hi := Prov.run_inv ops ProvInv.init
  generalize Prov.run {} ops = p at hi hh
  rw [step_create_hit p h2 key s hk (hi.look _ hh hk)]
  exact ⟨rfl, rfl, rfl⟩

/-- Exactly one shared sink per key while alive: after every history any two live holders that
    asked with the same sharing key hold the same sink — a `RefCountedSink` around one
    underlying sink that exists. -/
theorem C16_same_key_holders_hold_one_sink (ops : List POp) (x y : Hold)
    (hx : x ∈ (Prov.run {} ops).held) (hy : y ∈ (Prov.run {} ops).held)
    (hk : x.2.1 ≠ 0) (hxy : x.2.1 = y.2.1) :
    x.2.2 = y.2.2 ∧ 1 ≤ x.2.2 ∧ x.2.2 ≤ (Prov.run {} ops).created ∧
    (sinkAt (Prov.run {} ops).sinks x.2.2).shared = true := by
  have hi := Prov.run_inv ops ProvInv.init
  generalize Prov.run {} ops = p at hi hx hy
  have h1 := hi.look x hx hk
  rw [hxy, hi.look y hy (hxy ▸ hk)] at h1
  have hs := hi.shared_of hx hk
  exact ⟨(Option.some.inj h1).symm, (range_of_shared hs).1, (range_of_shared hs).2, hs⟩

/-- Exactly one underlying sink per key while alive: in every step of every history the next
    provider is asked for an underlying sink only by a CreateSink without sharing key or with a
    key under which no live holder holds a sink, and then for exactly one. -/
theorem C16_underlying_created_only_without_live_holder (ops : List POp) (op : POp) :
    ((Prov.run {} ops).step op).1.created = (Prov.run {} ops).created ∨
    (((Prov.run {} ops).step op).1.created = (Prov.run {} ops).created + 1 ∧
      ∃ h key, op = .create h key ∧ (key = 0 ∨ ∀ x ∈ (Prov.run {} ops).held, x.2.1 ≠ key)) := by
  have hi := Prov.run_inv ops ProvInv.init
  generalize Prov.run {} ops = p at hi
  cases op with
  | drop h => exact Or.inl rfl
  | fault s => exact Or.inl (modAt_length ..)
  | hopen h | hclose h =>
    rw [step_of_touches]
    · exact Or.inl (modAt_length ..)
    · nofun
    · nofun
  | create h key =>
    by_cases hkey : key = 0
    · subst hkey
      exact Or.inr ⟨List.length_append, h, 0, rfl, Or.inl rfl⟩
    · cases hl : lookup p.cache key with
      | some s => rw [step_create_hit p h key s hkey hl]; exact Or.inl rfl
      | none =>
        rw [step_create_miss p h key hkey hl]
        exact Or.inr ⟨List.length_append, h, key, rfl, Or.inr fun x hx hxk =>
          nomatch (hxk ▸ hi.look x hx (hxk ▸ hkey)).symm.trans hl⟩

/-- Through the provider, too, a shared underlying sink is opened on the first Open and closed
    only when its last holder closes: after every history (faults included) every shared
    underlying sink has seen exactly one more `Open()` than `Close()` if some holder has it
    open, and exactly as many otherwise. -/
theorem C16_shared_underlying_balance (ops : List POp) (s : Nat)
    (hs : (sinkAt (Prov.run {} ops).sinks s).shared = true) :
    (sinkAt (Prov.run {} ops).sinks s).opens =
      (sinkAt (Prov.run {} ops).sinks s).closes + (if 0 < (sinkAt (Prov.run {} ops).sinks s).rc then 1 else 0) :=
  (Prov.run_inv ops ProvInv.init).bal s hs

/-- A holder's Open()/Close() on the shared sink it holds reaches the underlying sink exactly at
    the transitions 0 → 1 and 1 → 0 of the wrapper's count, a surplus Close changes nothing, and
    no other sink is touched. -/
theorem C16_shared_open_close_at_transitions (ops : List POp) (h : Nat) (x : Hold)
    (hx : heldBy (Prov.run {} ops).held h = some x) (hk : x.2.1 ≠ 0) :
    let ps := sinkAt (Prov.run {} ops).sinks x.2.2
    let po := sinkAt ((Prov.run {} ops).step (.hopen h)).1.sinks x.2.2
    let pc := sinkAt ((Prov.run {} ops).step (.hclose h)).1.sinks x.2.2
    (po.opens = ps.opens + (if ps.rc = 0 then 1 else 0) ∧ po.closes = ps.closes ∧ po.rc = ps.rc + 1) ∧
    (pc.opens = ps.opens ∧ pc.closes = ps.closes + (if ps.rc = 1 then 1 else 0) ∧ pc.rc = ps.rc - 1) ∧
    (ps.rc = 0 → pc = ps) ∧
    (∀ s', s' ≠ x.2.2 →
      sinkAt ((Prov.run {} ops).step (.hopen h)).1.sinks s' = sinkAt (Prov.run {} ops).sinks s' ∧
      sinkAt ((Prov.run {} ops).step (.hclose h)).1.sinks s' = sinkAt (Prov.run {} ops).sinks s') := by
  have hi := Prov.run_inv ops ProvInv.init
  generalize Prov.run {} ops = p at hi hx
  have hsh := hi.shared_of (heldBy_mem hx) hk
  have hs := range_of_shared hsh
  simp only [step_of_touches p (.hopen h) nofun nofun, step_of_touches p (.hclose h) nofun nofun, touches, hx,
    Option.map_some, Option.getD_some, sinkAt_modAt, hs, and_self, if_true]
  refine ⟨hopen_of_shared _ hsh, hclose_of_shared _ hsh, fun h0 => ?_, fun s' hne => ?_⟩
  · simp [PSink.hclose, hsh, h0]
  · simp [Ne.symm hne]

/-- A transport fault of an underlying sink only closes that sink: it calls neither `Open()`
    nor `Close()`, leaves the wrapper's count, every other sink, the cache and what the
    holders hold as they are. -/
theorem C16_fault_only_closes (p : Prov) (s : Nat) (hs : 1 ≤ s ∧ s ≤ p.created) :
    sinkAt (p.step (.fault s)).1.sinks s = { sinkAt p.sinks s with st := .closed } ∧
    (∀ s', s' ≠ s → sinkAt (p.step (.fault s)).1.sinks s' = sinkAt p.sinks s') ∧
    (p.step (.fault s)).1.cache = p.cache ∧ (p.step (.fault s)).1.held = p.held := by
  refine ⟨?_, fun s' hne => sinkAt_modAt_ne _ _ _ _ (Ne.symm hne), rfl, rfl⟩
  show sinkAt (modAt p.sinks s PSink.ufault) s = _
  rw [sinkAt_modAt, if_pos ⟨rfl, hs.1, hs.2⟩]
  rfl

/-! ## the model's observations always satisfy the executable specifications

  `singleton.spec`, `refcount.spec`, `sharedprov.spec` are the predicates the harness
  evaluates on the implementation's observations. -/

theorem C16_singleton_model_satisfies_spec (cfg : Unit) (ops : List SOp)
    (_ : singleton.wf cfg ops = true) :
    singleton.spec cfg (singleton.modelTrace cfg ops) = .ok := by
  rw [show singleton = guarded singletonCore from rfl, guarded_model_spec]
  exact spec_singleton_go ops {} 0 PInv.init

theorem C16_refcount_model_satisfies_spec (cfg : Bool) (ops : List ROp)
    (_ : refcount.wf cfg ops = true) :
    refcount.spec cfg (refcount.modelTrace cfg ops) = .ok := by
  rw [show refcount = guarded refcountCore from rfl, guarded_model_spec]
  exact spec_refcount_go cfg ops {} 0 RInv.init

theorem C16_sharedprov_model_satisfies_spec (cfg : Unit) (ops : List POp)
    (_ : sharedprov.wf cfg ops = true) :
    sharedprov.spec cfg (sharedprov.modelTrace cfg ops) = .ok := by
  rw [show sharedprov = guarded sharedprovCore from rfl, guarded_model_spec]
  exact spec_sharedprov_go ops {} {} 0 ProvInv.init PRel.init

/-- An exception that escapes the implementation where the model predicts a normal outcome is
    judged, never accepted: a history of outcomes of any of the three components that contains
    a raised outcome does not satisfy the component's specification. -/
theorem C16_raised_outcome_is_a_violation :
    (∀ (h : List (SOp × Res SObs)) op w, (op, Res.raised w) ∈ h → singleton.spec () h ≠ .ok) ∧
    (∀ (y : Bool) (h : List (ROp × Res RObs)) op w, (op, Res.raised w) ∈ h → refcount.spec y h ≠ .ok) ∧
    (∀ (h : List (POp × Res PObs)) op w, (op, Res.raised w) ∈ h → sharedprov.spec () h ≠ .ok) :=
  ⟨fun h op w hm => guardSpec_raised _ h op w hm, fun _ h op w hm => guardSpec_raised _ h op w hm,
   fun h op w hm => guardSpec_raised _ h op w hm⟩

/-- **C16, specification level**: for every history of each of the three components the
    model's observations satisfy the executable specification. -/
theorem C16_model_satisfies_spec :
    (∀ (ops : List SOp), singleton.wf () ops = true →
        singleton.spec () (singleton.modelTrace () ops) = .ok) ∧
    (∀ (y : Bool) (ops : List ROp), refcount.wf y ops = true →
        refcount.spec y (refcount.modelTrace y ops) = .ok) ∧
    (∀ (ops : List POp), sharedprov.wf () ops = true →
        sharedprov.spec () (sharedprov.modelTrace () ops) = .ok) :=
  ⟨fun ops h => C16_singleton_model_satisfies_spec () ops h,
   fun y ops h => C16_refcount_model_satisfies_spec y ops h,
   fun ops h => C16_sharedprov_model_satisfies_spec () ops h⟩

/-! non-vacuity: the hypotheses of the theorems above are met by concrete histories -/

-- two concurrent first requests wait on sink 0, which is pending
example : isPending (Pool.run {} [.req 1, .req 2]) 0 = true := by decide
example : ((Pool.run {} [.req 1, .req 2]).step (.ok 0)).2 = [(1, some 0), (2, some 0)] := by decide
-- the pool is closed while a request waits for the open: the request is handed to nobody
example : ((Pool.run {} [.popen, .req 1]).step .pclose).2 = [(1, none)] := by decide
-- the last holder closes the pool over an open sink; request 2 arrives from inside the underlying
-- Close(), or from another greenlet while that Close() is suspended: sink 1 is created, is the
-- pool's, and is the only live one
example : (Pool.run {} [.req 1, .ok 0]).next = some 0 ∧ (Pool.run {} [.req 1, .ok 0]).rc ≤ 1 := by decide
example : ((Pool.run {} [.req 1, .ok 0]).step (.pcloseR 2)).1.next = some 1 ∧
    liveCount ((Pool.run {} [.req 1, .ok 0]).step (.pcloseR 2)).1.sinks = 1 := by decide
example : (Pool.run {} [.req 1, .ok 0, .pcloseY, .req 2, .cresume 0]).next = some 1 ∧
    liveCount (Pool.run {} [.req 1, .ok 0, .pcloseY, .req 2, .cresume 0]).sinks = 1 := by decide
-- … and the greenlets that were waiting for the closed sink's open are handed to the fresh sink
example : ((Pool.run {} [.req 1]).step (.pcloseR 2)).2 = [(1, some 1)] := by decide
-- after a fault of the open sink nothing is live; the next request creates sink 1
example : liveCount (Pool.run {} [.req 1, .ok 0, .fault 0]).sinks = 0 := by decide
example : ((Pool.run {} [.req 1, .ok 0, .fault 0]).step (.req 2)).1.next = some 1 := by decide
-- a live, open sink exists
example : (Pool.run {} [.req 1, .ok 0]).sinks[0]? = some ⟨.opened, .done, 1, 0⟩ := by decide
-- holders: two opens, one close, surplus closes
example : holders 0 [.ropen 1, .ropen 2, .rclose 1] = 1 := by decide
example : holders 0 [.ropen 1, .rclose 1, .rclose 1, .rclose 2] = 0 := by decide
-- a holder holding a shared sink
example : (1, 7, 1) ∈ (Prov.run {} [.create 1 7, .create 2 7, .drop 2]).held := by decide
-- … which is Closed because its underlying sink faulted while two holders had it open, or
-- because its last holder closed it; a new holder of the key still gets sink 1
example : (1, 7, 1) ∈ (Prov.run {} [.create 1 7, .create 2 7, .hopen 1, .hopen 2, .fault 1]).held ∧
    (sinkAt (Prov.run {} [.create 1 7, .create 2 7, .hopen 1, .hopen 2, .fault 1]).sinks 1).st = .closed ∧
    ((Prov.run {} [.create 1 7, .create 2 7, .hopen 1, .hopen 2, .fault 1]).step (.create 3 7)).2 = 1 := by
  decide
example : (sinkAt (Prov.run {} [.create 1 7, .hopen 1, .hclose 1]).sinks 1).st = .closed ∧
    ((Prov.run {} [.create 1 7, .hopen 1, .hclose 1]).step (.create 2 7)).2 = 1 := by decide
-- a holder of a shared sink, as `heldBy` sees it
example : heldBy (Prov.run {} [.create 1 7, .hopen 1]).held 1 = some (1, 7, 1) := by decide
-- a key without live holder: the entry was collected, the next CreateSink makes sink 2
example : ((Prov.run {} [.create 1 7, .drop 1]).step (.create 2 7)).2 = 2 := by decide

end Scales.Shared
