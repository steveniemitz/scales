/-
  Props/E2EMonitor.lean — what a verdict of the end-to-end monitors MEANS about the event log.

  Adapter/E2E.lean defines the runtime monitors that judge the event logs of the assembled Thrift /
  ThriftMux clients (components e2e1 = C01, e2e2 = C02, e2e12 = C12, e2e9 = C09; `monGo w mux {} 0 log`).
  Every clause has a declarative reading: a predicate over the event list alone, in terms of positions
  `log[i]?` — no monitor state (`UnknownCallAt` … `NoReconnectAt`, `Violated1/2/9/12`; they are defined at the head of
  Proofs/E2EMonitorReadings.lean) — and here, for every property,
    * `Cxx_monitor_ok_iff`      verdict `ok`  ⇔  no clause is violated anywhere in the log   (sound and complete)
    * `Cxx_monitor_fail_sound`  verdict `fail cl (i :: rest)`  ⇒  clause `cl` IS violated at position `i`, and
                                `rest` names the call / endpoint concerned
    * `Cxx_monitor_fail_first`  … and nothing is violated before position `i`
    * `Cxx_monitor_<clause>_detected`  the clause's violation, in its plain index form, is never judged `ok`
  for every log, without a length bound.  Calls are numbered in the order of their `issue` events (the harness
  numbers them so; `issuedBefore_of_numbered`), "call `c` was issued before position `j`" is
  `IssuedBefore log j c T ti`.  As in `verdictAt`, only a completion event can be an `unknown-call`: a frame
  written for a call number never issued is not judged.

  Proof: Proofs/E2EMonitorLemmas.lean (the verdict is the first check that is not ok; the state after a history
  represents it, `Rep`, `View9`) and Proofs/E2EMonitorReadings.lean (every check, in a state that represents the history before
  it, read as its clauses; `monitor# : Reads # mux log (Violated# …)`); every theorem here is a field or corollary of
  `monitor#`; the three exact forms (`…_cross_talk_iff`, `…_connect_after_close_iff`, `…_write_after_timeout_iff`) use the
  reading of their one check besides.  The theorems sit in the namespaces of the properties they are locked with.
-/
import ScalesModel.Proofs.E2EMonitorReadings
namespace Scales.E2E

/-- `Verdict` has no `DecidableEq`; this is what lets `by decide` evaluate `monGo … = .ok` in the examples below -/
instance (v : Verdict) : Decidable (v = .ok) :=
  match v with
  | .ok => isTrue rfl
  | .fail _ _ => isFalse (by intro h; cases h)

/-- with the harness's numbering, "call `c` was issued before `j`" is just "an `issue c …` event before `j`" -/
theorem issuedBefore_of_numbered {log : List Ev} (hn : Numbered log) {j c T ti : Nat} :
    IssuedBefore log j c T ti ↔ ∃ i pre, i < j ∧ log[i]? = some (.issue c T ti pre) := by
  constructor
  · rintro ⟨i, c', pre, hlt, hi, hc⟩
    have := hn i c' T ti pre hi
    rw [hc] at this; subst this
    exact ⟨i, pre, hlt, hi⟩
  · rintro ⟨i, pre, hlt, hi⟩
    exact ⟨i, c, pre, hlt, hi, hn i c T ti pre hi⟩

end Scales.E2E

/-! ## C01 — monitor `e2e1` -/
namespace Scales.FrontEnd
open Scales.E2E

/-- verdict `ok` ⇔ no C01 clause (unknown-call, foreign-reply, completed-twice, timeout-early, deadline-bound on
    completions and at ticks) is violated at any position of the log -/
theorem C01_monitor_ok_iff (mux : Bool) (log : List Ev) :
    monGo 1 mux {} 0 log = .ok ↔ ∀ cl j rest, ¬ Violated1 log cl j rest := (monitor1 mux log).ok_iff

/-- a `fail` verdict names a clause that IS violated, at the reported position, by the reported call -/
theorem C01_monitor_fail_sound (mux : Bool) (log : List Ev) (cl : String) (ps : List V)
    (h : monGo 1 mux {} 0 log = .fail cl ps) : ∃ j rest, ps = V.ofNat j :: rest ∧ Violated1 log cl j rest :=
  (monitor1 mux log).fail_sound h

/-- … and the reported position is the FIRST position of the log at which any clause is violated: an earlier
    violation is never masked by a later one -/
theorem C01_monitor_fail_first (mux : Bool) (log : List Ev) (cl : String) (ps : List V)
    (h : monGo 1 mux {} 0 log = .fail cl ps) :
    ∃ j rest, ps = V.ofNat j :: rest ∧ ∀ i, i < j → ∀ cl' rest', ¬ Violated1 log cl' i rest' :=
  (monitor1 mux log).fail_first h

theorem C01_monitor_unknown_call_detected (mux : Bool) (log : List Ev) (j : Nat) (h : UnknownCallAt log j) :
    monGo 1 mux {} 0 log ≠ .ok :=
  (monitor1 mux log).detected (Or.inl ⟨rfl, rfl, h⟩)

theorem C01_monitor_foreign_reply_detected (mux : Bool) (log : List Ev) (j c : Nat) (k : Int)
    (h : CrossTalkAt log j c k) : monGo 1 mux {} 0 log ≠ .ok :=
  (monitor1 mux log).detected (Or.inr (Or.inl ⟨rfl, c, k, rfl, h⟩))

theorem C01_monitor_completed_twice_detected (mux : Bool) (log : List Ev) (j c : Nat)
    (h : CompletedTwiceAt log j c) : monGo 1 mux {} 0 log ≠ .ok :=
  (monitor1 mux log).detected (Or.inr (Or.inr (Or.inl ⟨rfl, c, rfl, h⟩)))

theorem C01_monitor_timeout_early_detected (mux : Bool) (log : List Ev) (j c : Nat)
    (h : TimeoutEarlyAt log j c) : monGo 1 mux {} 0 log ≠ .ok :=
  (monitor1 mux log).detected (Or.inr (Or.inr (Or.inr (Or.inl ⟨rfl, c, rfl, h⟩))))

theorem C01_monitor_deadline_bound_detected (mux : Bool) (log : List Ev) (j c : Nat)
    (h : DeadlineMissedAt log j c ∨ OverdueAt log j c) : monGo 1 mux {} 0 log ≠ .ok :=
  (monitor1 mux log).detected (Or.inr (Or.inr (Or.inr (Or.inr ⟨rfl, c, default, rfl, h⟩))))

theorem C01_monitor_foreign_reply_sound (mux : Bool) (log : List Ev) (ps : List V)
    (h : monGo 1 mux {} 0 log = .fail "foreign-reply" ps) :
    ∃ j c k, ps = [V.ofNat j, V.ofNat c] ∧ CrossTalkAt log j c k := by
  obtain ⟨j, rest, rfl, hv⟩ := C01_monitor_fail_sound mux log _ ps h
  simp only [Violated1, String.reduceEq, false_and, false_or, or_false, true_and] at hv
  obtain ⟨c, k, rfl, hv⟩ := hv
  exact ⟨j, c, k, rfl, hv⟩

theorem C01_monitor_completed_twice_sound (mux : Bool) (log : List Ev) (ps : List V)
    (h : monGo 1 mux {} 0 log = .fail "completed-twice" ps) :
    ∃ j c, ps = [V.ofNat j, V.ofNat c] ∧ CompletedTwiceAt log j c := by
  obtain ⟨j, rest, rfl, hv⟩ := C01_monitor_fail_sound mux log _ ps h
  simp only [Violated1, String.reduceEq, false_and, false_or, or_false, true_and] at hv
  obtain ⟨c, rfl, hv⟩ := hv
  exact ⟨j, c, rfl, hv⟩

theorem C01_monitor_timeout_early_sound (mux : Bool) (log : List Ev) (ps : List V)
    (h : monGo 1 mux {} 0 log = .fail "timeout-early" ps) :
    ∃ j c, ps = [V.ofNat j, V.ofNat c] ∧ TimeoutEarlyAt log j c := by
  obtain ⟨j, rest, rfl, hv⟩ := C01_monitor_fail_sound mux log _ ps h
  simp only [Violated1, String.reduceEq, false_and, false_or, or_false, true_and] at hv
  obtain ⟨c, rfl, hv⟩ := hv
  exact ⟨j, c, rfl, hv⟩

theorem C01_monitor_deadline_bound_sound (mux : Bool) (log : List Ev) (ps : List V)
    (h : monGo 1 mux {} 0 log = .fail "deadline-bound" ps) :
    ∃ j c tag, ps = [V.ofNat j, V.ofNat c, tag] ∧ (DeadlineMissedAt log j c ∨ OverdueAt log j c) := by
  obtain ⟨j, rest, rfl, hv⟩ := C01_monitor_fail_sound mux log _ ps h
  simp only [Violated1, String.reduceEq, false_and, false_or, true_and] at hv
  obtain ⟨c, tag, rfl, hv⟩ := hv
  exact ⟨j, c, tag, rfl, hv⟩

theorem C01_monitor_unknown_call_sound (mux : Bool) (log : List Ev) (ps : List V)
    (h : monGo 1 mux {} 0 log = .fail "unknown-call" ps) : ∃ j, ps = [V.ofNat j] ∧ UnknownCallAt log j := by
  obtain ⟨j, rest, rfl, hv⟩ := C01_monitor_fail_sound mux log _ ps h
  simp only [Violated1, String.reduceEq, false_and, or_false, true_and] at hv
  obtain ⟨rfl, hv⟩ := hv
  exact ⟨j, rfl, hv⟩

/-! examples: a log the monitor accepts (two calls, one answered, one timed out exactly at its rounded deadline,
    a late tick), and logs exhibiting each violation -/

def exGood1 : List Ev :=
  [.issue 0 25000 1000 true, .opened 1500, .issue 1 30000 2000 false, .done 0 .own 9000, .tick 20000,
   .done 1 .timeout 40000, .tick 90000]

example : monGo 1 false {} 0 exGood1 = .ok := by decide
example : Numbered exGood1 := by
  intro i c T t pre h
  rcases i with _ | _ | _ | _ | _ | _ | _ | i <;> cases h <;> rfl
example : ∀ j c, ¬ CompletedTwiceAt exGood1 j c :=
  fun j c h => C01_monitor_completed_twice_detected false exGood1 j c h (by decide)

/-- call 0 completes twice -/
def exTwice : List Ev := [.issue 0 25000 1000 false, .done 0 .own 5000, .tick 6000, .done 0 .timeout 26000]
example : monGo 1 false {} 0 exTwice = .fail "completed-twice" [V.ofNat 3, V.ofNat 0] := rfl
example : CompletedTwiceAt exTwice 3 0 := ⟨.timeout, 26000, rfl, 1, .own, 5000, by decide, rfl, by decide⟩

/-- TimeoutError 1 ms early -/
def exEarly : List Ev := [.issue 0 25000 1000 false, .done 0 .timeout 25000]
example : monGo 1 false {} 0 exEarly = .fail "timeout-early" [V.ofNat 1, V.ofNat 0] := rfl
example : TimeoutEarlyAt exEarly 1 0 :=
  ⟨25000, 25000, 1000, rfl, ⟨0, 0, false, by decide, rfl, rfl⟩,
   (by rintro ⟨i, o, t, hlt, hi, -⟩; obtain rfl : i = 0 := by omega
       cases hi), by decide⟩

/-- still pending at a tick after the rounded deadline (1000 + 25000 rounds up to 30000) -/
def exOverdue : List Ev := [.issue 0 25000 1000 false, .tick 30000, .tick 30001]
example : monGo 1 false {} 0 (exOverdue.take 2) = .ok := by decide
example : ∃ tag, monGo 1 false {} 0 exOverdue = .fail "deadline-bound" [V.ofNat 2, V.ofNat 0, tag] := ⟨_, rfl⟩
example : OverdueAt exOverdue 2 0 :=
  ⟨30001, 25000, 1000, rfl, ⟨0, 0, false, by decide, rfl, rfl⟩,
   (by rintro ⟨i, o, t, hlt, hi, -⟩; obtain rfl | rfl : i = 0 ∨ i = 1 := by omega
       all_goals cases hi), by decide, by decide⟩

/-- completion 1 µs after the rounded deadline (1000 + 25000 rounds up to 30000); at 30000 it is in time -/
def exLate : List Ev := [.issue 0 25000 1000 true, .opened 2000, .done 0 .own 30001]
example : ∃ tag, monGo 1 true {} 0 exLate = .fail "deadline-bound" [V.ofNat 2, V.ofNat 0, tag] := ⟨_, rfl⟩
example : monGo 1 true {} 0 [.issue 0 25000 1000 true, .opened 2000, .done 0 .own 30000] = .ok := by decide
example : DeadlineMissedAt exLate 2 0 :=
  ⟨.own, 30001, 25000, 1000, rfl, ⟨0, 0, true, by decide, rfl, rfl⟩,
   (by rintro ⟨i, o, t, hlt, hi, -⟩; obtain rfl | rfl : i = 0 ∨ i = 1 := by omega
       all_goals cases hi), by decide, by decide⟩

/-- a reply made for call 0 completes call 1; a completion for a call never issued -/
def exForeign : List Ev := [.issue 0 0 1000 false, .issue 1 0 1000 false, .done 1 (.other 0) 2000]
example : monGo 1 true {} 0 exForeign = .fail "foreign-reply" [V.ofNat 2, V.ofNat 1] := rfl
example : CrossTalkAt exForeign 2 1 0 := ⟨2000, rfl, by decide⟩
example : monGo 1 true {} 0 [.issue 0 0 1000 false, .done 1 .own 2000] = .fail "unknown-call" [V.ofNat 1] := rfl
example : UnknownCallAt [.issue 0 0 1000 false, .done 1 .own 2000] 1 := ⟨1, .own, 2000, rfl, by decide⟩

end Scales.FrontEnd

/-! ## C02 — monitor `e2e2` -/
namespace Scales.TagPool
open Scales.E2E

/-- verdict `ok` ⇔ no C02 clause (unknown-call, cross-talk, args-mangled) is violated at any position -/
theorem C02_monitor_ok_iff (mux : Bool) (log : List Ev) :
    monGo 2 mux {} 0 log = .ok ↔ ∀ cl j rest, ¬ Violated2 log cl j rest := (monitor2 mux log).ok_iff

theorem C02_monitor_fail_sound (mux : Bool) (log : List Ev) (cl : String) (ps : List V)
    (h : monGo 2 mux {} 0 log = .fail cl ps) : ∃ j rest, ps = V.ofNat j :: rest ∧ Violated2 log cl j rest :=
  (monitor2 mux log).fail_sound h

/-- … and the reported position is the FIRST position of the log at which any clause is violated: an earlier
    violation is never masked by a later one -/
theorem C02_monitor_fail_first (mux : Bool) (log : List Ev) (cl : String) (ps : List V)
    (h : monGo 2 mux {} 0 log = .fail cl ps) :
    ∃ j rest, ps = V.ofNat j :: rest ∧ ∀ i, i < j → ∀ cl' rest', ¬ Violated2 log cl' i rest' :=
  (monitor2 mux log).fail_first h

/-- some `done c (other k) t` event for a call `c` that was issued is never judged `ok` -/
theorem C02_monitor_cross_talk_detected (mux : Bool) (log : List Ev) (j c : Nat) (k : Int)
    (h : CrossTalkAt log j c k) : monGo 2 mux {} 0 log ≠ .ok :=
  (monitor2 mux log).detected (Or.inr (Or.inl ⟨rfl, c, k, rfl, h⟩))

theorem C02_monitor_cross_talk_sound (mux : Bool) (log : List Ev) (ps : List V)
    (h : monGo 2 mux {} 0 log = .fail "cross-talk" ps) :
    ∃ j c k, ps = [V.ofNat j, V.ofNat c, .n k] ∧ CrossTalkAt log j c k := by
  obtain ⟨j, rest, rfl, hv⟩ := C02_monitor_fail_sound mux log _ ps h
  simp only [Violated2, String.reduceEq, false_and, false_or, or_false, true_and] at hv
  obtain ⟨c, k, rfl, hv⟩ := hv
  exact ⟨j, c, k, rfl, hv⟩

/-- exact form: the verdict is `fail cross-talk (j c k)` IFF `log[j] = done c (other k) _` for an issued call `c`
    and no clause is violated before `j` -/
theorem C02_monitor_cross_talk_iff (mux : Bool) (log : List Ev) (j c : Nat) (k : Int) :
    monGo 2 mux {} 0 log = .fail "cross-talk" [V.ofNat j, V.ofNat c, .n k] ↔
      CrossTalkAt log j c k ∧ ∀ i, i < j → ∀ cl rest, ¬ Violated2 log cl i rest := by
  refine ⟨fun h => ?_, fun ⟨hx, hfirst⟩ => ?_⟩
  · obtain ⟨j', c', k', hps, hx⟩ := C02_monitor_cross_talk_sound mux log _ h
    simp only [List.cons.injEq, V.n.injEq, and_true] at hps
    obtain ⟨hj, hc, rfl⟩ := hps
    cases V.ofNat_inj hj; cases V.ofNat_inj hc
    exact ⟨hx, (((monitor2 mux log).fail_iff ..).mp h).2⟩
  · obtain ⟨e, hj, hv⟩ := verdict2_cross_talk (rep _) hx
    exact ((monitor2 mux log).fail_iff ..).mpr ⟨checkAt_of_event hj (preV_ne9 (by decide) ..) hv, hfirst⟩

theorem C02_monitor_args_mangled_detected (mux : Bool) (log : List Ev) (j : Nat)
    (h : ArgsMangledAt log j) : monGo 2 mux {} 0 log ≠ .ok :=
  (monitor2 mux log).detected (Or.inr (Or.inr ⟨rfl, rfl, h⟩))

theorem C02_monitor_unknown_call_detected (mux : Bool) (log : List Ev) (j : Nat) (h : UnknownCallAt log j) :
    monGo 2 mux {} 0 log ≠ .ok :=
  (monitor2 mux log).detected (Or.inl ⟨rfl, rfl, h⟩)

theorem C02_monitor_args_mangled_sound (mux : Bool) (log : List Ev) (ps : List V)
    (h : monGo 2 mux {} 0 log = .fail "args-mangled" ps) : ∃ j, ps = [V.ofNat j] ∧ ArgsMangledAt log j := by
  obtain ⟨j, rest, rfl, hv⟩ := C02_monitor_fail_sound mux log _ ps h
  simp only [Violated2, String.reduceEq, false_and, false_or, true_and] at hv
  obtain ⟨rfl, hv⟩ := hv
  exact ⟨j, rfl, hv⟩

def exGood2 : List Ev :=
  [.issue 0 50000 1000 false, .wrote 0 0 false 1 1000, .issue 1 50000 1100 false, .wrote 1 0 false 2 1100,
   .srvgot 1 0 true 1200, .srvgot 0 0 true 1200, .done 1 .own 1300, .done 0 .timeout 51000]
example : monGo 2 true {} 0 exGood2 = .ok := by decide
example : ∀ j c k, ¬ CrossTalkAt exGood2 j c k :=
  fun j c k h => C02_monitor_cross_talk_detected true exGood2 j c k h (by decide)

/-- call 1 receives the reply produced for call 0 -/
def exCross : List Ev :=
  [.issue 0 50000 1000 false, .issue 1 50000 1100 false, .done 0 .timeout 51000, .done 1 (.other 0) 52000]
example : monGo 2 false {} 0 exCross = .fail "cross-talk" [V.ofNat 3, V.ofNat 1, .n 0] := rfl
example : CrossTalkAt exCross 3 1 0 := ⟨52000, rfl, by decide⟩
example : ∀ i, i < 3 → ∀ cl rest, ¬ Violated2 exCross cl i rest :=
  ((C02_monitor_cross_talk_iff false exCross 3 1 0).mp rfl).2

def exMangled : List Ev := [.issue 0 50000 1000 false, .srvgot 0 0 false 1200]
example : monGo 2 false {} 0 exMangled = .fail "args-mangled" [V.ofNat 1] := rfl
example : ArgsMangledAt exMangled 1 := ⟨0, 0, false, 1200, rfl, Or.inl rfl⟩

end Scales.TagPool

/-! ## C09 — monitor `e2e9` -/
namespace Scales.Res
open Scales.E2E

/-- verdict `ok` ⇔ no C09 clause of the assembled-stack monitor (connect-after-close,
    no-reconnect-within-max-interval; unknown-call) is violated at any position -/
theorem C09_monitor_ok_iff (mux : Bool) (log : List Ev) :
    monGo 9 mux {} 0 log = .ok ↔ ∀ cl j rest, ¬ Violated9 log cl j rest := (monitor9 mux log).ok_iff

theorem C09_monitor_fail_sound (mux : Bool) (log : List Ev) (cl : String) (ps : List V)
    (h : monGo 9 mux {} 0 log = .fail cl ps) : ∃ j rest, ps = V.ofNat j :: rest ∧ Violated9 log cl j rest :=
  (monitor9 mux log).fail_sound h

/-- … and the reported position is the FIRST position of the log at which any clause is violated: an earlier
    violation is never masked by a later one -/
theorem C09_monitor_fail_first (mux : Bool) (log : List Ev) (cl : String) (ps : List V)
    (h : monGo 9 mux {} 0 log = .fail cl ps) :
    ∃ j rest, ps = V.ofNat j :: rest ∧ ∀ i, i < j → ∀ cl' rest', ¬ Violated9 log cl' i rest' :=
  (monitor9 mux log).fail_first h

/-- `∃ i < j, log[i] = clientclosed _ ∧ log[j] = connect ep _` is never judged `ok` -/
theorem C09_monitor_connect_after_close_detected (mux : Bool) (log : List Ev) (j ep : Nat)
    (h : ConnectAfterCloseAt log j ep) : monGo 9 mux {} 0 log ≠ .ok :=
  (monitor9 mux log).detected (Or.inr (Or.inl ⟨rfl, ep, rfl, h⟩))

/-- a verdict `fail connect-after-close (j ep)` means: `log[j] = connect ep _` and `DispatcherClose()` had
    returned at an earlier position -/
theorem C09_monitor_connect_after_close_sound (mux : Bool) (log : List Ev) (ps : List V)
    (h : monGo 9 mux {} 0 log = .fail "connect-after-close" ps) :
    ∃ j ep, ps = [V.ofNat j, V.ofNat ep] ∧ ConnectAfterCloseAt log j ep := by
  obtain ⟨j, rest, rfl, hv⟩ := C09_monitor_fail_sound mux log _ ps h
  simp only [Violated9, String.reduceEq, false_and, false_or, or_false, true_and] at hv
  obtain ⟨ep, rfl, hv⟩ := hv
  exact ⟨j, ep, rfl, hv⟩

/-- exact form: the verdict is `fail connect-after-close (j ep)` IFF `log[j] = connect ep _` with
    `DispatcherClose()` returned at an earlier position, no clause is violated before `j`, and the retry check made
    before the event at `j` passes -/
theorem C09_monitor_connect_after_close_iff (mux : Bool) (log : List Ev) (j ep : Nat) :
    monGo 9 mux {} 0 log = .fail "connect-after-close" [V.ofNat j, V.ofNat ep] ↔
      ConnectAfterCloseAt log j ep ∧ (∀ i, i < j → ∀ cl rest, ¬ Violated9 log cl i rest) ∧
      ∀ ep', ¬ NoReconnectAt log j ep' := by
  refine ⟨fun h => ?_, fun ⟨hx, hfirst, hno⟩ => ?_⟩
  · obtain ⟨j', ep', hps, hx⟩ := C09_monitor_connect_after_close_sound mux log _ h
    simp only [List.cons.injEq, and_true] at hps
    cases V.ofNat_inj hps.1; cases V.ofNat_inj hps.2
    obtain ⟨hc, hfirst⟩ := ((monitor9 mux log).fail_iff ..).mp h
    refine ⟨hx, hfirst, ?_⟩
    obtain ⟨i, t, t', -, -, hj⟩ := hx
    rw [checkAt_of_getElem? hj, Verdict.and_eq_fail] at hc
    rcases hc with hc | ⟨hp, -⟩
    · exact absurd (preV9_fail (view9 hj) hj hc).1 (by decide)
    · exact (preV9_eq_ok (view9 hj) hj).mp hp
  · obtain ⟨_, _, _, _, _, hj⟩ := id hx
    obtain ⟨e, hj, hv⟩ := verdict9_connect_after_close (view9 hj) hx
    exact ((monitor9 mux log).fail_iff ..).mpr ⟨checkAt_of_event hj ((preV9_eq_ok (view9 hj) hj).mpr hno) hv, hfirst⟩

theorem C09_monitor_no_reconnect_detected (mux : Bool) (log : List Ev) (j ep : Nat)
    (h : NoReconnectAt log j ep) : monGo 9 mux {} 0 log ≠ .ok :=
  (monitor9 mux log).detected (Or.inr (Or.inr ⟨rfl, ep, rfl, h⟩))

theorem C09_monitor_no_reconnect_sound (mux : Bool) (log : List Ev) (ps : List V)
    (h : monGo 9 mux {} 0 log = .fail "no-reconnect-within-max-interval" ps) :
    ∃ j ep, ps = [V.ofNat j, V.ofNat ep] ∧ NoReconnectAt log j ep := by
  obtain ⟨j, rest, rfl, hv⟩ := C09_monitor_fail_sound mux log _ ps h
  simp only [Violated9, String.reduceEq, false_and, false_or, true_and] at hv
  obtain ⟨ep, rfl, hv⟩ := hv
  exact ⟨j, ep, rfl, hv⟩

/-- endpoint 0 refuses a connect, comes back, is retried within the interval; the client is closed and left alone -/
def exGood9 : List Ev :=
  [.reach 0 false 100 5000000, .connect 0 200, .reach 0 true 300 5000000, .tick 4000000, .connect 0 5000000,
   .clientclosed 6000000, .tick 20000000]
example : monGo 9 true {} 0 exGood9 = .ok := by decide
example : ∀ j ep, ¬ ConnectAfterCloseAt exGood9 j ep :=
  fun j ep h => C09_monitor_connect_after_close_detected true exGood9 j ep h (by decide)
example : ∀ j ep, ¬ NoReconnectAt exGood9 j ep :=
  fun j ep h => C09_monitor_no_reconnect_detected true exGood9 j ep h (by decide)

def exAfterClose : List Ev := [.connect 0 1, .clientclosed 5, .tick 6, .connect 0 7]
example : monGo 9 true {} 0 exAfterClose = .fail "connect-after-close" [V.ofNat 3, V.ofNat 0] := rfl
example : ConnectAfterCloseAt exAfterClose 3 0 := ⟨1, 5, 7, by decide, rfl, rfl⟩
example : (∀ i, i < 3 → ∀ cl rest, ¬ Violated9 exAfterClose cl i rest) ∧ ∀ ep', ¬ NoReconnectAt exAfterClose 3 ep' :=
  ((C09_monitor_connect_after_close_iff true exAfterClose 3 0).mp rfl).2

/-- the retry owed since 200 (endpoint back at 300, maximum interval 5 s, slack 1 s) has not come by 7 s -/
def exNoRetry : List Ev :=
  [.reach 0 false 100 5000000, .connect 0 200, .reach 0 true 300 5000000, .tick 6000300, .tick 7000000]
example : monGo 9 true {} 0 (exNoRetry.take 4) = .ok := by decide
example : monGo 9 true {} 0 exNoRetry = .fail "no-reconnect-within-max-interval" [V.ofNat 4, V.ofNat 0] := rfl
example : NoReconnectAt exNoRetry 4 0 := by
  refine ⟨.tick 7000000, rfl, ?_, 1, 200, 2, 300, 5000000, by decide, rfl, ⟨0, 100, 5000000, by decide, rfl, ?_⟩, ?_,
    by decide, rfl, ?_, by decide⟩
  · intro i t hlt hi
    obtain rfl | rfl | rfl | rfl : i = 0 ∨ i = 1 ∨ i = 2 ∨ i = 3 := by omega
    all_goals cases hi
  · intro k x h1 h2; omega
  · intro k x h1 h2 hk
    obtain rfl | rfl : k = 2 ∨ k = 3 := by omega
    all_goals cases hk; rfl
  · intro k x h1 h2 hk
    obtain rfl : k = 3 := by omega
    cases hk; rfl

end Scales.Res

/-! ## C12 — monitor `e2e12` -/
namespace Scales.C12
open Scales.E2E

/-- verdict `ok` ⇔ no C12 clause (write-after-timeout at any position; discard-missing at the end of the log,
    multiplexed stacks only; unknown-call) is violated -/
theorem C12_monitor_ok_iff (mux : Bool) (log : List Ev) :
    monGo 12 mux {} 0 log = .ok ↔ ∀ cl j rest, ¬ Violated12 mux log cl j rest := (monitor12 mux log).ok_iff

theorem C12_monitor_fail_sound (mux : Bool) (log : List Ev) (cl : String) (ps : List V)
    (h : monGo 12 mux {} 0 log = .fail cl ps) : ∃ j rest, ps = V.ofNat j :: rest ∧ Violated12 mux log cl j rest :=
  (monitor12 mux log).fail_sound h

/-- … and the reported position is the FIRST position of the log at which any clause is violated (the end-of-log
    clause counts as position `log.length`) -/
theorem C12_monitor_fail_first (mux : Bool) (log : List Ev) (cl : String) (ps : List V)
    (h : monGo 12 mux {} 0 log = .fail cl ps) :
    ∃ j rest, ps = V.ofNat j :: rest ∧ ∀ i, i < j → ∀ cl' rest', ¬ Violated12 mux log cl' i rest' :=
  (monitor12 mux log).fail_first h

/-- a `wrote c … t` request frame with an earlier `done c timeout td`, `td ≤ t`, is never judged `ok` -/
theorem C12_monitor_write_after_timeout_detected (mux : Bool) (log : List Ev) (j c : Nat)
    (h : WriteAfterTimeoutAt log j c) : monGo 12 mux {} 0 log ≠ .ok :=
  (monitor12 mux log).detected (Or.inr (Or.inl ⟨rfl, c, rfl, h⟩))

theorem C12_monitor_write_after_timeout_sound (mux : Bool) (log : List Ev) (ps : List V)
    (h : monGo 12 mux {} 0 log = .fail "write-after-timeout" ps) :
    ∃ j c, ps = [V.ofNat j, V.ofNat c] ∧ WriteAfterTimeoutAt log j c := by
  obtain ⟨j, rest, rfl, hv⟩ := C12_monitor_fail_sound mux log _ ps h
  simp only [Violated12, String.reduceEq, false_and, false_or, or_false, true_and] at hv
  obtain ⟨c, rfl, hv⟩ := hv
  exact ⟨j, c, rfl, hv⟩

/-- exact form: the verdict is `fail write-after-timeout (j c)` IFF position `j` holds a request frame of call `c`
    written at or after the time of the call's earlier TimeoutError completion, and no clause is violated before `j` -/
theorem C12_monitor_write_after_timeout_iff (mux : Bool) (log : List Ev) (j c : Nat) :
    monGo 12 mux {} 0 log = .fail "write-after-timeout" [V.ofNat j, V.ofNat c] ↔
      WriteAfterTimeoutAt log j c ∧ ∀ i, i < j → ∀ cl rest, ¬ Violated12 mux log cl i rest := by
  refine ⟨fun h => ?_, fun ⟨hx, hfirst⟩ => ?_⟩
  · obtain ⟨j', c', hps, hx⟩ := C12_monitor_write_after_timeout_sound mux log _ h
    simp only [List.cons.injEq, and_true] at hps
    cases V.ofNat_inj hps.1; cases V.ofNat_inj hps.2
    exact ⟨hx, (((monitor12 mux log).fail_iff ..).mp h).2⟩
  · obtain ⟨e, hj, hv⟩ := verdict12_write_after_timeout (rep _) hx
    exact ((monitor12 mux log).fail_iff ..).mpr ⟨checkAt_of_event hj (preV_ne9 (by decide) ..) hv, hfirst⟩

/-- on a multiplexed stack a timed-out call whose request is on a still-open connection and has no discard
    frame is never judged `ok` -/
theorem C12_monitor_discard_missing_detected (log : List Ev) (c : Nat)
    (h : DiscardMissingIn log c) : monGo 12 true {} 0 log ≠ .ok :=
  (monitor12 true log).detected (Or.inr (Or.inr ⟨rfl, rfl, rfl, c, rfl, h⟩))

theorem C12_monitor_discard_missing_sound (mux : Bool) (log : List Ev) (ps : List V)
    (h : monGo 12 mux {} 0 log = .fail "discard-missing" ps) :
    mux = true ∧ ∃ c, ps = [V.ofNat log.length, V.ofNat c] ∧ DiscardMissingIn log c := by
  obtain ⟨j, rest, rfl, hv⟩ := C12_monitor_fail_sound mux log _ ps h
  simp only [Violated12, String.reduceEq, false_and, false_or, true_and] at hv
  obtain ⟨rfl, hm, c, rfl, hv⟩ := hv
  exact ⟨hm, c, rfl, hv⟩

/-- the serial (Thrift) stacks have no discard clause: there the verdict is `ok` ⇔ no write-after-timeout and no
    unknown call -/
theorem C12_monitor_serial_ok_iff (log : List Ev) :
    monGo 12 false {} 0 log = .ok ↔
      (∀ j, ¬ UnknownCallAt log j) ∧ ∀ j c, ¬ WriteAfterTimeoutAt log j c := by
  rw [C12_monitor_ok_iff]
  constructor
  · intro h
    exact ⟨fun j hv => h "unknown-call" j [] (Or.inl ⟨rfl, rfl, hv⟩),
      fun j c hv => h "write-after-timeout" j [V.ofNat c] (Or.inr (Or.inl ⟨rfl, c, rfl, hv⟩))⟩
  · rintro ⟨h1, h2⟩ cl j rest (⟨_, _, hv⟩ | ⟨_, c, _, hv⟩ | ⟨_, _, hm, _⟩)
    · exact h1 j hv
    · exact h2 j c hv
    · cases hm

/-- call 0 times out after its frame was written: a discard follows; call 1 times out before anything is written -/
def exGood12 : List Ev :=
  [.issue 0 20000 1000 false, .wrote 0 7 false 3 1000, .issue 1 20000 1500 false, .done 0 .timeout 21000,
   .wrote 0 7 true 3 21000, .done 1 .timeout 21500, .tick 30000]
example : monGo 12 true {} 0 exGood12 = .ok := by decide
example : ∀ c, ¬ DiscardMissingIn exGood12 c :=
  fun c h => C12_monitor_discard_missing_detected exGood12 c h (by decide)

def exLateWrite : List Ev := [.issue 0 20000 1000 false, .done 0 .timeout 21000, .wrote 0 7 false 3 21000]
example : monGo 12 true {} 0 exLateWrite = .fail "write-after-timeout" [V.ofNat 2, V.ofNat 0] := rfl
example : ∀ i, i < 2 → ∀ cl rest, ¬ Violated12 true exLateWrite cl i rest :=
  ((C12_monitor_write_after_timeout_iff true exLateWrite 2 0).mp rfl).2
example : WriteAfterTimeoutAt exLateWrite 2 0 :=
  ⟨7, 3, 21000, 21000, rfl,
   ⟨1, by decide, rfl, by decide,
    (by rintro ⟨i, o, t, hlt, hi, -⟩; obtain rfl : i = 0 := by omega
        cases hi)⟩, by decide⟩

/-- no discard although the connection stays open (the same log is fine once the connection closes in time) -/
def exNoDiscard : List Ev := [.issue 0 20000 1000 false, .wrote 0 7 false 3 1000, .done 0 .timeout 21000, .tick 30000]
example : monGo 12 true {} 0 exNoDiscard = .fail "discard-missing" [V.ofNat 4, V.ofNat 0] := rfl
example : monGo 12 false {} 0 exNoDiscard = .ok := by decide
example : monGo 12 true {} 0 (exNoDiscard ++ [.connclosed 7 21000]) = .ok := by decide
example : ∃ c, DiscardMissingIn exNoDiscard c :=
  (C12_monitor_discard_missing_sound true exNoDiscard _ rfl).2.imp fun _ h => h.2

end Scales.C12
