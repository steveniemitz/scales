/-
  Props/C15.lean — property theorems for C15 (Kafka produce requests and responses are
  well-formed for every input).  Statements only rely on Model/KafkaCodec.lean and
  Adapter/KafkaCodec.lean.

  Quantification: every client id `cid`, correlation id `tag`, `acks`, topic, partition and
  list of payloads (arbitrary byte lists, arbitrary lengths); every produce / metadata
  response whose fields fit their wire formats (`prWF`, `mWF`); every in-flight map.  No size
  bounds other than those of the wire formats themselves, which are characterised exactly by
  `C15_request_encodable_iff`.
-/
import ScalesModel.Proofs.KafkaCodecLemmas
namespace Scales.Kafka

/-- the bitwise CRC-32 of the model is the standard one: check value of "123456789" -/
theorem C15_crc_check_value :
    crc32 [0x31, 0x32, 0x33, 0x34, 0x35, 0x36, 0x37, 0x38, 0x39] = 0xCBF43926 := by
  decide +kernel

/-- on byte strings the CRC is a 32-bit value, so the `& 0xffffffff` of the serializer and the
    `% 2^32` of the parser are the identity -/
theorem C15_crc_is_32_bit (bs : Bytes) (h : ∀ b ∈ bs, b < 256) :
    crc32 bs % 4294967296 = crc32 bs :=
  Nat.mod_eq_of_lt (crc32_lt bs h)

/-- A produce request is written exactly when every field fits its wire format: acks in int16,
    topic and client id at most 32767 bytes, partition and correlation id in int32, and the
    whole request (34 + client id + topic + 26 per message + payload bytes) within the int32
    size prefix.  For all other inputs nothing is written (the caller gets an error). -/
theorem C15_request_encodable_iff (cid : Bytes) (tag acks : Int) (topic : Bytes) (partition : Int)
    (payloads : List Bytes) :
    (produceRequest cid tag acks topic partition payloads).isSome = true ↔
      ((-32768 ≤ acks ∧ acks ≤ 32767) ∧ topic.length ≤ 32767 ∧
       (-2147483648 ≤ partition ∧ partition ≤ 2147483647) ∧ cid.length ≤ 32767 ∧
       34 + cid.length + topic.length + msgSetLen payloads ≤ 2147483647 ∧
       (-2147483648 ≤ tag ∧ tag ≤ 2147483647)) := by
  simp only [produceRequest_isSome_iff, putDomain_iff, requestSize, inI16_def, inI32_def, and_assoc]

/-- Header (after F10): the request is the int32 size of everything that follows, API key 0,
    API version 0, the correlation id, the client id as an int16-prefixed string, then the
    serialized body. -/
theorem C15_header_fields (cid : Bytes) (tag acks : Int) (topic : Bytes) (partition : Int)
    (payloads : List Bytes) (r : Bytes)
    (h : produceRequest cid tag acks topic partition payloads = some r) :
    ∃ body, produceBody acks topic partition payloads = some body ∧
      r = i32 (10 + (cid.length : Int) + (body.length : Int)) ++ i16 0 ++ i16 0 ++ i32 tag ++
          i16 (cid.length : Int) ++ cid ++ body := by
  refine ⟨_, produceBody_eq_some.2 ⟨(produceRequest_eq_some.1 h).1.1, rfl⟩, ?_⟩
  rw [(produceRequest_eq_some.1 h).2, wireBytes, headerBytes, str, ← List.append_assoc]

/-- Sizes: the size prefix read back as an int32 is the number of bytes that follow it, and the
    request ends with the message set, preceded by its length as an int32, which is the
    `msg_set_len` the serializer computed. -/
theorem C15_sizes_consistent (cid : Bytes) (tag acks : Int) (topic : Bytes) (partition : Int)
    (payloads : List Bytes) (r : Bytes)
    (h : produceRequest cid tag acks topic partition payloads = some r) :
    rdI32 r = some (((r.length - 4 : Nat) : Int), r.drop 4) ∧
    ∃ pre ms, r = pre ++ i32 (ms.length : Int) ++ ms ∧ encMessages payloads = some ms ∧
      ms.length = msgSetLen payloads := by
  obtain ⟨⟨hb, hd⟩, hr⟩ := produceRequest_eq_some.1 h
  rw [hr]
  constructor
  · simp only [wireBytes, headerBytes, List.append_assoc]
    rw [rdI32_i32 _ hd.1, List.drop_left' (i32_length _),
      List.length_append, i32_length, Nat.add_sub_cancel_left]
    refine congrArg (fun n : Int => some (n, _)) ?_
    simp only [List.length_append, i16_length, i32_length, str_length]
    omega
  · refine ⟨headerBytes cid tag 0 (bodyBytes acks topic partition payloads).length ++ (i16 acks ++ i32 1000 ++ i32 1 ++
      str topic ++ i32 1 ++ i32 partition), msgSet payloads, ?_,
      encMessages_of_le hb.2.2.2, msgSet_length _⟩
    simp only [wireBytes, bodyBytes, msgSet_length, List.append_assoc]

/-- Sizes, per message: offset (8 bytes), then the int32 message size, then exactly that many
    bytes: 4 of Crc and `10 + len(payload)` of magic, attributes, null key and value. -/
theorem C15_message_size (p m : Bytes) (h : encMessage p = some m) :
    ∃ rest, m = i64 0 ++ i32 (rest.length : Int) ++ rest ∧ rest.length = p.length + 14 := by
  refine ⟨msgBody p, ?_, msgBody_length p⟩
  rw [(encMessage_eq_some.1 h).2, msgBody_length]
  rfl

/-- CRC: in every message the serializer writes, the Crc field (bytes 12–15) is the CRC-32 of
    all the bytes after it (magic byte … value), which are `msgCovered p`. -/
theorem C15_crc_verifies (p m : Bytes) (h : encMessage p = some m) :
    m.drop 16 = msgCovered p ∧
    rdU32 (m.drop 12) = some (crc32 (m.drop 16) % 4294967296, m.drop 16) := by
  have h12 : (i64 0 ++ i32 ((p.length : Int) + 14)).length = 12 := by
    rw [List.length_append, i64_length, i32_length]
  have d12 : m.drop 12 = be 4 (crc32 (msgCovered p) % 4294967296) ++ msgCovered p := by
    rw [(encMessage_eq_some.1 h).2, msgRecord]
    exact List.drop_left' h12
  have d16 : m.drop 16 = msgCovered p := by
    rw [show 16 = 12 + 4 from rfl, ← List.drop_drop, d12]
    exact List.drop_left' (be_length 4 _)
  rw [d16, d12]
  exact ⟨rfl, rdU32_be _ (Nat.mod_lt _ (by decide)) _⟩

/-- Round trip: the broker-side parser, which accepts a request only if every declared size
    matches the bytes present and nothing is left over, reads back API key 0, version 0, the
    correlation id, the client id, the acks, one topic, one partition and one message per
    payload, in order, each with the payload as value, a null key, magic 0, attributes 0 and a
    Crc field equal to the CRC-32 the parser computes itself (`expectedMsg`). -/
theorem C15_request_roundtrip (cid : Bytes) (tag acks : Int) (topic : Bytes) (partition : Int)
    (payloads : List Bytes) (r : Bytes)
    (h : produceRequest cid tag acks topic partition payloads = some r) :
    parseRequest r = some (expectedProduce cid tag acks topic partition payloads) :=
  parse_produce h

/-- Produce responses: whatever the broker encodes (fields within their formats) under any
    correlation id, with any trailing bytes, decodes to exactly the topic / partition / error /
    offset rows encoded, in order. -/
theorem C15_produce_response_roundtrip (corr : Int) (r : List PRTopic) (rest : Bytes)
    (h : prWF r = true) :
    decodeReply .produce (i32 corr ++ (encProduceResp r ++ rest)) = .produce (flattenPR r) :=
  decodeReply_produce corr r rest h

/-- Metadata responses: the decoded broker and topic dictionaries are exactly the brokers
    (node id ↦ id, host, port) and, per topic, the partitions (id ↦ topic, id, leader,
    replicas, isr) the broker encoded, in order. -/
theorem C15_metadata_response_roundtrip (corr : Int) (m : MResp) (rest : Bytes)
    (h : mWF m = true) :
    decodeReply .metadata (i32 corr ++ (encMetadataResp m ++ rest)) = .metadata (metaPlain m) :=
  decodeReply_metadata corr m rest h

/-- Routing: a reply frame is delivered to the request registered under its correlation id, and
    only to it; that request leaves the map, every other stays; a reply under a correlation id
    nobody waits for is delivered to nobody.  `fl` is any in-flight map with distinct tags
    (C11's guarantee; `C15_inflight_tags_distinct` shows the model keeps it). -/
theorem C15_reply_routed_by_correlation_id (fl : List InFlight) (corr : Int) (body : Bytes)
    (hc : inI32 corr = true) (hl : lenOk (4 + body.length) = true)
    (hn : (fl.map (·.tag)).Nodup) :
    (∀ e ∈ fl, e.tag = corr →
      routeReply fl (replyFrame corr body) =
        (removeTag corr fl, [(e.id, decodeReply e.kind (i32 corr ++ body))]) ∧
      ∀ x ∈ fl, x ≠ e → x ∈ removeTag corr fl) ∧
    ((∀ e ∈ fl, e.tag ≠ corr) → routeReply fl (replyFrame corr body) = (fl, [])) := by
  rw [routeReply_of_recv fl (recvFrame_reply corr body hc hl)]
  constructor
  · intro e he hec
    have hlk := hec ▸ lookupTag_of_mem_nodup fl e hn he
    refine ⟨by rw [hlk], fun x hx hxe => removeTag_keeps fl corr x hx fun hxc => hxe ?_⟩
    exact Option.some.inj ((hxc ▸ lookupTag_of_mem_nodup fl x hn hx).symm.trans hlk)
  · intro hall
    rw [lookupTag_eq_none.2 hall]

set_option linter.unusedVariables false in
/-- the model's in-flight map has distinct tags in every state reachable by a legal history
    (`run_nodup`: by any history, since `setTag` overwrites an entry whose tag is in use) -/
theorem C15_inflight_tags_distinct (cfg : Cfg) (ops : List Op) (h : comp.wf cfg ops = true) :
    ((run cfg ⟨[]⟩ ops).inflight.map (·.tag)).Nodup :=
  run_nodup cfg ops ⟨[]⟩ List.nodup_nil

/-- The executable specification (`spec`, the predicate the harness evaluates on the
    implementation's observations) holds of the model's own history, for every client id and
    every history in which each request reaching the transport got an int32 tag that was not
    in flight and fits a frame, and each reply frame's size and correlation id are int32. -/
theorem C15_model_satisfies_spec (cfg : Cfg) (ops : List Op) (h : comp.wf cfg ops = true) :
    spec cfg (comp.modelTrace cfg ops) = .ok :=
  spec_trace cfg ops ⟨[]⟩ 0 h

/-- the specification has teeth: the observation of the unrepaired code (F10: every request
    raises `struct.error` in `_BuildHeader`) is rejected for every encodable request -/
theorem C15_unrepaired_header_counterexample (cfg : Cfg) (id : Nat) (tag acks : Int) (topic : Bytes)
    (partition : Int) (payloads : List Bytes) (h : putDomain cfg acks topic partition payloads = true) :
    spec cfg [(.put id tag acks topic partition payloads, .raised)] =
      .fail "request-raised" [V.ofNat 0] := by
  simp [spec, specGo, specStep, h, Verdict.and]

/-! ### the hypotheses are satisfiable on non-trivial instances -/

/-- a history with an accepted and a rejected request, a metadata request, replies of both
    kinds, a reply of the wrong kind, an unknown correlation id and arbitrary bytes is legal -/
example : comp.wf ⟨[115, 99]⟩
    [.put 0 2 1 [116] 3 [[1, 2, 3], []], .put 1 0 40000 [116] 3 [], .mdreq 2 3,
     .presp 2 [⟨[116], [⟨3, 0, 5⟩]⟩],
     .mresp 3 ⟨[⟨0, [104], 9092⟩], [⟨0, [116], [⟨0, 3, 0, [0, 1], [0]⟩]⟩]⟩,
     .put 3 2 (-1) [] (-2147483648) [[255]], .mresp 2 ⟨[], []⟩, .presp 77 [], .raw 9 [1, 2]] = true := by
  decide +kernel

example : (produceRequest [115] 2 1 [116] 3 [[1, 2, 3], []]).isSome = true := by decide +kernel

example : prWF [⟨[116], [⟨3, 0, 5⟩, ⟨4, -1, 9223372036854775807⟩]⟩, ⟨[], []⟩] = true := by decide +kernel

example : mWF ⟨[⟨0, [104], 9092⟩, ⟨1, [], -1⟩],
    [⟨0, [116], [⟨0, 3, 0, [0, 1], [0]⟩, ⟨9, 4, -1, [], []⟩]⟩, ⟨3, [], []⟩]⟩ = true := by decide +kernel

end Scales.Kafka
