/-
  Props/C07.lean — property theorems for C07 (watermark pool bounds concurrency, queues FIFO,
  never leaks capacity).  Model: Model/Watermark.lean (repaired code, fixes/C07-*.patch);
  executable specification: Adapter/Watermark.lean; proofs: Proofs/WatermarkView.lean (the picture
  under events), WatermarkInv (the invariant), WatermarkProcs (the pool's procedures), WatermarkStep
  (one operation against the specification), WatermarkLemmas (single operations in invariant states).

  Quantification: `cfg` is any (min_watermark, max_watermark, max_queue_len); `ops` is any finite
  list of operations — requests (with any outcome of opening a new connection), replies in
  any order (also late and duplicate ones), timers firing for any subset of calls at any
  point, connections dying at any point, the hub running deferred hand-offs at any point,
  `Close()` and `Open()` at any point; a request that makes the pool create a connection either
  sees it open (or fail) at once, or blocks in `Open().wait()` — then further operations,
  including further requests, happen while it is connecting, until `opened sid ok` ends the
  connect with either outcome.  `runOps cfg St.init ops` is the pool's state after
  them.  No theorem below assumes a bound on the configuration or on the length of `ops`.
-/
import ScalesModel.Proofs.WatermarkLemmas
namespace Scales.Watermark

/-- `_current_size` is exactly the number of connections that are held by a call (lent to it,
    or being opened for it), cached, or waiting in a deferred hand-off: no slot is ever counted
    without a connection behind it, and every connection being opened is counted. -/
theorem C07_size_accounts_live (cfg : Cfg) (ops : List Op) :
    (runOps cfg St.init ops).size =
      (lentIds (runOps cfg St.init ops).base).length + (runOps cfg St.init ops).cache.length +
        (runOps cfg St.init ops).tasks.length :=
  (reached_runOps cfg ops).acct.size_none

/-- the connections that are alive (created — including those whose `Open()` is still pending —
    not closed by the pool, not dead) never outnumber the counted size, which never exceeds
    `max_watermark`. -/
theorem C07_bounded (cfg : Cfg) (ops : List Op) :
    (aliveIds (runOps cfg St.init ops).base).length ≤ (runOps cfg St.init ops).size ∧
    (runOps cfg St.init ops).size ≤ cfg.max := by
  have hr := reached_runOps cfg ops
  exact ⟨hr.acct.aliveIds_le, hr.inv.size_le⟩

/-- a connection is held by at most one call (whether it is lent to it, being opened for it,
    or still held although the caller has been answered), and a connection held by a call is
    neither cached nor in a deferred hand-off (so it cannot be given to anybody else). -/
theorem C07_exclusive_any (cfg : Cfg) (ops : List Op) (c1 c2 sid : Nat) (st1 st2 : CStat)
    (h1 : (runOps cfg St.init ops).base.calls[c1]? = some st1) (hs1 : st1.holds = some sid)
    (h2 : (runOps cfg St.init ops).base.calls[c2]? = some st2) (hs2 : st2.holds = some sid) :
    c1 = c2 ∧ sid ∉ (runOps cfg St.init ops).cache ∧ sid ∉ (runOps cfg St.init ops).tasks := by
  have hr := reached_runOps cfg ops
  have a1 := hr.link.startedLent sid c1 st1 h1 hs1
  have a2 := hr.link.startedLent sid c2 st2 h2 hs2
  refine ⟨by rw [a1] at a2; injection a2, ?_, ?_⟩ <;> intro hm
  · have := (hr.acct.free sid (mem_held_none.2 (.inl hm))).2
    rw [a1] at this; cases this
  · have := (hr.acct.free sid (mem_held_none.2 (.inr hm))).2
    rw [a1] at this; cases this

/-- a connection is never lent to two calls at once. -/
theorem C07_exclusive (cfg : Cfg) (ops : List Op) (c1 c2 sid : Nat)
    (h1 : (runOps cfg St.init ops).base.calls[c1]? = some (.started sid))
    (h2 : (runOps cfg St.init ops).base.calls[c2]? = some (.started sid)) :
    c1 = c2 ∧ sid ∉ (runOps cfg St.init ops).cache ∧ sid ∉ (runOps cfg St.init ops).tasks :=
  C07_exclusive_any cfg ops c1 c2 sid _ _ h1 rfl h2 rfl

/-- while connects are in flight: every connection that is being opened occupies a counted
    slot, so together with the cached and handed-off ones they never exceed `max_watermark`
    (the slot is taken *before* the caller blocks in `Open().wait()`). -/
theorem C07_bounded_during_connect (cfg : Cfg) (ops : List Op) :
    (openingIds (runOps cfg St.init ops).base).length + (runOps cfg St.init ops).cache.length +
      (runOps cfg St.init ops).tasks.length ≤ (runOps cfg St.init ops).size ∧
    (runOps cfg St.init ops).size ≤ cfg.max := by
  have h1 := C07_size_accounts_live cfg ops
  rw [lentIds_split] at h1
  exact ⟨by omega, (C07_bounded cfg ops).2⟩

/-- a request that arrives while the pool is full — for instance because connects are in
    flight — and finds nothing cached creates no connection: it is queued, or fails with
    MaxWaiters. -/
theorem C07_full_pool_creates_nothing (cfg : Cfg) (ops : List Op) (ok lat : Bool)
    (hcache : (runOps cfg St.init ops).cache = []) (hfull : cfg.max ≤ (runOps cfg St.init ops).size) :
    (step cfg (runOps cfg St.init ops) (.request ok lat)).2.evs =
        [.queued (runOps cfg St.init ops).base.calls.length] ∨
    (step cfg (runOps cfg St.init ops) (.request ok lat)).2.evs =
        [.done (runOps cfg St.init ops).base.calls.length .maxWaiters] := by
  rw [request_full ok lat (reached_runOps cfg ops).evs hcache hfull]
  split
  · exact .inr rfl
  · exact .inl rfl

/-- at most `max_queue_len` calls wait. -/
theorem C07_queue_bounded (cfg : Cfg) (ops : List Op) :
    (pendingIds (runOps cfg St.init ops).base).length ≤ cfg.maxq := by
  have hr := reached_runOps cfg ops
  exact Nat.le_trans hr.wait.pendingIds_le hr.inv.wq

/-- a request that finds no cached connection, the pool full and the queue full fails at once
    with MaxWaiters (and nothing else happens). -/
theorem C07_surplus_fails_at_once (cfg : Cfg) (ops : List Op) (ok lat : Bool)
    (hcache : (runOps cfg St.init ops).cache = []) (hfull : cfg.max ≤ (runOps cfg St.init ops).size)
    (hq : cfg.maxq ≤ (runOps cfg St.init ops).waiters.length) :
    (step cfg (runOps cfg St.init ops) (.request ok lat)).2.evs =
      [.done (runOps cfg St.init ops).base.calls.length .maxWaiters] := by
  rw [request_full ok lat (reached_runOps cfg ops).evs hcache hfull, if_pos (Nat.lt_succ_of_le hq)]

/-- FIFO hand-off: when the hub runs a deferred hand-off while
    calls are waiting, exactly the longest-waiting call is started, on the released connection. -/
theorem C07_fifo (cfg : Cfg) (ops : List Op) (sid c : Nat) (rest : List Nat)
    (ht : (runOps cfg St.init ops).tasks = sid :: rest)
    (hold : oldestPending (runOps cfg St.init ops).base = some c) :
    (step cfg (runOps cfg St.init ops) .run).2.evs = [.sent sid c] ∧
    (step cfg (runOps cfg St.init ops) .run).1.tasks = rest ∧
    (step cfg (runOps cfg St.init ops) .run).1.base.calls[c]? = some (.started sid) := by
  exact run_handoff (reached_runOps cfg ops) ht hold

/-- no overtaking: on a pool that has never been closed, a fresh request is given a connection
    at once (`started`), or allowed to open one (`connecting`), only when nobody is waiting
    (no overtaking). -/
theorem C07_fifo_no_overtake (cfg : Cfg) (ops : List Op) (ok lat : Bool) (sid : Nat) (st : CStat)
    (hnc : (runOps cfg St.init ops).everClosed = false)
    (hstarted : (step cfg (runOps cfg St.init ops) (.request ok lat)).1.base.calls[
        (runOps cfg St.init ops).base.calls.length]? = some st)
    (hholds : st.holds = some sid) :
    pendingIds (runOps cfg St.init ops).base = [] := by
  exact request_no_overtake ok lat (reached_runOps cfg ops) hnc hstarted hholds

/-- work conservation: a reply on a live connection of a pool that is not closed,
    while somebody waits, defers a hand-off of that very connection (which `C07_fifo` then
    gives to the longest-waiting call). -/
theorem C07_work_conserving (cfg : Cfg) (ops : List Op) (c sid : Nat)
    (hst : (runOps cfg St.init ops).base.calls[c]? = some (.started sid))
    (hp : (runOps cfg St.init ops).pstate ≠ .closed)
    (halive : isAlive (runOps cfg St.init ops).base sid = true)
    (hwait : pendingIds (runOps cfg St.init ops).base ≠ []) :
    (step cfg (runOps cfg St.init ops) (.respond c)).1.tasks = (runOps cfg St.init ops).tasks ++ [sid] := by
  exact release_defers_handoff (reached_runOps cfg ops) hst hp halive hwait

/-- work conservation at rest: whenever no hand-off is in flight and somebody waits, no live
    connection sits idle. -/
theorem C07_work_conserving_quiescent (cfg : Cfg) (ops : List Op)
    (ht : (runOps cfg St.init ops).tasks = [])
    (hp : pendingIds (runOps cfg St.init ops).base ≠ []) :
    idleIds (runOps cfg St.init ops).base = [] := by
  have hr := reached_runOps cfg ops
  rw [← hr.view] at hp ⊢
  exact work_quiescent hr.inv ht hp

/-- a waiter that has meanwhile been completed (timed out, or failed by `Close()`) is skipped:
    the hand-off goes to the first waiter that is still waiting, the skipped entries leave the
    queue, and the slot count is unchanged (the connection is lent, not lost). -/
theorem C07_timed_out_waiter_skipped (cfg : Cfg) (ops : List Op) (sid c : Nat) (rest w1 w2 : List Nat)
    (ht : (runOps cfg St.init ops).tasks = sid :: rest)
    (hw : (runOps cfg St.init ops).waiters = w1 ++ c :: w2)
    (hgone : ∀ x ∈ w1, (runOps cfg St.init ops).base.calls[x]? ≠ some .pending)
    (hc : (runOps cfg St.init ops).base.calls[c]? = some .pending) :
    (step cfg (runOps cfg St.init ops) .run).2.evs = [.sent sid c] ∧
    (step cfg (runOps cfg St.init ops) .run).1.waiters = w2 ∧
    (step cfg (runOps cfg St.init ops) .run).1.size = (runOps cfg St.init ops).size := by
  have hr := reached_runOps cfg ops
  rw [← hr.view] at hgone hc
  rw [step_evs, step_fst, run_skips ht hw hgone hc]
  exact ⟨emit_evs_of_nil (s := { runOps cfg St.init ops with tasks := rest, waiters := w2 }) hr.evs _, rfl, rfl⟩

/-- if every queued waiter has meanwhile been completed, the connection goes back through
    `_Release` (and `C07_size_accounts_live` holds afterwards like after every operation). -/
theorem C07_timed_out_all_skipped (cfg : Cfg) (ops : List Op) (sid : Nat) (rest : List Nat)
    (ht : (runOps cfg St.init ops).tasks = sid :: rest)
    (hgone : ∀ x ∈ (runOps cfg St.init ops).waiters,
      (runOps cfg St.init ops).base.calls[x]? ≠ some .pending) :
    ∃ s', s'.base = (runOps cfg St.init ops).base ∧ s'.evs = [] ∧ s'.waiters = [] ∧
      s'.cache = (runOps cfg St.init ops).cache ∧ s'.tasks = rest ∧
      s'.size = (runOps cfg St.init ops).size ∧ s'.pstate = (runOps cfg St.init ops).pstate ∧
      (step cfg (runOps cfg St.init ops) .run).1 = finish (release cfg s' sid) := by
  have hr := reached_runOps cfg ops
  rw [← hr.view] at hgone
  exact ⟨{ runOps cfg St.init ops with tasks := rest, waiters := [] }, rfl, hr.evs, rfl, rfl, rfl,
    rfl, rfl, congrArg finish (run_skips_all ht hgone)⟩

/-- once traffic has stopped (every call completed, no hand-off in flight) at most
    `min_watermark` connections are still alive. -/
theorem C07_idle_retains_min (cfg : Cfg) (ops : List Op)
    (ht : (runOps cfg St.init ops).tasks = [])
    (hd : allDone (runOps cfg St.init ops).base = true) :
    (aliveIds (runOps cfg St.init ops).base).length ≤ cfg.min := by
  have hr := reached_runOps cfg ops
  rw [← hr.view] at hd ⊢
  exact idle_retains hr.inv ht hd

/-- a reply arriving on a connection that has died, on a pool that is not closed: the pool
    closes and every waiting call receives exactly one response in that operation, which is
    ServiceClosed. -/
theorem C07_close_fails_waiters_once (cfg : Cfg) (ops : List Op) (c0 sid c : Nat)
    (hst : (runOps cfg St.init ops).base.calls[c0]? = some (.started sid))
    (hp : (runOps cfg St.init ops).pstate ≠ .closed)
    (hdead : isAlive (runOps cfg St.init ops).base sid = false)
    (hc : (runOps cfg St.init ops).base.calls[c]? = some .pending) :
    (step cfg (runOps cfg St.init ops) (.respond c0)).1.pstate = .closed ∧
    Ev.done c .serviceClosed ∈ (step cfg (runOps cfg St.init ops) (.respond c0)).2.evs ∧
    doneCount c (step cfg (runOps cfg St.init ops) (.respond c0)).2.evs = 1 := by
  exact dead_release_once (reached_runOps cfg ops) hst hp hdead hc

/-- `Close()` from above: the pool is closed, every waiting call receives exactly one
    response, ServiceClosed, and is complete afterwards. -/
theorem C07_close_op_fails_waiters_once (cfg : Cfg) (ops : List Op) (c : Nat)
    (hc : (runOps cfg St.init ops).base.calls[c]? = some .pending) :
    (step cfg (runOps cfg St.init ops) .close).1.pstate = .closed ∧
    Ev.done c .serviceClosed ∈ (step cfg (runOps cfg St.init ops) .close).2.evs ∧
    doneCount c (step cfg (runOps cfg St.init ops) .close).2.evs = 1 ∧
    (step cfg (runOps cfg St.init ops) .close).1.base.calls[c]? = some .done := by
  exact close_once (reached_runOps cfg ops) hc

/-- `Open()` of the pool at any point, with a first connection that opens or fails to: either
    the pool ends Closed (it was closed already, or `_Release` shut it down on the connection
    that failed to open) and the open fails with ServiceClosedError, or the pool ends Open and no
    exception escapes. -/
theorem C07_open_fails_iff_closed (cfg : Cfg) (ops : List Op) (ok : Bool) :
    ((step cfg (runOps cfg St.init ops) (.openPool ok)).1.pstate = .closed ∧
      Ev.raised "ServiceClosedError" ∈ (step cfg (runOps cfg St.init ops) (.openPool ok)).2.evs) ∨
    ((step cfg (runOps cfg St.init ops) (.openPool ok)).1.pstate = .opened ∧
      ∀ e ∈ (step cfg (runOps cfg St.init ops) (.openPool ok)).2.evs, isRaised e = false) := by
  exact open_result ok (reached_runOps cfg ops)

/-- **capacity is never leaked** — after every history (any configuration, any operation list):

    * every connection the model's picture shows as *being opened* for a call is one whose
      `Open()` is really pending: the specification's own bookkeeping (`Mon.connects`: a
      `connecting` event seen, no `opened sid _` operation since), run over the model's history,
      lists it — a call that was answered by its timer while connecting does not keep a
      connection "held" beyond the end of the connect;
    * the size counter is exactly: connections lent in the implementation's sense (a request
      was handed to them and their release has not happened) + connects in flight + cached +
      deferred hand-offs;
    * every live connection is one of these: none is dropped on the floor. -/
theorem C07_no_capacity_leak (cfg : Cfg) (ops : List Op) :
    (∀ sid ∈ openingIds (runOps cfg St.init ops).base,
        sid ∈ (monRun {} (comp.modelTrace cfg ops)).connects) ∧
    (runOps cfg St.init ops).size =
      (busyIds (runOps cfg St.init ops).base).length + (openingIds (runOps cfg St.init ops).base).length +
        (runOps cfg St.init ops).cache.length + (runOps cfg St.init ops).tasks.length ∧
    (∀ sid, isAlive (runOps cfg St.init ops).base sid = true →
      sid ∈ busyIds (runOps cfg St.init ops).base ∨ sid ∈ openingIds (runOps cfg St.init ops).base ∨
      sid ∈ (runOps cfg St.init ops).cache ∨ sid ∈ (runOps cfg St.init ops).tasks) := by
  have hr := reached_runOps cfg ops
  refine ⟨fun sid hs => (trace_init cfg ops).2.2.conn sid (mem_openingIds.1 hs), by rw [C07_size_accounts_live, lentIds_split], fun sid hal => ?_⟩
  rcases hr.acct.alive_none hal with h | h
  · exact (busy_or_opening h).elim (fun h1 => .inl (mem_busyIds.2 h1)) fun h1 => .inr (.inl (mem_openingIds.2 h1))
  · exact .inr (.inr h)

/-- when no hand-off is deferred: the size counter equals |lent (request handed over, not yet
    released)| + |connects in flight| + |cached|, and every live connection is lent, being opened
    or cached. -/
theorem C07_no_leak_without_handoff (cfg : Cfg) (ops : List Op) (ht : (runOps cfg St.init ops).tasks = []) :
    (runOps cfg St.init ops).size =
      (busyIds (runOps cfg St.init ops).base).length + (openingIds (runOps cfg St.init ops).base).length +
        (runOps cfg St.init ops).cache.length ∧
    (∀ sid, isAlive (runOps cfg St.init ops).base sid = true →
      sid ∈ busyIds (runOps cfg St.init ops).base ∨ sid ∈ openingIds (runOps cfg St.init ops).base ∨
      sid ∈ (runOps cfg St.init ops).cache) := by
  obtain ⟨_, h2, h3⟩ := C07_no_capacity_leak cfg ops
  rw [ht] at h2 h3
  refine ⟨by simpa using h2, fun sid hal => ?_⟩
  rcases h3 sid hal with h | h | h | h
  · exact Or.inl h
  · exact Or.inr (Or.inl h)
  · exact Or.inr (Or.inr h)
  · simp at h

/-- the end of a connect (`Open()` of connection `sid` completes, with either outcome) while the
    picture shows `sid` as being opened: the blocked caller resumes and hands the request to the
    connection — also when the caller has meanwhile been answered by its timer (`orphan`): then
    the connection is held by a zombie call until the server answers or the connection dies.
    Either way the connection is not being opened any more but lent in the implementation's
    sense, and the size counter is unchanged: the connection is not lost. -/
theorem C07_connect_end_hands_over (cfg : Cfg) (ops : List Op) (sid : Nat) (ok : Bool)
    (ho : sid ∈ openingIds (runOps cfg St.init ops).base) :
    ∃ c, (step cfg (runOps cfg St.init ops) (.opened sid ok)).2.evs = [.sent sid c] ∧
      (((runOps cfg St.init ops).base.calls[c]? = some (.connecting sid) ∧
        (step cfg (runOps cfg St.init ops) (.opened sid ok)).1.base.calls[c]? = some (.started sid)) ∨
       ((runOps cfg St.init ops).base.calls[c]? = some (.orphan sid) ∧
        (step cfg (runOps cfg St.init ops) (.opened sid ok)).1.base.calls[c]? = some (.zombie sid))) ∧
      sid ∉ openingIds (step cfg (runOps cfg St.init ops) (.opened sid ok)).1.base ∧
      sid ∈ busyIds (step cfg (runOps cfg St.init ops) (.opened sid ok)).1.base ∧
      (step cfg (runOps cfg St.init ops) (.opened sid ok)).1.size = (runOps cfg St.init ops).size := by
  exact opened_hands_over (reached_runOps cfg ops) ho

/-- an operation `opened sid ok` never leaves `sid` "being opened" (whatever the picture was). -/
theorem C07_connect_end_clears (cfg : Cfg) (ops : List Op) (sid : Nat) (ok : Bool) :
    sid ∉ openingIds (step cfg (runOps cfg St.init ops) (.opened sid ok)).1.base := by
  intro h
  have h1 := mem_openingIds.1 h
  rw [step_fst, finish_base, opened_clears] at h1
  cases h1

/-- the answer of the server on a connection held by a zombie call (its caller was answered by the
    timer while the pool was still connecting) releases the connection — `_Release` is the first
    thing that happens — and completes the call. -/
theorem C07_zombie_answer_releases (cfg : Cfg) (ops : List Op) (c sid : Nat)
    (hz : (runOps cfg St.init ops).base.calls[c]? = some (.zombie sid)) :
    (∃ tail, (step cfg (runOps cfg St.init ops) (.respond c)).2.evs = .rel sid :: tail) ∧
    (step cfg (runOps cfg St.init ops) (.respond c)).1.base.calls[c]? = some .done := by
  exact zombie_answer (reached_runOps cfg ops) hz

/-- a call holds its connection until the server answers: the answer on a connection held by a
    started call or by a zombie call begins with `_Release` of that very connection (which caches
    it, defers a hand-off, or closes it and gives the slot back — `C07_no_capacity_leak` holds
    afterwards like after every operation). -/
theorem C07_answer_releases_connection (cfg : Cfg) (ops : List Op) (c sid : Nat)
    (hst : (runOps cfg St.init ops).base.calls[c]? = some (.started sid) ∨
      (runOps cfg St.init ops).base.calls[c]? = some (.zombie sid)) :
    ∃ tail, (step cfg (runOps cfg St.init ops) (.respond c)).2.evs = .rel sid :: tail := by
  exact answer_rel (reached_runOps cfg ops) hst

/-- once traffic has stopped (every call complete — a zombie call is complete only when its
    connection has been released — and no hand-off deferred): nothing is lent, the live connections
    are exactly the cached ones that have not died, and the size counter counts exactly the cached
    connections. -/
theorem C07_quiescent_live_are_cached (cfg : Cfg) (ops : List Op)
    (ht : (runOps cfg St.init ops).tasks = [])
    (hd : allDone (runOps cfg St.init ops).base = true) :
    lentIds (runOps cfg St.init ops).base = [] ∧
    (∀ sid, isAlive (runOps cfg St.init ops).base sid = true → sid ∈ (runOps cfg St.init ops).cache) ∧
    (runOps cfg St.init ops).size = (runOps cfg St.init ops).cache.length := by
  have hr := reached_runOps cfg ops
  have hnl := hr.link.lent_nil_of_allDone hd
  have hl : lentIds (runOps cfg St.init ops).base = [] :=
    List.eq_nil_iff_forall_not_mem.2 fun x hx => by have := mem_lentIds.1 hx; rw [hnl x] at this; cases this
  refine ⟨hl, fun sid hal => ?_, by rw [C07_size_accounts_live, hl, ht]; simp⟩
  rcases hr.acct.alive_none hal with h | h | h
  · rw [hnl sid] at h; cases h
  · exact h
  · rw [ht] at h; cases h

/-- the model's history satisfies the executable specification — the predicate the harness
    evaluates on the implementation's observations — for every configuration and every
    operation list. -/
theorem C07_model_satisfies_spec (cfg : Cfg) (ops : List Op) (hwf : comp.wf cfg ops = true) :
    comp.spec cfg (comp.modelTrace cfg ops) = .ok :=
  (spec_trace (cfg := cfg) ops St.init {} (inv_init cfg) coupled_init hwf).1

/-! ### the hypotheses are satisfiable: concrete histories -/

/-- (1,1,2): call 0 holds the only connection, call 1 queues and times out, call 2 queues;
    the reply to call 0 defers a hand-off, which skips call 1 and starts call 2. -/
example :
    let ops := [Op.request true false, .request true false, .request true false, .timeout 1, .respond 0]
    (runOps ⟨1, 1, 2⟩ St.init ops).tasks = [0] ∧ (runOps ⟨1, 1, 2⟩ St.init ops).waiters = [1, 2] ∧
    (runOps ⟨1, 1, 2⟩ St.init ops).base.calls[1]? = some .done ∧
    (runOps ⟨1, 1, 2⟩ St.init ops).base.calls[2]? = some .pending ∧
    (step ⟨1, 1, 2⟩ (runOps ⟨1, 1, 2⟩ St.init ops) .run).2.evs = [.sent 0 2] := by
  decide +kernel

/-- (0,2,1): a connection dies while lent; its release closes the pool and fails the waiter. -/
example :
    let ops := [Op.request true false, .request true false, .request true false, .die 0]
    (runOps ⟨0, 2, 1⟩ St.init ops).base.calls[0]? = some (.started 0) ∧
    isAlive (runOps ⟨0, 2, 1⟩ St.init ops).base 0 = false ∧
    (runOps ⟨0, 2, 1⟩ St.init ops).base.calls[2]? = some .pending ∧
    (step ⟨0, 2, 1⟩ (runOps ⟨0, 2, 1⟩ St.init ops) (.respond 0)).2.evs =
      [.rel 0, .done 2 .serviceClosed, .done 0 .reply] := by
  decide +kernel

/-- (1,1,0): the queue is full (length 0): the surplus request fails with MaxWaiters. -/
example :
    (runOps ⟨1, 1, 0⟩ St.init [Op.request true false]).cache = [] ∧
    (step ⟨1, 1, 0⟩ (runOps ⟨1, 1, 0⟩ St.init [Op.request true false]) (.request true false)).2.evs =
      [.done 1 .maxWaiters] := by
  decide +kernel

/-- traffic stops: min_watermark 1 of 2 connections is retained. -/
example :
    let ops := [Op.request true false, .request true false, .respond 0, .respond 1]
    allDone (runOps ⟨1, 2, 1⟩ St.init ops).base = true ∧ (runOps ⟨1, 2, 1⟩ St.init ops).tasks = [] ∧
    aliveIds (runOps ⟨1, 2, 1⟩ St.init ops).base = [1] ∧ (runOps ⟨1, 2, 1⟩ St.init ops).cache = [1] := by
  decide +kernel

/-- (0,2,3): two calls are connecting (both slots taken), a third arrives and has to queue;
    call 0's timer fires while it is connecting; when its connect ends the request is still
    sent, and the connection's answer gives the connection to the waiter. -/
example :
    let ops := [Op.request true true, .request true true, .request true true, .timeout 0]
    (runOps ⟨0, 2, 3⟩ St.init ops).size = 2 ∧ openingIds (runOps ⟨0, 2, 3⟩ St.init ops).base = [0, 1] ∧
    (runOps ⟨0, 2, 3⟩ St.init ops).waiters = [2] ∧
    (runOps ⟨0, 2, 3⟩ St.init ops).base.calls[0]? = some (.orphan 0) ∧
    (step ⟨0, 2, 3⟩ (runOps ⟨0, 2, 3⟩ St.init ops) (.opened 0 true)).2.evs = [.sent 0 0] ∧
    (step ⟨0, 2, 3⟩ (step ⟨0, 2, 3⟩ (runOps ⟨0, 2, 3⟩ St.init ops) (.opened 0 true)).1 (.respond 0)).2.evs =
      [.rel 0] ∧
    (step ⟨0, 2, 3⟩ (step ⟨0, 2, 3⟩ (runOps ⟨0, 2, 3⟩ St.init ops) (.opened 0 true)).1 (.respond 0)).1.tasks =
      [0] := by
  decide +kernel

/-- (1,1,1), the scenario of the leak: the only slot is taken by a connect, the caller's timer
    fires while the pool is connecting, then the connect ends: the request is still handed to the
    connection (held by a zombie call, lent in the implementation's sense), nothing is being
    opened any more, and the specification's list of pending connects is empty; the server's answer
    then returns the connection to the cache and the next request is served on it. -/
example :
    let ops := [Op.request true true, .timeout 0]
    openingIds (runOps ⟨1, 1, 1⟩ St.init ops).base = [0] ∧
    (monRun {} (comp.modelTrace ⟨1, 1, 1⟩ ops)).connects = [0] ∧
    (runOps ⟨1, 1, 1⟩ St.init ops).base.calls[0]? = some (.orphan 0) ∧
    (step ⟨1, 1, 1⟩ (runOps ⟨1, 1, 1⟩ St.init ops) (.opened 0 true)).2.evs = [.sent 0 0] ∧
    (monRun {} (comp.modelTrace ⟨1, 1, 1⟩ (ops ++ [.opened 0 true]))).connects = [] ∧
    busyIds (runOps ⟨1, 1, 1⟩ St.init (ops ++ [.opened 0 true])).base = [0] ∧
    (runOps ⟨1, 1, 1⟩ St.init (ops ++ [.opened 0 true, .respond 0])).cache = [0] ∧
    allDone (runOps ⟨1, 1, 1⟩ St.init (ops ++ [.opened 0 true, .respond 0])).base = true ∧
    (step ⟨1, 1, 1⟩ (runOps ⟨1, 1, 1⟩ St.init (ops ++ [.opened 0 true, .respond 0])) (.request true false)).2.evs =
      [.sent 0 1] := by
  decide +kernel

/-- a first `Open()` whose connection fails to open: the pool shuts down, gives the slot back,
    stays Closed, and the open fails. -/
example :
    (step ⟨1, 2, 1⟩ St.init (.openPool false)).2 =
      ⟨[.created 0 false, .rel 0, .raised "ServiceClosedError"], 0, [], [], [], 4⟩ ∧
    comp.wf ⟨1, 2, 1⟩ [.openPool false, .request true false] = true := by
  decide +kernel

end Scales.Watermark
