/-
  Proofs/TransportLemmas.lean — facts about the bookkeeping functions the C08 specifications
  share (`settle`, `firstNotFailed`).
-/
import ScalesModel.Model.Transport
namespace Scales.Transport

theorem settle_cons_owed (owed ab : List Nat) (id : Nat) (r : Resp) (rest : List (Nat × Resp))
    (h : id ∈ owed) : settle owed ab ((id, r) :: rest) = settle (owed.erase id) ab rest := by
  rw [settle, if_pos (List.contains_iff_mem.mpr h)]

theorem settle_all (l ab : List Nat) (f : Nat → Resp) :
    settle l ab (l.map (fun i => (i, f i))) = .ok ([], ab) := by
  induction l with
  | nil => rfl
  | cons x xs ih =>
    rw [List.map_cons, settle_cons_owed _ _ _ _ _ List.mem_cons_self, List.erase_cons_head]
    exact ih

theorem firstNotFailed_none_of (owed : List Nat) (dels : List (Nat × Resp))
    (h : ∀ id ∈ owed, ∃ r, (id, r) ∈ dels ∧ r.isError = true) : firstNotFailed owed dels = none := by
  unfold firstNotFailed
  rw [List.find?_eq_none]
  intro id hid
  obtain ⟨r, hm, hr⟩ := h id hid
  simp only [Bool.not_eq_true, Bool.not_eq_false', List.any_eq_true]
  exact ⟨(id, r), hm, by simp [hr]⟩

theorem firstNotFailed_all (l : List Nat) (r : Resp) (hr : r.isError = true) :
    firstNotFailed l (l.map (fun i => (i, r))) = none :=
  firstNotFailed_none_of _ _ fun id hid => ⟨r, List.mem_map.mpr ⟨id, hid, rfl⟩, hr⟩

theorem erase_append_singleton_of_not_mem (l : List Nat) (x : Nat) (h : x ∉ l) :
    (l ++ [x]).erase x = l := by
  rw [List.erase_append_right _ h, List.erase_cons_head, List.append_nil]

theorem settle_count (id : Nat) (dels : List (Nat × Resp)) (owed ab owed' ab' : List Nat) :
    settle owed ab dels = .ok (owed', ab') →
    dels.countP (fun d => d.1 == id) + (owed'.count id + ab'.count id) = owed.count id + ab.count id := by
  fun_induction settle owed ab dels with
  | case1 => intro h; cases h; simp
  | case2 _ _ i r rest hc ih | case3 _ _ i r rest _ hc ih =>
    intro h
    have := ih h
    have := (List.perm_cons_erase (List.contains_iff_mem.mp hc)).count_eq id
    simp only [List.count_cons, List.countP_cons] at this ⊢
    omega
  | case4 => intro h; cases h

/-- `settle_count` in the shape of one step of a specification that keeps `owed`/`abandoned` lists: `req` is the
    request the operation issues, `cl` says that it is a close, which moves what is still owed to abandoned -/
theorem settle_step_count (id : Nat) {owed ab owed' ab' : List Nat} {dels : List (Nat × Resp)} (req : Option Nat)
    {cl : Prop} [Decidable cl]
    (h : settle (match req with | some i => owed ++ [i] | none => owed) ab dels = .ok (owed', ab')) :
    dels.countP (fun d => d.1 == id) +
        ((if cl then [] else owed').count id + (if cl then ab' ++ owed' else ab').count id) =
      owed.count id + ab.count id + (if req == some id then 1 else 0) := by
  have hc := settle_count id _ _ _ _ _ h
  have hw : (match req with | some i => owed ++ [i] | none => owed).count id =
      owed.count id + (if req == some id then 1 else 0) := by
    cases req with
    | none => rfl
    | some j => by_cases e : j = id <;> simp [e]
  rw [hw] at hc
  by_cases hcl : cl
  · simp only [if_pos hcl, List.count_nil, List.count_append]; omega
  · simp only [if_neg hcl]; omega

theorem settle_append (d1 d2 : List (Nat × Resp)) (owed ab owed' ab' : List Nat) :
    settle owed ab d1 = .ok (owed', ab') → settle owed ab (d1 ++ d2) = settle owed' ab' d2 := by
  fun_induction settle owed ab d1 with
  | case1 => intro h; cases h; rfl
  | case2 _ _ _ _ _ hc ih => intro h; rw [List.cons_append, settle, if_pos hc]; exact ih h
  | case3 _ _ _ _ _ hn hc ih => intro h; rw [List.cons_append, settle, if_neg hn, if_pos hc]; exact ih h
  | case4 => intro h; cases h

end Scales.Transport
