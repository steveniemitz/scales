import ScalesModel.Model.Ema
import Mathlib.Algebra.Order.Field.Rat
import Mathlib.Algebra.Order.AbsoluteValue.Basic
import Mathlib.Tactic.Ring
import Mathlib.Tactic.Linarith

/-! Facts about the rational EMA and the clock of Model/Ema.lean (scales/varz.py `Ema`, `MonoClock`). -/
namespace Scales.MonoClock

theorem sample_eq_max (last now : Rat) : sample last now = max last now := by
  unfold sample
  split
  · rename_i h; rw [max_eq_right (le_of_lt (sub_pos.1 h))]
  · rename_i h; rw [max_eq_left (sub_nonpos.1 (not_lt.1 h))]

theorem le_sample (last now : Rat) : last ≤ sample last now := by
  rw [sample_eq_max]; exact le_max_left _ _

theorem now_le_sample (last now : Rat) : now ≤ sample last now := by
  rw [sample_eq_max]; exact le_max_right _ _

theorem samples_sorted (readings : List Rat) : ∀ last : Rat,
    (∀ t ∈ samples last readings, last ≤ t) ∧ (samples last readings).Pairwise (· ≤ ·) := by
  induction readings with
  | nil => intro last; simp [samples]
  | cons now rest ih =>
    intro last
    obtain ⟨h1, h2⟩ := ih (sample last now)
    simp only [samples, List.mem_cons, forall_eq_or_imp, List.pairwise_cons]
    exact ⟨⟨le_sample _ _, fun t ht => le_trans (le_sample _ _) (h1 t ht)⟩, h1, h2⟩

end Scales.MonoClock

namespace Scales.Ema

theorem weightLegal_unit {dt w : Rat} (h : weightLegal dt w = true) (hdt : 0 ≤ dt) : 0 ≤ w ∧ w ≤ 1 := by
  unfold weightLegal at h
  simp only [Bool.and_eq_true, Bool.or_eq_true, Bool.not_eq_true', decide_eq_true_eq, decide_eq_false_iff_not] at h
  exact ⟨h.1.1, h.1.2.resolve_left (fun hn => hn hdt)⟩

theorem step_sub (w v x : Rat) : step w v x - x = (v - x) * w := by
  unfold step; ring

theorem step_between (w v x : Rat) (h0 : 0 ≤ w) (h1 : w ≤ 1) :
    min v x ≤ step w v x ∧ step w v x ≤ max v x := by
  have e1 : step w v x - v = (x - v) * (1 - w) := by unfold step; ring
  have e2 := step_sub w v x
  rcases le_total v x with h | h
  · rw [min_eq_left h, max_eq_right h]
    exact ⟨sub_nonneg.1 (e1 ▸ mul_nonneg (sub_nonneg.2 h) (sub_nonneg.2 h1)),
      sub_nonpos.1 (e2 ▸ mul_nonpos_of_nonpos_of_nonneg (sub_nonpos.2 h) h0)⟩
  · rw [min_eq_right h, max_eq_left h]
    exact ⟨sub_nonneg.1 (e2 ▸ mul_nonneg (sub_nonneg.2 h) h0),
      sub_nonpos.1 (e1 ▸ mul_nonpos_of_nonpos_of_nonneg (sub_nonpos.2 h) (sub_nonneg.2 h1))⟩

theorem iter_sub (ws : List Rat) : ∀ (v x : Rat), iter v x ws - x = (v - x) * ws.prod := by
  induction ws with
  | nil => intro v x; simp [iter]
  | cons w ws ih =>
    intro v x
    simp only [iter, List.prod_cons]
    rw [ih, step_sub]; ring

theorem prod_bound (ws : List Rat) (w : Rat) (h : ∀ u ∈ ws, 0 ≤ u ∧ u ≤ w) :
    0 ≤ ws.prod ∧ ws.prod ≤ w ^ ws.length := by
  induction ws with
  | nil => simp
  | cons u us ih =>
    obtain ⟨hu0, huw⟩ := h u List.mem_cons_self
    obtain ⟨i0, i1⟩ := ih (fun t ht => h t (List.mem_cons_of_mem _ ht))
    simp only [List.prod_cons, List.length_cons, pow_succ]
    refine ⟨mul_nonneg hu0 i0, ?_⟩
    calc u * us.prod ≤ w * w ^ us.length := mul_le_mul huw i1 i0 (le_trans hu0 huw)
      _ = w ^ us.length * w := by ring

theorem iter_converges (ws : List Rat) (w v x : Rat) (h : ∀ u ∈ ws, 0 ≤ u ∧ u ≤ w) :
    |iter v x ws - x| ≤ w ^ ws.length * |v - x| := by
  obtain ⟨p0, p1⟩ := prod_bound ws w h
  rw [iter_sub, abs_mul, abs_of_nonneg p0, mul_comm]
  exact mul_le_mul_of_nonneg_right p1 (abs_nonneg _)

end Scales.Ema
