/-
  Proofs/ThriftSharedLemmas.lean — lemmas for the second C14 component (several calls open at
  once behind one serializer): Model/ThriftShared.lean, Adapter/ThriftShared.lean.

  Everything about a call is a function of the record of that call: its outcome (`Call.outcome_answered`),
  what a step observes and writes (`obsOf`, `book`), the verdict of the specification.  The state
  enters only through `set_same` / `set_other`.
-/
import ScalesModel.Adapter.ThriftShared
import ScalesModel.Proofs.ThriftCodecLemmas
namespace Scales.ThriftShared
open Scales.ThriftCodec

theorem findSig_name (sigs : List Sig) (name : Bytes) (sig : Sig) (h : findSig sigs name = some sig) :
    sig.name = name := by
  induction sigs with
  | nil => cases h
  | cons s rest ih =>
    rw [findSig] at h
    by_cases hs : s.name = name
    · rw [if_pos hs] at h
      cases h; exact hs
    · rw [if_neg hs] at h
      exact ih h

theorem findSig_of_index : ∀ (sigs : List Sig) (m : Nat) (sig : Sig),
    distinctNames sigs = true → sigs[m]? = some sig → findSig sigs sig.name = some sig
  | [], _, _, _, h => nomatch h
  | s :: rest, 0, sig, _, h => by
    cases h
    exact if_pos rfl
  | s :: rest, m + 1, sig, hd, h => by
    rw [List.getElem?_cons_succ] at h
    simp only [distinctNames, Bool.and_eq_true, List.all_eq_true, decide_eq_true_eq] at hd
    have hne : s.name ≠ sig.name := fun e => hd.1 sig (List.mem_of_getElem? h) e.symm
    rw [findSig, if_neg hne]
    exact findSig_of_index rest m sig hd.2 h

theorem decideI_of_findSig (sigs : List Sig) (m : Msg) (sig : Sig)
    (h : findSig sigs m.name = some sig) : decideI sigs m = decide_ sig m := by
  unfold decideI decide_
  by_cases hx : m.mtype = mtException
  · rw [if_pos hx, if_pos hx]
  · simp only [if_neg hx, h]

theorem decideI_replyMsg (sigs : List Sig) (m : Nat) (sig : Sig) (r : Reply)
    (hd : distinctNames sigs = true) (hm : sigs[m]? = some sig) :
    decideI sigs (replyMsg sig.name r) = expected sig r := by
  have hf : findSig sigs (replyMsg sig.name r).name = some sig := by
    rw [replyMsg_name]; exact findSig_of_index sigs m sig hd hm
  rw [decideI_of_findSig sigs _ sig hf]
  exact decide_replyMsg sig r

theorem Call.outcome_answered (cfg : Cfg) (cl : Call) (r : Reply) (sig : Sig) (hcfg : cfgOk cfg = true)
    (hr : cl.reply = some r) (hm : cfg[cl.m]? = some sig) (hw : replyWf r = true)
    (hl : (encMsg (replyMsg sig.name r)).length < 2147483648) :
    cl.outcome cfg =
      if (replyBytes sig.name r).length ≤ listSum cl.sizes then some (expected sig r)
      else if cl.closed then some (.err true .eof) else none := by
  simp only [Call.outcome, Call.pieces, Call.stream, hr, hm, sharedOutcome,
    readMsg_splitBy_reply sig.name r cl.sizes hw hl]
  by_cases hcov : (replyBytes sig.name r).length ≤ listSum cl.sizes
  · simp only [if_pos hcov, decideI_replyMsg cfg cl.m sig r (Bool.and_eq_true _ _ ▸ hcfg).2 hm]
  · simp only [if_neg hcov]

theorem set_same (s : St) (k : Nat) (v : Option Call) : (s.set k v) k = v := if_pos rfl

theorem set_other (s : St) (k j : Nat) (v : Option Call) (h : j ≠ k) : (s.set k v) j = s j := if_neg h

theorem obsOf_chunk (cfg : Cfg) (cl : Call) (k n : Nat) :
    obsOf cfg (some cl) (.chunk k n) = .out ((cl.feed n).outcome cfg) := rfl

theorem book_answer (cfg : Cfg) (cl : Call) (k : Nat) (r : Reply) (sig : Sig) (hr : cl.reply = none)
    (hs : cfg[cl.m]? = some sig) :
    book (some cl) (.answer k r) (obsOf cfg (some cl) (.answer k r))
      = some { cl with reply := some r, flen := (replyBytes sig.name r).length } := by
  simp only [obsOf, hr, hs, book, if_true]

theorem comp_trace_eq (cfg : Cfg) : ∀ (s : St) (ops : List Op), comp.trace cfg s ops = run cfg s ops
  | _, [] => rfl
  | s, op :: ops => by
    rw [TComp.trace_cons comp step, comp_trace_eq cfg _ ops, run]

theorem modelTrace_eq_run (cfg : Cfg) (ops : List Op) : comp.modelTrace cfg ops = run cfg St.init ops :=
  comp_trace_eq cfg _ ops

/-- non-interference; from two states that agree on the record of `k`, which is what the induction carries -/
theorem run_filter (cfg : Cfg) (k : Nat) : ∀ (ops : List Op) (s s' : St), s k = s' k →
    (run cfg s ops).filter (fun p => decide (p.1.id = k))
      = run cfg s' (ops.filter (fun op => decide (op.id = k)))
  | [], _, _, _ => rfl
  | op :: ops, s, s', h => by
    by_cases hk : op.id = k
    · have hobs : (step cfg s op).2 = (step cfg s' op).2 := by
        simp only [step, hk, h]
      have hst : (step cfg s op).1 k = (step cfg s' op).1 k := by
        simp only [step, hk, h, set_same]
      simp only [run, List.filter_cons, hk, decide_true, if_true]
      rw [run_filter cfg k ops _ _ hst, hobs]
    · have hst : (step cfg s op).1 k = s' k :=
        (set_other _ _ _ _ (fun e => hk e.symm)).trans h
      simp only [run, List.filter_cons, hk, decide_false]
      exact run_filter cfg k ops _ _ hst

theorem feed_open (cl : Call) (n : Nat) (h : cl.closed = false) :
    cl.feed n = { cl with sizes := cl.sizes ++ [n] } := by
  simp only [Call.feed, h, Bool.false_eq_true, if_false]

/- From the front, though it is about the last entry: a history ends as its tail does (`List.getLast?_cons`),
   and the record of call `k` is followed through the deliveries. -/
theorem run_chunks_last (cfg : Cfg) (k : Nat) (op : Op) (hop : op.id = k) : ∀ (sizes : List Nat) (s : St) (cl : Call),
    s k = some cl → cl.closed = false →
    (run cfg s (sizes.map (.chunk k) ++ [op])).getLast?
      = some (op, obsOf cfg (some { cl with sizes := cl.sizes ++ sizes }) op)
  | [], s, cl, hs, _ => by
    rw [List.append_nil]
    show some (op, obsOf cfg (s op.id) op) = _
    rw [hop, hs]
  | n :: rest, s, cl, hs, hc => by
    have hst : (step cfg s (.chunk k n)).1 k = some (cl.feed n) := by
      simp only [step, Op.id, hs, book, set_same, Option.map_some]
    rw [List.map_cons, List.cons_append, run, List.getLast?_cons,
      run_chunks_last cfg k op hop rest _ (cl.feed n) hst (by rw [feed_open cl n hc]; exact hc),
      feed_open cl n hc, List.append_assoc]
    rfl

/-- By `run_filter` this is call `k` run alone, and there the last observation is read off the record with
    those sizes (`run_chunks_last`). -/
theorem last_of_call (cfg : Cfg) (ops : List Op) (k m c : Nat) (args : TFields) (r : Reply) (sig : Sig)
    (hm : cfg[m]? = some sig) (sizes : List Nat) (op : Op) (hop : op.id = k)
    (hproj : ops.filter (fun op => decide (op.id = k))
      = .call k m c args :: .answer k r :: (sizes.map (.chunk k) ++ [op])) :
    ((comp.modelTrace cfg ops).filter (fun p => decide (p.1.id = k))).getLast?
      = some (op, obsOf cfg (some ⟨m, c, some r, (replyBytes sig.name r).length, sizes, false⟩) op) := by
  have h1 : (step cfg St.init (.call k m c args)).1 k = some ⟨m, c, none, 0, [], false⟩ := set_same ..
  have h2 : (step cfg (step cfg St.init (.call k m c args)).1 (.answer k r)).1 k
      = some ⟨m, c, some r, (replyBytes sig.name r).length, [], false⟩ := by
    refine (set_same ..).trans ?_
    rw [Op.id, h1]
    exact book_answer cfg _ k r sig rfl hm
  rw [modelTrace_eq_run, run_filter cfg k ops _ St.init rfl, hproj, run, List.getLast?_cons, run, List.getLast?_cons,
    run_chunks_last cfg k op hop sizes _ _ h2 rfl]
  rfl

theorem last_chunk (cfg : Cfg) (ops : List Op) (k m c : Nat) (args : TFields) (r : Reply) (sig : Sig)
    (hm : cfg[m]? = some sig) (sizes : List Nat) (hne : sizes ≠ [])
    (hproj : ops.filter (fun op => decide (op.id = k))
      = .call k m c args :: .answer k r :: sizes.map (.chunk k)) :
    ∃ n, ((comp.modelTrace cfg ops).filter (fun p => decide (p.1.id = k))).getLast?
      = some (.chunk k n,
          .out (Call.outcome cfg ⟨m, c, some r, (replyBytes sig.name r).length, sizes, false⟩)) := by
  obtain rfl | ⟨init, n, rfl⟩ := List.eq_nil_or_concat sizes
  · exact absurd rfl hne
  · rw [List.concat_eq_append] at hproj ⊢
    rw [List.map_append] at hproj
    exact ⟨n, by rw [last_of_call cfg ops k m c args r sig hm init (.chunk k n) rfl hproj, obsOf_chunk, feed_open _ _ rfl]⟩

/-- what is known about the record of an answered call in a reachable state -/
def CallOk (cfg : Cfg) (cl : Call) : Prop :=
  ∀ r, cl.reply = some r →
    ∃ sig, cfg[cl.m]? = some sig ∧ cl.flen = (replyBytes sig.name r).length ∧
      replyWf r = true ∧ (encMsg (replyMsg sig.name r)).length < 2147483648

theorem CallOk.feed {cfg : Cfg} {cl : Call} (h : CallOk cfg cl) (n : Nat) : CallOk cfg (cl.feed n) := by
  unfold Call.feed; split <;> exact h

theorem CallOk.close {cfg : Cfg} {cl : Call} (h : CallOk cfg cl) : CallOk cfg cl.close := h

/-- The invariant on one slot of the state.  A step reads and writes the slot of its own call only, so
    the invariant of the state is this, slot by slot. -/
def RecOk (cfg : Cfg) : Option Call → Prop
  | none => True
  | some cl => CallOk cfg cl

def Inv (cfg : Cfg) (s : St) : Prop := ∀ k, RecOk cfg (s k)

theorem inv_init (cfg : Cfg) : Inv cfg St.init := fun _ => trivial

theorem specOut_model (cfg : Cfg) (hcfg : cfgOk cfg = true) (idx : Nat) (cl : Call) (h : CallOk cfg cl) :
    specOut cfg idx cl (cl.outcome cfg) = .ok := by
  unfold specOut
  cases hr : cl.reply with
  | none => rfl
  | some r =>
    obtain ⟨sig, hs, hfl, hw, hl⟩ := h r hr
    simp only [hs]
    by_cases hcov : listSum cl.sizes < cl.flen
    · rw [if_pos hcov]
    · have hle : (replyBytes sig.name r).length ≤ listSum cl.sizes := hfl ▸ Nat.le_of_not_lt hcov
      rw [if_neg hcov, Call.outcome_answered cfg cl r sig hcfg hr hs hw hl, if_pos hle, if_pos rfl]

/-- The verdict and the invariant together: `opOk` rules out the same four combinations of operation
    and record for both. -/
theorem step_ok (cfg : Cfg) (hcfg : cfgOk cfg = true) (cur : Option Call) (idx : Nat) (op : Op)
    (hcur : RecOk cfg cur) (hop : opOk cfg cur op = true) :
    specObs cfg cur idx op (obsOf cfg cur op) = .ok ∧ RecOk cfg (book cur op (obsOf cfg cur op)) := by
  cases op with
  | call k m c args =>
    cases cur with
    | some cl => cases hop
    | none =>
      cases hs : cfg[m]? with
      | none => simp only [opOk, hs] at hop; cases hop
      | some sig =>
        simp only [opOk, hs, Option.isNone_none, Bool.true_and, Bool.and_eq_true, decide_eq_true_eq] at hop
        refine ⟨?_, fun r hr => nomatch hr⟩
        simp only [obsOf, hs, specObs, decMsg_callBytes sig.name args (encMsg_name_lt hop.2) hop.1]
        exact specCall_ok sig idx args hop.2
  | answer k r =>
    cases cur with
    | none => cases hop
    | some cl =>
      simp only [opOk, Bool.and_eq_true, Option.isNone_iff_eq_none] at hop
      cases hs : cfg[cl.m]? with
      | none => rw [hs] at hop; cases hop.2
      | some sig =>
        simp only [hs, Bool.and_eq_true, decide_eq_true_eq] at hop
        rw [book_answer cfg cl k r sig hop.1.1 hs]
        refine ⟨by simp only [obsOf, hop.1.1, hs, specObs], fun r' hr => ?_⟩
        cases hr
        exact ⟨sig, hs, rfl, replyOk_wf sig r hop.2.1, hop.2.2⟩
  | chunk k n =>
    cases cur with
    | none => cases hop
    | some cl => exact ⟨specOut_model cfg hcfg idx _ (CallOk.feed hcur n), CallOk.feed hcur n⟩
  | close k =>
    cases cur with
    | none => cases hop
    | some cl => exact ⟨specOut_model cfg hcfg idx _ (CallOk.close hcur), CallOk.close hcur⟩

theorem specGo_run (cfg : Cfg) (hcfg : cfgOk cfg = true) : ∀ (ops : List Op) (s : St) (idx : Nat),
    Inv cfg s → opsOk cfg s ops = true → specGo cfg s idx (run cfg s ops) = .ok
  | [], _, _, _, _ => rfl
  | op :: ops, s, idx, hi, h => by
    rw [opsOk, Bool.and_eq_true] at h
    obtain ⟨h1, hb⟩ := step_ok cfg hcfg (s op.id) idx op (hi op.id) h.1
    have hi' : Inv cfg (step cfg s op).1 := fun k => by
      show RecOk cfg (St.set s op.id _ k)
      by_cases hkk : k = op.id
      · rw [hkk, set_same]; exact hb
      · rw [set_other _ _ _ _ hkk]; exact hi k
    rw [run, specGo]
    exact Verdict.and_ok h1 (specGo_run cfg hcfg ops _ (idx + 1) hi' h.2)

end Scales.ThriftShared
