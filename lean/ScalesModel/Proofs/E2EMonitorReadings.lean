/-
  Proofs/E2EMonitorReadings.lean — every check of the end-to-end monitors (Adapter/E2E.lean) read as the clauses
  of its property.

  The clauses are predicates over the event list alone, by positions `log[i]?` (`UnknownCallAt` … `NoReconnectAt`,
  `Violated1/2/9/12`); the theorems of Props/E2EMonitor.lean are stated in them.  The history predicates of
  Proofs/E2EMonitorLemmas.lean on `log.take j` are the `…Before log j` of the clauses, so in any state that represents the
  history before `j` (`Rep`, `View9`) a failing check at `j` reports `j` and a violation of the clause it names
  (`check#_fail`), and a violated clause makes the check at `j` fail (`check#_complete`; `verdict#_<clause>` with the exact
  verdict, for the `…_iff` theorems); hence `monitor# : Reads # mux log (Violated# …)` by `monGo_reading`.
-/
import ScalesModel.Proofs.E2EMonitorLemmas
namespace Scales.E2E

/-- the number a call issued at position `j` gets -/
abbrev issuedCount (log : List Ev) (j : Nat) : Nat := nIssues (log.take j)

/-- call `c` was issued before position `j`, with timeout `T` at time `ti` -/
def IssuedBefore (log : List Ev) (j c T ti : Nat) : Prop :=
  ∃ i c' pre, i < j ∧ log[i]? = some (.issue c' T ti pre) ∧ issuedCount log i = c

/-- call `c` (already issued) has a completion event before position `j` -/
def CompletedBefore (log : List Ev) (j c : Nat) : Prop :=
  ∃ i o t, i < j ∧ log[i]? = some (.done c o t) ∧ c < issuedCount log i

/-- the completion of call `c` — its first completion event after its issue — happened before position `j`
    and was TimeoutError at time `td` -/
def TimedOutBefore (log : List Ev) (j c td : Nat) : Prop :=
  ∃ i, i < j ∧ log[i]? = some (.done c .timeout td) ∧ c < issuedCount log i ∧ ¬ CompletedBefore log i c

/-- all monitors: a completion event at `j` for a call number not issued so far -/
def UnknownCallAt (log : List Ev) (j : Nat) : Prop :=
  ∃ c o t, log[j]? = some (.done c o t) ∧ issuedCount log j ≤ c

/-- C01 `foreign-reply` / C02 `cross-talk`: at `j` the issued call `c` is completed with the reply the server
    produced for another call `k` -/
def CrossTalkAt (log : List Ev) (j c : Nat) (k : Int) : Prop :=
  ∃ t, log[j]? = some (.done c (.other k) t) ∧ c < issuedCount log j

/-- C01 `completed-twice` -/
def CompletedTwiceAt (log : List Ev) (j c : Nat) : Prop :=
  ∃ o t, log[j]? = some (.done c o t) ∧ CompletedBefore log j c

/-- C01 `timeout-early`: TimeoutError delivered before `ti + T` -/
def TimeoutEarlyAt (log : List Ev) (j c : Nat) : Prop :=
  ∃ t T ti, log[j]? = some (.done c .timeout t) ∧ IssuedBefore log j c T ti ∧ ¬ CompletedBefore log j c ∧ t < ti + T

/-- C01 `deadline-bound` on a completion: the call completes later than `ti + T` rounded up to 10 ms -/
def DeadlineMissedAt (log : List Ev) (j c : Nat) : Prop :=
  ∃ o t T ti, log[j]? = some (.done c o t) ∧ IssuedBefore log j c T ti ∧ ¬ CompletedBefore log j c ∧
    0 < T ∧ roundUp (ti + T) < t

/-- C01 `deadline-bound` at a tick (`overdue`): the call is still incomplete later than `ti + T` rounded up -/
def OverdueAt (log : List Ev) (j c : Nat) : Prop :=
  ∃ now T ti, log[j]? = some (.tick now) ∧ IssuedBefore log j c T ti ∧ ¬ CompletedBefore log j c ∧
    0 < T ∧ roundUp (ti + T) < now

/-- C02 `args-mangled`: the server decoded a request that is not the method/arguments of the call it carries -/
def ArgsMangledAt (log : List Ev) (j : Nat) : Prop :=
  ∃ c conn ok t, log[j]? = some (.srvgot c conn ok t) ∧ (ok = false ∨ c < 0)

/-- C12 `write-after-timeout`: a request frame of call `c` written at `t`, the call having completed with
    TimeoutError at `td ≤ t` earlier in the log -/
def WriteAfterTimeoutAt (log : List Ev) (j c : Nat) : Prop :=
  ∃ conn tag t td, log[j]? = some (.wrote (c : Int) conn false tag t) ∧ TimedOutBefore log j c td ∧ td ≤ t

/-- C12 `discard-missing` (end of the log): call `c` completed with TimeoutError at `td`; a request frame of it
    (tag `tag`, written at `tw ≤ td`) is on a connection not closed at or before `td`; no discard frame for that
    call and tag was written on that connection -/
def DiscardMissingIn (log : List Ev) (c : Nat) : Prop :=
  ∃ td conn tag tw, TimedOutBefore log log.length c td ∧
    (∃ i, log[i]? = some (.wrote (c : Int) conn false tag tw) ∧ c < issuedCount log i) ∧ tw ≤ td ∧
    (∀ (i tc : Nat), log[i]? = some (Ev.connclosed conn tc) → td < tc) ∧
    ¬ ∃ i t, log[i]? = some (.wrote (c : Int) conn true tag t) ∧ c < issuedCount log i

/-- C09 `connect-after-close` -/
def ConnectAfterCloseAt (log : List Ev) (j ep : Nat) : Prop :=
  ∃ i t t', i < j ∧ log[i]? = some (.clientclosed t) ∧ log[j]? = some (.connect ep t')

/-- endpoint `ep` refuses connections just before position `j`: its last reachability change was "down" -/
def DownBefore (log : List Ev) (j ep : Nat) : Prop :=
  ∃ i t mw, i < j ∧ log[i]? = some (.reach ep false t mw) ∧
    ∀ k x, i < k → k < j → log[k]? = some x → Ev.isReach ep x = false

/-- C09 `no-reconnect-within-max-interval`, judged when the event at `j` arrives (at its time): the client has
    not been closed; its last connection attempt to `ep` (position `ic`, time `tc`) was refused; `ep` accepts
    connections again since `tr` (position `ir`, no reachability change since; `mw` the maximum retry interval);
    more than `mw + retrySlack` has passed since both -/
def NoReconnectAt (log : List Ev) (j ep : Nat) : Prop :=
  ∃ e, log[j]? = some e ∧ (∀ i t, i < j → log[i]? ≠ some (.clientclosed t)) ∧
    ∃ ic tc ir tr mw,
      ic < j ∧ log[ic]? = some (.connect ep tc) ∧ DownBefore log ic ep ∧
      (∀ k x, ic < k → k < j → log[k]? = some x → Ev.isConnect ep x = false) ∧
      ir < j ∧ log[ir]? = some (.reach ep true tr mw) ∧
      (∀ k x, ir < k → k < j → log[k]? = some x → Ev.isReach ep x = false) ∧
      max tr tc + mw + retrySlack < evTime e

/-- C01: clause `cl` is violated at position `j`; `rest` = the parameters reported after the position -/
def Violated1 (log : List Ev) (cl : String) (j : Nat) (rest : List V) : Prop :=
  (cl = "unknown-call" ∧ rest = [] ∧ UnknownCallAt log j) ∨
  (cl = "foreign-reply" ∧ ∃ c k, rest = [V.ofNat c] ∧ CrossTalkAt log j c k) ∨
  (cl = "completed-twice" ∧ ∃ c, rest = [V.ofNat c] ∧ CompletedTwiceAt log j c) ∨
  (cl = "timeout-early" ∧ ∃ c, rest = [V.ofNat c] ∧ TimeoutEarlyAt log j c) ∨
  (cl = "deadline-bound" ∧ ∃ c tag, rest = [V.ofNat c, tag] ∧ (DeadlineMissedAt log j c ∨ OverdueAt log j c))

def Violated2 (log : List Ev) (cl : String) (j : Nat) (rest : List V) : Prop :=
  (cl = "unknown-call" ∧ rest = [] ∧ UnknownCallAt log j) ∨
  (cl = "cross-talk" ∧ ∃ c k, rest = [V.ofNat c, .n k] ∧ CrossTalkAt log j c k) ∨
  (cl = "args-mangled" ∧ rest = [] ∧ ArgsMangledAt log j)

/-- C12 (the end-of-log clause is reported at position `log.length`) -/
def Violated12 (mux : Bool) (log : List Ev) (cl : String) (j : Nat) (rest : List V) : Prop :=
  (cl = "unknown-call" ∧ rest = [] ∧ UnknownCallAt log j) ∨
  (cl = "write-after-timeout" ∧ ∃ c, rest = [V.ofNat c] ∧ WriteAfterTimeoutAt log j c) ∨
  (cl = "discard-missing" ∧ j = log.length ∧ mux = true ∧ ∃ c, rest = [V.ofNat c] ∧ DiscardMissingIn log c)

def Violated9 (log : List Ev) (cl : String) (j : Nat) (rest : List V) : Prop :=
  (cl = "unknown-call" ∧ rest = [] ∧ UnknownCallAt log j) ∨
  (cl = "connect-after-close" ∧ ∃ ep, rest = [V.ofNat ep] ∧ ConnectAfterCloseAt log j ep) ∨
  (cl = "no-reconnect-within-max-interval" ∧ ∃ ep, rest = [V.ofNat ep] ∧ NoReconnectAt log j ep)

/-- the harness numbers the calls in the order it issues them -/
def Numbered (log : List Ev) : Prop :=
  ∀ i c T t pre, log[i]? = some (.issue c T t pre) → issuedCount log i = c

section
variable {p : List Ev} {s : St} (h : Rep p s)
include h

theorem Rep.connOpenAt (conn t : Nat) :
    connOpenAt s conn t = true ↔ ∀ (i tc : Nat), p[i]? = some (Ev.connclosed conn tc) → t < tc := by
  simp only [E2E.connOpenAt, Bool.not_eq_true', List.any_eq_false, Bool.and_eq_true, beq_iff_eq, decide_eq_true_eq,
    not_and, Nat.not_le, Prod.forall, h.closed]
  exact ⟨fun h i tc hi => h conn tc (List.mem_of_getElem? hi) rfl,
    fun h a b hm hab => (List.mem_iff_getElem?.mp hm).elim fun i hi => h i b (hab ▸ hi)⟩

end

section
variable {log : List Ev} {j : Nat} {s : St} (h : View9 log j s)
include h

theorem View9.owedOverdue (now ep tc : Nat) :
    owedOverdue s now (ep, tc) = true ↔
      ∃ tr mw, ReachBefore log j ep true tr mw ∧ max tr tc + mw + retrySlack < now := by
  unfold E2E.owedOverdue
  cases hfind : s.upSince.find? (fun u => u.1 == (ep, tc).1) with
  | none =>
    refine ⟨nofun, fun ⟨tr, mw, hu, _⟩ => ?_⟩
    simpa using List.find?_eq_none.mp hfind _ ((h.up ..).mpr hu)
  | some u =>
    obtain ⟨ep', tr, mw⟩ := u
    obtain rfl : ep' = ep := by simpa using List.find?_some hfind
    have hu := (h.up ..).mp (List.mem_of_find?_eq_some hfind)
    simp only [decide_eq_true_eq]
    refine ⟨fun h => ⟨tr, mw, hu, h⟩, fun ⟨tr', mw', hu', h⟩ => ?_⟩
    obtain ⟨-, rfl, rfl⟩ := reachBefore_fun hu hu'
    exact h

end

section
variable {w : Nat} {s : St} {idx c : Nat} {o : Outcome} {t : Nat}

theorem preV_ne9 (hw : w ≠ 9) (s : St) (idx : Nat) (e : Ev) : preV w s idx e = .ok := by
  simp [preV, hw]

theorem finalV_ne12 (hw : w ≠ 12) (mux : Bool) (s : St) (idx : Nat) : finalV w mux s idx = .ok := by
  simp [finalV, hw]

theorem verdictAt_done_none (h : s.calls[c]? = none) :
    verdictAt w s idx (.done c o t) = .fail "unknown-call" [V.ofNat idx] := by
  simp only [verdictAt, h]

theorem verdictAt_done_some {cl : CallSt} (h : s.calls[c]? = some cl) :
    verdictAt w s idx (.done c o t) =
      if w = 1 then doneV1 s cl idx c o t else if w = 2 then doneV2 idx c o else .ok := by
  simp only [verdictAt, h]

theorem verdictAt_wrote_ne12 (hw : w ≠ 12) (s : St) (idx : Nat) (c : Int) (conn : Nat) (d : Bool)
    (tag t : Nat) : verdictAt w s idx (.wrote c conn d tag t) = .ok := by
  simp only [verdictAt, hw, if_false]
  split
  · rfl
  · split <;> simp

theorem callOverdue_iff {cl : CallSt} {now : Nat} :
    callOverdue cl now = true ↔ ¬ cl.done.isSome = true ∧ 0 < cl.T ∧ roundUp (cl.issueT + cl.T) < now := by
  simp only [callOverdue, Bool.and_eq_true, decide_eq_true_eq, Option.isNone_iff_eq_none, Option.not_isSome_iff_eq_none,
    and_assoc, gt_iff_lt]

theorem doneV1_eq_fail {cl : CallSt} {cn : String} {ps : List V} :
    doneV1 s cl idx c o t = .fail cn ps ↔
      (o.isOther = true ∧ "foreign-reply" = cn ∧ [V.ofNat idx, V.ofNat c] = ps) ∨
      (¬ o.isOther = true ∧ cl.done.isSome = true ∧ "completed-twice" = cn ∧ [V.ofNat idx, V.ofNat c] = ps) ∨
      (¬ o.isOther = true ∧ ¬ cl.done.isSome = true ∧ (o = .timeout ∧ t < cl.issueT + cl.T) ∧
        "timeout-early" = cn ∧ [V.ofNat idx, V.ofNat c] = ps) ∨
      (¬ o.isOther = true ∧ ¬ cl.done.isSome = true ∧ ¬ (o = .timeout ∧ t < cl.issueT + cl.T) ∧
        (0 < cl.T ∧ roundUp (cl.issueT + cl.T) < t) ∧
        "deadline-bound" = cn ∧ [V.ofNat idx, V.ofNat c, openTag s cl] = ps) := by
  simp only [doneV1, Verdict.ite_fail_eq_fail, Bool.and_eq_true, decide_eq_true_eq, gt_iff_lt, reduceCtorEq, and_false,
    or_false, and_or_left, and_assoc]

theorem doneV1_eq_ok {cl : CallSt} :
    doneV1 s cl idx c o t = .ok ↔ ¬ o.isOther = true ∧ ¬ cl.done.isSome = true ∧
      ¬ (o = .timeout ∧ t < cl.issueT + cl.T) ∧ ¬ (0 < cl.T ∧ roundUp (cl.issueT + cl.T) < t) := by
  simp only [doneV1, Verdict.ite_fail_eq_ok, Bool.and_eq_true, decide_eq_true_eq, and_true, gt_iff_lt]

end

/-- `overdue` and `discardsOk` scan the call records for the first bad one (`go c (cl :: l) = if bad cl then mk c cl else
    go (c + 1) l`): a failing scan is `mk` of a bad record and its number; if `mk` never yields `ok`, a bad record keeps
    the scan from being `ok` -/
theorem scan_spec {go : Nat → List CallSt → Verdict} {bad : CallSt → Bool} {mk : Nat → CallSt → Verdict}
    (hnil : ∀ c, go c [] = .ok) (hcons : ∀ c cl l, go c (cl :: l) = if bad cl then mk c cl else go (c + 1) l) :
    ∀ (l : List CallSt) (c0 : Nat),
      (∀ cn ps, go c0 l = .fail cn ps → ∃ k cl, l[k]? = some cl ∧ bad cl = true ∧ mk (c0 + k) cl = .fail cn ps) ∧
      ((∀ c cl, mk c cl ≠ .ok) → ∀ cl ∈ l, bad cl = true → go c0 l ≠ .ok)
  | [], c0 => ⟨fun _ _ h => (by rw [hnil] at h; cases h), fun _ _ => nofun⟩
  | cl :: l, c0 => by
    obtain ⟨ih1, ih2⟩ := scan_spec hnil hcons l (c0 + 1)
    rw [hcons, List.forall_mem_cons]
    by_cases hb : bad cl = true
    · rw [if_pos hb]
      exact ⟨fun _ _ h => ⟨0, cl, rfl, hb, h⟩, fun hmk => ⟨fun _ => hmk _ _, fun _ _ _ => hmk _ _⟩⟩
    · rw [if_neg hb]
      refine ⟨fun cn ps h => ?_, fun hmk => ⟨fun h => absurd h hb, ih2 hmk⟩⟩
      obtain ⟨k, cl0, hk, hb', h⟩ := ih1 cn ps h
      exact ⟨k + 1, cl0, hk, hb', by rwa [Nat.add_right_comm] at h⟩

theorem overdue_spec (s : St) (idx now : Nat) :
    (∀ cn ps, overdue s idx now = .fail cn ps → ∃ k cl, s.calls[k]? = some cl ∧ callOverdue cl now = true ∧
      Verdict.fail "deadline-bound" [V.ofNat idx, V.ofNat k, openTag s cl] = .fail cn ps) ∧
    ∀ cl ∈ s.calls, callOverdue cl now = true → overdue s idx now ≠ .ok :=
  have h := scan_spec (bad := (callOverdue · now))
    (mk := fun c cl => .fail "deadline-bound" [V.ofNat idx, V.ofNat c, openTag s cl]) (fun _ => rfl) (fun _ _ _ => rfl) s.calls 0
  ⟨by simpa only [overdue, Nat.zero_add] using h.1, h.2 fun _ _ => nofun⟩

theorem discardsOk_spec (s : St) (idx : Nat) (mux : Bool) :
    (∀ cn ps, discardsOk s idx mux = .fail cn ps → ∃ k cl, s.calls[k]? = some cl ∧ discardBad s mux cl = true ∧
      Verdict.fail "discard-missing" [V.ofNat idx, V.ofNat k] = .fail cn ps) ∧
    ∀ cl ∈ s.calls, discardBad s mux cl = true → discardsOk s idx mux ≠ .ok :=
  have h := scan_spec (bad := discardBad s mux) (mk := fun c _ => .fail "discard-missing" [V.ofNat idx, V.ofNat c])
    (fun _ => rfl) (fun _ _ _ => rfl) s.calls 0
  ⟨by simpa only [discardsOk, Nat.zero_add] using h.1, h.2 fun _ _ => nofun⟩

/-! The position resp. the prefix is the first binder on either side: it is rotated inwards, past the parameters of the
    event (`exists_rotate`), and there the prefix of an occurrence before `j` is `log.take i` (`exists_occ_take`). -/

theorem issuedBefore_iff {log : List Ev} {j c T ti : Nat} :
    IssuedBefore log j c T ti ↔ ∃ pre, IssuedIn (log.take j) c T ti pre := by
  rw [IssuedBefore, ← exists_rotate]
  simp only [IssuedIn, exists_comm (α := List Ev), exists_occ_take]
  exact exists_congr fun _ => exists_comm

theorem completedBefore_iff {log : List Ev} {j c : Nat} : CompletedBefore log j c ↔ Completed (log.take j) c := by
  rw [CompletedBefore, Completed, exists_rotate, iff_comm, exists_rotate]
  simp only [DoneAt, exists_occ_take]

theorem timedOutBefore_iff {log : List Ev} {j c td : Nat} :
    TimedOutBefore log j c td ↔ FirstDone (log.take j) c .timeout td := by
  simp only [TimedOutBefore, FirstDone, DoneAt, and_assoc, exists_occ_take, completedBefore_iff]

theorem downBefore_iff {log : List Ev} {j ep : Nat} : DownBefore log j ep ↔ DownAt log j ep := exists_rotate

section
variable {log : List Ev} {j c : Nat} {cl : CallSt}

theorem CallRep.issuedBefore (h : CallRep (log.take j) c cl) : IssuedBefore log j c cl.T cl.issueT :=
  issuedBefore_iff.mpr ⟨_, h.issued⟩

theorem CallRep.issuedBefore_eq (h : CallRep (log.take j) c cl) {T ti : Nat} (hi : IssuedBefore log j c T ti) :
    T = cl.T ∧ ti = cl.issueT :=
  let ⟨_, hi⟩ := issuedBefore_iff.mp hi
  let ⟨hT, hti, _⟩ := issuedIn_fun hi h.issued
  ⟨hT, hti⟩

theorem CallRep.completedBefore (h : CallRep (log.take j) c cl) : CompletedBefore log j c ↔ cl.done.isSome = true :=
  completedBefore_iff.trans h.isSome.symm

theorem CallRep.timedOutBefore (h : CallRep (log.take j) c cl) (td : Nat) :
    TimedOutBefore log j c td ↔ cl.done = some (.timeout, td) :=
  timedOutBefore_iff.trans (h.done _ _).symm

theorem IssuedBefore.lt {T ti : Nat} (h : IssuedBefore log j c T ti) : c < issuedCount log j :=
  let ⟨_, h⟩ := issuedBefore_iff.mp h
  issuedIn_lt h

theorem CompletedBefore.lt (h : CompletedBefore log j c) : c < issuedCount log j :=
  completed_lt (completedBefore_iff.mp h)

end

section
variable {w : Nat} {mux : Bool} {log : List Ev} {j : Nat} {s : St} {cl : String} {ps rest : List V}

theorem verdictAt_unknown (hr : Rep (log.take j) s) (w : Nat) (h : UnknownCallAt log j) :
    ∃ e, log[j]? = some e ∧ verdictAt w s j e = .fail "unknown-call" [V.ofNat j] := by
  obtain ⟨c, o, t, hj, hn⟩ := h
  exact ⟨_, hj, verdictAt_done_none ((calls_none hr.calls).mpr hn)⟩

theorem verdictAt_done_fail (hr : Rep (log.take j) s) {c : Nat} {o : Outcome} {t : Nat} (hj : log[j]? = some (.done c o t))
    (hv : verdictAt w s j (.done c o t) = .fail cl ps) :
    (cl = "unknown-call" ∧ ps = [V.ofNat j] ∧ UnknownCallAt log j) ∨
    ∃ cl0, CallRep (log.take j) c cl0 ∧
      (if w = 1 then doneV1 s cl0 j c o t else if w = 2 then doneV2 j c o else .ok) =
        .fail cl ps := by
  rcases hs : s.calls[c]? with _ | cl0
  · rw [verdictAt_done_none hs] at hv; cases hv
    exact Or.inl ⟨rfl, rfl, c, o, t, hj, (calls_none hr.calls).mp hs⟩
  · exact Or.inr ⟨cl0, hr.calls.2 c cl0 hs, by rwa [verdictAt_done_some hs] at hv⟩

theorem check1_fail (hr : Rep (log.take j) s) {e : Ev} (hj : log[j]? = some e)
    (hv : verdictAt 1 s j e = .fail cl ps) :
    ∃ rest, ps = V.ofNat j :: rest ∧ Violated1 log cl j rest := by
  cases e with
  | done c o t =>
    rcases verdictAt_done_fail hr hj hv with ⟨rfl, rfl, h⟩ | ⟨cl0, rep, hv⟩
    · exact ⟨[], rfl, Or.inl ⟨rfl, rfl, h⟩⟩
    · rw [if_pos rfl] at hv
      rcases doneV1_eq_fail.mp hv with ⟨hf, rfl, rfl⟩ | ⟨-, hsome, rfl, rfl⟩ | ⟨-, hsome, ⟨rfl, hlt⟩, rfl, rfl⟩ |
        ⟨-, hsome, -, hl, rfl, rfl⟩
      · obtain ⟨k, rfl⟩ : ∃ k, o = .other k := by
          cases o with
          | other k => exact ⟨k, rfl⟩
          | _ => cases hf
        exact ⟨[V.ofNat c], rfl, Or.inr (Or.inl ⟨rfl, c, k, rfl, t, hj, issuedIn_lt rep.issued⟩)⟩
      · exact ⟨[V.ofNat c], rfl, Or.inr (Or.inr (Or.inl ⟨rfl, c, rfl, o, t, hj, rep.completedBefore.mpr hsome⟩))⟩
      · exact ⟨[V.ofNat c], rfl, Or.inr (Or.inr (Or.inr (Or.inl
          ⟨rfl, c, rfl, t, _, _, hj, rep.issuedBefore, mt rep.completedBefore.mp hsome, hlt⟩)))⟩
      · exact ⟨[V.ofNat c, openTag _ cl0], rfl, Or.inr (Or.inr (Or.inr (Or.inr ⟨rfl, c, _, rfl, Or.inl
          ⟨o, t, _, _, hj, rep.issuedBefore, mt rep.completedBefore.mp hsome, hl.1, hl.2⟩⟩)))⟩
  | tick t =>
    simp only [verdictAt, ↓reduceIte] at hv
    obtain ⟨k, cl0, hk, hov, hf⟩ := (overdue_spec ..).1 cl ps hv
    cases hf
    have rep := hr.calls.2 k cl0 hk
    obtain ⟨hnone, hT, hlate⟩ := callOverdue_iff.mp hov
    exact ⟨[V.ofNat k, openTag _ cl0], rfl, Or.inr (Or.inr (Or.inr (Or.inr ⟨rfl, k, _, rfl, Or.inr
      ⟨t, _, _, hj, rep.issuedBefore, mt rep.completedBefore.mp hnone, hT, hlate⟩⟩)))⟩
  | wrote c conn d tag t => rw [verdictAt_wrote_ne12 (by decide)] at hv; cases hv
  | _ => cases hv

theorem check1_complete (hv : Violated1 log cl j rest) : checkAt 1 mux {} 0 log j ≠ .ok := by
  have hdone : ∀ {c o t}, log[j]? = some (.done c o t) → c < issuedCount log j →
      (∀ cl0, CallRep (log.take j) c cl0 → doneV1 (stAfter {} (log.take j)) cl0 j c o t ≠ .ok) →
      checkAt 1 mux {} 0 log j ≠ .ok := by
    intro c o t hj hc h
    obtain ⟨cl0, hs, rep⟩ := calls_some (repCalls _) hc
    exact checkAt_ne_ok_of_event ⟨_, hj, rfl⟩ (by rw [verdictAt_done_some hs, if_pos rfl]; exact h cl0 rep)
  rcases hv with ⟨-, -, hu⟩ | ⟨-, c, k, -, t, hj, hc⟩ | ⟨-, c, -, o, t, hj, hc⟩ | ⟨-, c, -, t, T, ti, hj, hi, hnc, hlt⟩ |
    ⟨-, c, tag, -, ⟨o, t, T, ti, hj, hi, hnc, hT, hlate⟩ | ⟨now, T, ti, hj, hi, hnc, hT, hlate⟩⟩
  · exact checkAt_ne_ok_of_event (verdictAt_unknown (rep _) 1 hu) nofun
  · exact hdone hj hc fun cl0 rep hok => (doneV1_eq_ok.mp hok).1 rfl
  · exact hdone hj hc.lt fun cl0 rep hok => (doneV1_eq_ok.mp hok).2.1 (rep.completedBefore.mp hc)
  · refine hdone hj hi.lt fun cl0 rep hok => (doneV1_eq_ok.mp hok).2.2.1 ⟨rfl, ?_⟩
    obtain ⟨rfl, rfl⟩ := rep.issuedBefore_eq hi
    exact hlt
  · refine hdone hj hi.lt fun cl0 rep hok => (doneV1_eq_ok.mp hok).2.2.2 ?_
    obtain ⟨rfl, rfl⟩ := rep.issuedBefore_eq hi
    exact ⟨hT, hlate⟩
  · obtain ⟨cl0, hs, rep⟩ := calls_some (repCalls _) hi.lt
    obtain ⟨rfl, rfl⟩ := rep.issuedBefore_eq hi
    have hov := callOverdue_iff.mpr ⟨mt rep.completedBefore.mpr hnc, hT, hlate⟩
    refine checkAt_ne_ok_of_event ⟨_, hj, rfl⟩ ?_
    simp only [verdictAt, ↓reduceIte]
    exact (overdue_spec ..).2 cl0 (List.mem_of_getElem? hs) hov

theorem verdict2_cross_talk (hr : Rep (log.take j) s) {c : Nat} {k : Int} (h : CrossTalkAt log j c k) :
    ∃ e, log[j]? = some e ∧
      verdictAt 2 s j e = .fail "cross-talk" [V.ofNat j, V.ofNat c, .n k] := by
  obtain ⟨t, hj, hc⟩ := h
  obtain ⟨cl0, hs, -⟩ := calls_some hr.calls hc
  exact ⟨_, hj, by rw [verdictAt_done_some hs]; rfl⟩

theorem verdict2_args_mangled (h : ArgsMangledAt log j) :
    ∃ e, log[j]? = some e ∧ verdictAt 2 s j e = .fail "args-mangled" [V.ofNat j] := by
  obtain ⟨c, conn, ok, t, hj, hbad⟩ := h
  refine ⟨_, hj, ?_⟩
  rw [verdictAt, if_pos]
  rcases hbad with rfl | hneg <;> simp [*]

theorem check2_fail (hr : Rep (log.take j) s) {e : Ev} (hj : log[j]? = some e)
    (hv : verdictAt 2 s j e = .fail cl ps) :
    ∃ rest, ps = V.ofNat j :: rest ∧ Violated2 log cl j rest := by
  cases e with
  | done c o t =>
    rcases verdictAt_done_fail hr hj hv with ⟨rfl, rfl, h⟩ | ⟨cl0, rep, hv⟩
    · exact ⟨[], rfl, Or.inl ⟨rfl, rfl, h⟩⟩
    · cases o with
      | other k =>
        cases hv
        exact ⟨_, rfl, Or.inr (Or.inl ⟨rfl, c, k, rfl, t, hj, issuedIn_lt rep.issued⟩)⟩
      | _ => cases hv
  | srvgot c conn ok t =>
    simp only [verdictAt, Verdict.ite_fail_eq_fail, Bool.and_eq_true, Bool.or_eq_true, Bool.not_eq_true', decide_eq_true_eq,
      true_and] at hv
    rcases hv with ⟨hbad, rfl, rfl⟩ | ⟨-, h⟩
    · exact ⟨[], rfl, Or.inr (Or.inr ⟨rfl, rfl, c, conn, ok, t, hj, hbad⟩)⟩
    · cases h
  | wrote c conn d tag t => rw [verdictAt_wrote_ne12 (by decide)] at hv; cases hv
  | _ => cases hv

theorem check2_complete (hv : Violated2 log cl j rest) : checkAt 2 mux {} 0 log j ≠ .ok := by
  rcases hv with ⟨-, -, h⟩ | ⟨-, c, k, -, h⟩ | ⟨-, -, h⟩
  · exact checkAt_ne_ok_of_event (verdictAt_unknown (rep _) 2 h) nofun
  · exact checkAt_ne_ok_of_event (verdict2_cross_talk (rep _) h) nofun
  · exact checkAt_ne_ok_of_event (verdict2_args_mangled h) nofun

theorem verdict12_write_after_timeout (hr : Rep (log.take j) s) {c : Nat} (h : WriteAfterTimeoutAt log j c) :
    ∃ e, log[j]? = some e ∧
      verdictAt 12 s j e = .fail "write-after-timeout" [V.ofNat j, V.ofNat c] := by
  obtain ⟨conn, tag, t, td, hj, hf, hle⟩ := h
  obtain ⟨cl0, hs, rep⟩ := calls_some hr.calls (completed_lt (firstDone_completed (timedOutBefore_iff.mp hf)))
  have hd := (rep.timedOutBefore td).mp hf
  have hnn : ¬ ((c : Int) < 0) := by omega
  exact ⟨_, hj, by simp [verdictAt, hnn, hs, wroteV12, hd, hle]⟩

theorem check12_fail (hr : Rep (log.take j) s) {e : Ev} (hj : log[j]? = some e)
    (hv : verdictAt 12 s j e = .fail cl ps) :
    ∃ rest, ps = V.ofNat j :: rest ∧ Violated12 mux log cl j rest := by
  cases e with
  | done c o t =>
    rcases verdictAt_done_fail hr hj hv with ⟨rfl, rfl, h⟩ | ⟨_, -, hv⟩
    · exact ⟨[], rfl, Or.inl ⟨rfl, rfl, h⟩⟩
    · cases hv
  | wrote ci conn d tag t =>
    rw [verdictAt] at hv
    by_cases hneg : ci < 0
    · rw [if_pos hneg] at hv; cases hv
    · obtain ⟨c, rfl⟩ := Int.eq_ofNat_of_zero_le (Int.not_lt.mp hneg)
      rw [if_neg hneg, Int.toNat_natCast] at hv
      split at hv
      · cases hv
      · rename_i cl0 hs
        have rep := hr.calls.2 _ cl0 hs
        cases d
        · simp only [Bool.false_eq_true, if_false, if_true, wroteV12] at hv
          split at hv
          · rename_i td hd
            rw [Verdict.ite_fail_eq_fail] at hv
            rcases hv with ⟨hle, rfl, rfl⟩ | ⟨-, h⟩
            · exact ⟨_, rfl, Or.inr (Or.inl ⟨rfl, c, rfl, conn, tag, t, td, hj, (rep.timedOutBefore td).mpr hd, hle⟩)⟩
            · cases h
          · cases hv
        · cases hv
  | _ => cases hv

theorem discardBad_iff (hs : Rep log s) {c : Nat} {cl0 : CallSt} (h : CallRep log c cl0) (mux : Bool) :
    discardBad s mux cl0 = true ↔ mux = true ∧ DiscardMissingIn log c := by
  have hdone : ∀ td, cl0.done = some (.timeout, td) ↔ TimedOutBefore log log.length c td := fun td => by
    rw [timedOutBefore_iff, List.take_length]; exact h.done _ _
  have hdisc : ∀ conn tag, (cl0.discards.any fun d => d.1 == conn && d.2 == tag) = true ↔
      ∃ i t, log[i]? = some (.wrote (c : Int) conn true tag t) ∧ c < issuedCount log i := by
    intro conn tag
    rw [← discIn_iff, ← h.discs]
    simp only [List.any_eq_true, Bool.and_eq_true, beq_iff_eq, Prod.exists]
    exact ⟨fun ⟨a, b, hm, ha, hb⟩ => ha ▸ hb ▸ hm, fun hm => ⟨conn, tag, hm, rfl, rfl⟩⟩
  unfold discardBad DiscardMissingIn
  constructor
  · intro hb
    split at hb
    · rename_i t hd
      simp only [Bool.and_eq_true, List.any_eq_true, decide_eq_true_eq, Bool.not_eq_true', Prod.exists] at hb
      obtain ⟨hm, conn, tag, tw, hr, ⟨hle, ho⟩, hnd⟩ := hb
      exact ⟨hm, t, conn, tag, tw, (hdone t).mp hd, reqIn_iff.mp ((h.reqs _ _ _).mp hr), hle, (hs.connOpenAt ..).mp ho,
        fun hdi => by rw [(hdisc conn tag).mpr hdi] at hnd; cases hnd⟩
    · cases hb
  · rintro ⟨hm, td, conn, tag, tw, hf, hr, hle, hop, hnd⟩
    rw [(hdone td).mpr hf]
    simp only [Bool.and_eq_true, List.any_eq_true, decide_eq_true_eq, Bool.not_eq_true', Prod.exists]
    exact ⟨hm, conn, tag, tw, (h.reqs _ _ _).mpr (reqIn_iff.mpr hr), ⟨hle, (hs.connOpenAt ..).mpr hop⟩,
      Bool.eq_false_iff.mpr (mt (hdisc conn tag).mp hnd)⟩

theorem final12_fail (hr : Rep log s) (hv : finalV 12 mux s log.length = .fail cl ps) :
    ∃ rest, ps = V.ofNat log.length :: rest ∧ Violated12 mux log cl log.length rest := by
  simp only [finalV, ↓reduceIte] at hv
  obtain ⟨k, cl0, hk, hbad, hf⟩ := (discardsOk_spec ..).1 cl ps hv
  cases hf
  obtain ⟨hm, hdm⟩ := (discardBad_iff hr (hr.calls.2 k cl0 hk) mux).mp hbad
  exact ⟨[V.ofNat k], rfl, Or.inr (Or.inr ⟨rfl, rfl, hm, k, rfl, hdm⟩)⟩

theorem final12_complete (hr : Rep log s) {c : Nat} (hm : mux = true) (hdm : DiscardMissingIn log c) :
    finalV 12 mux s log.length ≠ .ok := by
  have hlt : c < nIssues log := by
    obtain ⟨td, _, _, _, hf, _⟩ := hdm
    rw [timedOutBefore_iff, List.take_length] at hf
    exact completed_lt (firstDone_completed hf)
  obtain ⟨cl0, hs, rep⟩ := calls_some hr.calls hlt
  have hbad := (discardBad_iff hr rep mux).mpr ⟨hm, hdm⟩
  simp only [finalV, ↓reduceIte]
  exact (discardsOk_spec ..).2 cl0 (List.mem_of_getElem? hs) hbad

theorem check12_complete (hv : Violated12 mux log cl j rest) : checkAt 12 mux {} 0 log j ≠ .ok := by
  rcases hv with ⟨-, -, h⟩ | ⟨-, c, -, h⟩ | ⟨-, rfl, hm, c, -, h⟩
  · exact checkAt_ne_ok_of_event (verdictAt_unknown (rep _) 12 h) nofun
  · exact checkAt_ne_ok_of_event (verdict12_write_after_timeout (rep _) h) nofun
  · rw [checkAt_length]; exact final12_complete (rep _) hm h

/-- the clause, written flat over positions for the reader of Props/, in the notions `View9` speaks -/
theorem noReconnectAt_iff {ep : Nat} :
    NoReconnectAt log j ep ↔ ∃ e, log[j]? = some e ∧ (¬ ∃ i, i < j ∧ ∃ t, log[i]? = some (.clientclosed t)) ∧
      ∃ tc tr mw, OwedBefore log j ep tc ∧ ReachBefore log j ep true tr mw ∧ max tr tc + mw + retrySlack < evTime e := by
  constructor
  · rintro ⟨e, hj, hcc, ic, tc, ir, tr, mw, h1, h2, h3, h4, h5, h6, h7, h8⟩
    exact ⟨e, hj, fun ⟨i, hlt, t, hi⟩ => hcc i t hlt hi, tc, tr, mw, ⟨ic, ⟨h1, h2, h4⟩, downBefore_iff.mp h3⟩, ⟨ir, h5, h6, h7⟩, h8⟩
  · rintro ⟨e, hj, hcc, tc, tr, mw, ⟨ic, ⟨h1, h2, h4⟩, h3⟩, ⟨ir, h5, h6, h7⟩, h8⟩
    exact ⟨e, hj, fun i t hlt hi => hcc ⟨i, hlt, t, hi⟩, ic, tc, ir, tr, mw, h1, h2, downBefore_iff.mpr h3, h4, h5, h6, h7, h8⟩

theorem preV9_fail (hr : View9 log j s) {e : Ev} (hj : log[j]? = some e) (hv : preV 9 s j e = .fail cl ps) :
    cl = "no-reconnect-within-max-interval" ∧ ∃ ep, ps = [V.ofNat j, V.ofNat ep] ∧ NoReconnectAt log j ep := by
  rw [preV, if_pos rfl, retryOverdue] at hv
  split at hv
  · cases hv
  · rename_i hcc
    split at hv
    · rename_i o hfind
      cases hv
      obtain ⟨ep, tc⟩ := o
      obtain ⟨tr, mw, hu, hlt⟩ := (hr.owedOverdue ..).mp (List.find?_some hfind)
      exact ⟨rfl, _, rfl, noReconnectAt_iff.mpr ⟨e, hj, mt hr.clientClosed.mpr hcc, tc, tr, mw,
        (hr.owed ..).mp (List.mem_of_find?_eq_some hfind), hu, hlt⟩⟩
    · cases hv

theorem preV9_eq_ok (hr : View9 log j s) {e : Ev} (hj : log[j]? = some e) :
    preV 9 s j e = .ok ↔ ∀ ep, ¬ NoReconnectAt log j ep := by
  constructor
  · intro hok ep h
    obtain ⟨e', hj', hcc, tc, tr, mw, ho, hu, hlt⟩ := noReconnectAt_iff.mp h
    cases hj.symm.trans hj'
    rw [preV, if_pos rfl, retryOverdue, if_neg (mt hr.clientClosed.mp hcc)] at hok
    split at hok
    · cases hok
    · exact absurd ((hr.owedOverdue ..).mpr ⟨tr, mw, hu, hlt⟩) (List.find?_eq_none.mp ‹_› _ ((hr.owed ..).mpr ho))
  · intro hno
    rcases hv : preV 9 s j e with _ | ⟨cl, ps⟩
    · rfl
    · obtain ⟨-, ep, -, h⟩ := preV9_fail hr hj hv
      exact absurd h (hno ep)

theorem verdict9_connect_after_close (hr : View9 log j s) {ep : Nat} (h : ConnectAfterCloseAt log j ep) :
    ∃ e, log[j]? = some e ∧
      verdictAt 9 s j e = .fail "connect-after-close" [V.ofNat j, V.ofNat ep] := by
  obtain ⟨i, t, t', hlt, hi, hj⟩ := h
  have := hr.clientClosed.mpr ⟨i, hlt, t, hi⟩
  exact ⟨_, hj, by simp [verdictAt, this]⟩

theorem check9_fail (hc : Rep (log.take j) s) (hr : View9 log j s) {e : Ev} (hj : log[j]? = some e)
    (hv : verdictAt 9 s j e = .fail cl ps) :
    ∃ rest, ps = V.ofNat j :: rest ∧ Violated9 log cl j rest := by
  cases e with
  | done c o t =>
    rcases verdictAt_done_fail hc hj hv with ⟨rfl, rfl, h⟩ | ⟨_, -, hv⟩
    · exact ⟨[], rfl, Or.inl ⟨rfl, rfl, h⟩⟩
    · cases hv
  | connect ep t =>
    simp only [verdictAt, Verdict.ite_fail_eq_fail, decide_true, Bool.true_and] at hv
    rcases hv with ⟨hc, rfl, rfl⟩ | ⟨-, h⟩
    · obtain ⟨i, hlt, tc, hi⟩ := hr.clientClosed.mp hc
      exact ⟨_, rfl, Or.inr (Or.inl ⟨rfl, ep, rfl, i, tc, t, hlt, hi, hj⟩)⟩
    · cases h
  | wrote c conn d tag t => rw [verdictAt_wrote_ne12 (by decide)] at hv; cases hv
  | _ => cases hv

theorem check9_complete (hv : Violated9 log cl j rest) : checkAt 9 mux {} 0 log j ≠ .ok := by
  rcases hv with ⟨-, -, h⟩ | ⟨-, ep, -, h⟩ | ⟨-, ep, -, h⟩
  · exact checkAt_ne_ok_of_event (verdictAt_unknown (rep _) 9 h) nofun
  · obtain ⟨_, _, _, _, _, hj⟩ := id h
    exact checkAt_ne_ok_of_event (verdict9_connect_after_close (view9 hj) h) nofun
  · obtain ⟨e, hj, -⟩ := id h
    rw [checkAt_of_getElem? hj, Ne, Verdict.and_eq_ok, preV9_eq_ok (view9 hj) hj]
    exact fun hok => hok.1 ep h

/-! `monGo_reading` takes the reading of the check before an event, of the check of the event and of the check at the end
  of the log, then completeness.  Only monitor 9 has the first check and only monitor 12 the third: for the others `preV`
  resp. `finalV` reduces to `ok`, so a `fail` from it is impossible (`nofun`). -/

theorem monitor1 (mux : Bool) (log : List Ev) : Reads 1 mux log (Violated1 log) :=
  monGo_reading (fun _ => nofun) (check1_fail (rep _)) nofun check1_complete

theorem monitor2 (mux : Bool) (log : List Ev) : Reads 2 mux log (Violated2 log) :=
  monGo_reading (fun _ => nofun) (check2_fail (rep _)) nofun check2_complete

theorem monitor9 (mux : Bool) (log : List Ev) : Reads 9 mux log (Violated9 log) :=
  monGo_reading
    (fun hj hv => let ⟨hcl, ep, hps, h⟩ := preV9_fail (view9 hj) hj hv; ⟨_, hps, Or.inr (Or.inr ⟨hcl, ep, rfl, h⟩)⟩)
    (fun hj => check9_fail (rep _) (view9 hj) hj) nofun check9_complete

theorem monitor12 (mux : Bool) (log : List Ev) : Reads 12 mux log (Violated12 mux log) :=
  monGo_reading (fun _ => nofun) (check12_fail (rep _)) (final12_fail (rep _)) check12_complete

end

end Scales.E2E
