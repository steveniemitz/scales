/-
  Proofs/WatermarkView.lean — C07: the picture of sinks and calls (`View`) under the events of
  Model/Watermark.lean, and the index lists the specification computes from it.
-/
import ScalesModel.Adapter.Watermark
import Mathlib.Data.List.Nodup
import Mathlib.Data.List.Range

namespace Scales.Watermark

theorem mem_ids {n : Nat} {p : Nat → Bool} {x : Nat} :
    x ∈ (List.range n).filter p ↔ x < n ∧ p x = true := by
  simp [List.mem_filter]

theorem nodup_ids (n : Nat) (p : Nat → Bool) : ((List.range n).filter p).Nodup :=
  List.Nodup.filter _ List.nodup_range

theorem sorted_ids (n : Nat) (p : Nat → Bool) : ((List.range n).filter p).Pairwise (· < ·) :=
  List.Pairwise.filter _ List.pairwise_lt_range

theorem eq_of_sorted_of_mem {l₁ l₂ : List Nat} (h1 : l₁.Pairwise (· < ·)) (h2 : l₂.Pairwise (· < ·))
    (h : ∀ x, x ∈ l₁ ↔ x ∈ l₂) : l₁ = l₂ :=
  ((List.perm_ext_iff_of_nodup h1.nodup h2.nodup).2 h).eq_of_pairwise
    (fun _ _ _ _ hab hba => absurd hab (Nat.lt_asymm hba)) h1 h2

/-- connection `j` as the view shows it (a connection that does not exist is dead, free and not being
    opened); the specification's observables are its fields -/
def sinkAt (l : List SinkSt) (j : Nat) : SinkSt := l[j]?.getD ⟨false, none, false⟩

@[simp] theorem view_emit (s : St) (ev : Ev) : (s.emit ev).view = s.view.apply ev := by
  simp [St.view, St.emit, List.foldl_append]

@[simp] theorem emit_cache (s : St) (ev : Ev) : (s.emit ev).cache = s.cache := rfl
@[simp] theorem emit_tasks (s : St) (ev : Ev) : (s.emit ev).tasks = s.tasks := rfl
@[simp] theorem emit_waiters (s : St) (ev : Ev) : (s.emit ev).waiters = s.waiters := rfl
@[simp] theorem emit_size (s : St) (ev : Ev) : (s.emit ev).size = s.size := rfl
@[simp] theorem emit_pstate (s : St) (ev : Ev) : (s.emit ev).pstate = s.pstate := rfl
@[simp] theorem emit_everClosed (s : St) (ev : Ev) : (s.emit ev).everClosed = s.everClosed := rfl
@[simp] theorem emit_base (s : St) (ev : Ev) : (s.emit ev).base = s.base := rfl
@[simp] theorem emit_evs (s : St) (ev : Ev) : (s.emit ev).evs = s.evs ++ [ev] := rfl

theorem emit_evs_of_nil {s : St} (he : s.evs = []) (ev : Ev) : (s.emit ev).evs = [ev] := by
  rw [emit_evs, he]; rfl

theorem view_of_nil {s : St} (h : s.evs = []) : s.view = s.base := by simp [St.view, h]

theorem view_congr {s s' : St} (hb : s'.base = s.base) (he : s'.evs = s.evs) : s'.view = s.view := by
  unfold St.view; rw [hb, he]

@[simp] theorem view_finish (s : St) : (finish s).view = s.view := rfl

theorem isAlive_eq (v : View) (sid : Nat) :
    isAlive v sid = (match v.sinks[sid]? with | some k => k.alive | none => false) := rfl

theorem St.alive_eq (s : St) (sid : Nat) : s.alive sid = isAlive s.view sid := rfl

def openFlag (v : View) (sid : Nat) : Bool :=
  match v.sinks[sid]? with
  | some k => k.opening
  | none => false

section sinkAt
variable (v : View) (j : Nat)

theorem isAlive_sinkAt : isAlive v j = (sinkAt v.sinks j).alive := by
  unfold isAlive sinkAt; cases v.sinks[j]? <;> rfl
theorem holderOf_sinkAt : holderOf v j = (sinkAt v.sinks j).lent := by
  unfold holderOf sinkAt; cases v.sinks[j]? <;> rfl
theorem openFlag_sinkAt : openFlag v j = (sinkAt v.sinks j).opening := by
  unfold openFlag sinkAt; cases v.sinks[j]? <;> rfl
theorem isLent_eq : isLent v j = (holderOf v j).isSome := by
  unfold isLent holderOf; cases v.sinks[j]? <;> rfl
theorem isOpening_eq : isOpening v j = (openFlag v j && (holderOf v j).isSome) := by
  unfold isOpening openFlag holderOf; cases v.sinks[j]? <;> rfl
theorem isBusy_eq : isBusy v j = ((holderOf v j).isSome && !openFlag v j) := by
  unfold isBusy openFlag holderOf; cases v.sinks[j]? <;> rfl

end sinkAt

theorem sinkAt_of_le {l : List SinkSt} {j : Nat} (h : l.length ≤ j) : sinkAt l j = ⟨false, none, false⟩ := by
  unfold sinkAt; rw [List.getElem?_eq_none h]; rfl

theorem sinks_get {l : List SinkSt} {j : Nat} (h : j < l.length) : l[j]? = some (sinkAt l j) := by
  unfold sinkAt; rw [List.getElem?_eq_getElem h]; rfl

theorem sinkAt_modify (l : List SinkSt) (sid j : Nat) (f : SinkSt → SinkSt) :
    sinkAt (l.modify sid f) j = if j = sid ∧ sid < l.length then f (sinkAt l j) else sinkAt l j := by
  simp only [sinkAt, List.getElem?_modify]
  by_cases hj : sid = j
  · subst hj; by_cases hl : sid < l.length <;> simp [hl]
  · simp [hj, Ne.symm hj]

theorem sinkAt_modify_fix (l : List SinkSt) (sid j : Nat) {f : SinkSt → SinkSt}
    (hf : f ⟨false, none, false⟩ = ⟨false, none, false⟩) :
    sinkAt (l.modify sid f) j = if j = sid then f (sinkAt l j) else sinkAt l j := by
  rw [sinkAt_modify]
  by_cases hj : j = sid
  · subst hj
    by_cases hl : j < l.length
    · simp [hl]
    · simp [hl, sinkAt_of_le (Nat.le_of_not_lt hl), hf]
  · simp [hj]

/-- the status a call gets when its request is handed to connection `sid` -/
def sentStat (v : View) (sid c : Nat) : CStat :=
  match v.calls[c]? with
  | some (.orphan _) => .zombie sid
  | _ => .started sid

/-- the status a call gets when its caller is answered -/
def doneStat (v : View) (c : Nat) : CStat :=
  match v.calls[c]? with
  | some (.connecting sid) => .orphan sid
  | _ => .done

/-- the status a call gets when the connection it holds is released -/
def relStat (v : View) (c : Nat) : CStat :=
  match v.calls[c]? with
  | some (.zombie _) => .done
  | _ => .released

theorem sentStat_holds (v : View) (sid c : Nat) : (sentStat v sid c).holds = some sid := by
  unfold sentStat; split <;> rfl

theorem doneStat_not_pending (v : View) (c : Nat) : doneStat v c ≠ .pending := by
  unfold doneStat; split <;> nofun

theorem relStat_holds (v : View) (c : Nat) : (relStat v c).holds = none := by
  unfold relStat; split <;> rfl

theorem relStat_not_pending (v : View) (c : Nat) : relStat v c ≠ .pending := by
  unfold relStat; split <;> nofun

theorem getElem?_set_if {α : Type} (l : List α) (c j : Nat) (a : α) :
    (l.set c a)[j]? = if j = c ∧ c < l.length then some a else l[j]? := by
  rw [List.getElem?_set]
  by_cases hj : c = j
  · subst hj
    by_cases hl : c < l.length
    · simp [hl]
    · simp [hl]
  · simp [hj, Ne.symm hj]

theorem getElem?_concat_if {α : Type} (l : List α) (a : α) (j : Nat) :
    (l ++ [a])[j]? = if j = l.length then some a else l[j]? := by
  rw [List.getElem?_append]; split_ifs <;> simp_all
  omega

section apply
variable (v : View)

@[simp] theorem apply_raised (w : String) : v.apply (.raised w) = v := rfl

theorem sinkAt_created (sid : Nat) (ok : Bool) (j : Nat) :
    sinkAt (v.apply (.created sid ok)).sinks j =
      if j = v.sinks.length then ⟨ok, none, false⟩ else sinkAt v.sinks j := by
  show (v.sinks ++ [_])[j]?.getD _ = _
  rw [getElem?_concat_if]; split <;> rfl

theorem sinkAt_closed (sid j : Nat) :
    sinkAt (v.apply (.closed sid)).sinks j =
      if j = sid then { sinkAt v.sinks j with alive := false } else sinkAt v.sinks j :=
  sinkAt_modify_fix v.sinks sid j rfl

theorem sinkAt_sent (sid c j : Nat) :
    sinkAt (v.apply (.sent sid c)).sinks j =
      if j = sid ∧ sid < v.sinks.length then { sinkAt v.sinks j with lent := some c, opening := false }
      else sinkAt v.sinks j :=
  sinkAt_modify v.sinks sid j _

theorem sinkAt_connecting (sid c j : Nat) :
    sinkAt (v.apply (.connecting sid c)).sinks j =
      if j = sid ∧ sid < v.sinks.length then { sinkAt v.sinks j with lent := some c, opening := true }
      else sinkAt v.sinks j :=
  sinkAt_modify v.sinks sid j _

theorem sinkAt_rel (sid j : Nat) :
    sinkAt (v.apply (.rel sid)).sinks j =
      if j = sid then { sinkAt v.sinks j with lent := none, opening := false } else sinkAt v.sinks j :=
  sinkAt_modify_fix v.sinks sid j rfl

@[simp] theorem sinks_queued (c : Nat) : (v.apply (.queued c)).sinks = v.sinks := rfl
@[simp] theorem sinks_done (c : Nat) (o : Outcome) : (v.apply (.done c o)).sinks = v.sinks := rfl

@[simp] theorem sinks_len_created (sid : Nat) (ok : Bool) :
    (v.apply (.created sid ok)).sinks.length = v.sinks.length + 1 := List.length_append
@[simp] theorem sinks_len_closed (sid : Nat) : (v.apply (.closed sid)).sinks.length = v.sinks.length :=
  List.length_modify ..
@[simp] theorem sinks_len_sent (sid c : Nat) : (v.apply (.sent sid c)).sinks.length = v.sinks.length :=
  List.length_modify ..
@[simp] theorem sinks_len_connecting (sid c : Nat) :
    (v.apply (.connecting sid c)).sinks.length = v.sinks.length :=
  List.length_modify ..
@[simp] theorem sinks_len_queued (c : Nat) : (v.apply (.queued c)).sinks.length = v.sinks.length := rfl
@[simp] theorem sinks_len_rel (sid : Nat) : (v.apply (.rel sid)).sinks.length = v.sinks.length :=
  List.length_modify ..
@[simp] theorem sinks_len_done (c : Nat) (o : Outcome) : (v.apply (.done c o)).sinks.length = v.sinks.length := rfl

theorem isAlive_created (sid : Nat) (ok : Bool) (j : Nat) :
    isAlive (v.apply (.created sid ok)) j = if j = v.sinks.length then ok else isAlive v j := by
  simp only [isAlive_sinkAt, sinkAt_created]; split <;> rfl
theorem isAlive_closed (sid j : Nat) :
    isAlive (v.apply (.closed sid)) j = if j = sid then false else isAlive v j := by
  simp only [isAlive_sinkAt, sinkAt_closed]; split <;> rfl
theorem isAlive_sent (sid c j : Nat) : isAlive (v.apply (.sent sid c)) j = isAlive v j := by
  simp only [isAlive_sinkAt, sinkAt_sent]; split <;> rfl
theorem isAlive_connecting (sid c j : Nat) : isAlive (v.apply (.connecting sid c)) j = isAlive v j := by
  simp only [isAlive_sinkAt, sinkAt_connecting]; split <;> rfl
@[simp] theorem isAlive_queued (c j : Nat) : isAlive (v.apply (.queued c)) j = isAlive v j := rfl
theorem isAlive_rel (sid j : Nat) : isAlive (v.apply (.rel sid)) j = isAlive v j := by
  simp only [isAlive_sinkAt, sinkAt_rel]; split <;> rfl
@[simp] theorem isAlive_done (c : Nat) (o : Outcome) (j : Nat) : isAlive (v.apply (.done c o)) j = isAlive v j := rfl

theorem holderOf_created (sid : Nat) (ok : Bool) (j : Nat) :
    holderOf (v.apply (.created sid ok)) j = holderOf v j := by
  simp only [holderOf_sinkAt, sinkAt_created]; split
  · next h => rw [sinkAt_of_le (Nat.le_of_eq h.symm)]
  · rfl
theorem holderOf_closed (sid j : Nat) : holderOf (v.apply (.closed sid)) j = holderOf v j := by
  simp only [holderOf_sinkAt, sinkAt_closed]; split <;> rfl
theorem holderOf_sent (sid c j : Nat) :
    holderOf (v.apply (.sent sid c)) j =
      if j = sid ∧ sid < v.sinks.length then some c else holderOf v j := by
  simp only [holderOf_sinkAt, sinkAt_sent]; split <;> rfl
theorem holderOf_connecting (sid c j : Nat) :
    holderOf (v.apply (.connecting sid c)) j =
      if j = sid ∧ sid < v.sinks.length then some c else holderOf v j := by
  simp only [holderOf_sinkAt, sinkAt_connecting]; split <;> rfl
@[simp] theorem holderOf_queued (c j : Nat) : holderOf (v.apply (.queued c)) j = holderOf v j := rfl
theorem holderOf_rel (sid j : Nat) :
    holderOf (v.apply (.rel sid)) j = if j = sid then none else holderOf v j := by
  simp only [holderOf_sinkAt, sinkAt_rel]; split <;> rfl
@[simp] theorem holderOf_done (c : Nat) (o : Outcome) (j : Nat) :
    holderOf (v.apply (.done c o)) j = holderOf v j := rfl

theorem openFlag_created (sid : Nat) (ok : Bool) (j : Nat) :
    openFlag (v.apply (.created sid ok)) j = openFlag v j := by
  simp only [openFlag_sinkAt, sinkAt_created]; split
  · next h => rw [sinkAt_of_le (Nat.le_of_eq h.symm)]
  · rfl
theorem openFlag_closed (sid j : Nat) : openFlag (v.apply (.closed sid)) j = openFlag v j := by
  simp only [openFlag_sinkAt, sinkAt_closed]; split <;> rfl
theorem openFlag_sent (sid c j : Nat) :
    openFlag (v.apply (.sent sid c)) j =
      if j = sid ∧ sid < v.sinks.length then false else openFlag v j := by
  simp only [openFlag_sinkAt, sinkAt_sent]; split <;> rfl
theorem openFlag_connecting (sid c j : Nat) :
    openFlag (v.apply (.connecting sid c)) j =
      if j = sid ∧ sid < v.sinks.length then true else openFlag v j := by
  simp only [openFlag_sinkAt, sinkAt_connecting]; split <;> rfl
@[simp] theorem openFlag_queued (c j : Nat) : openFlag (v.apply (.queued c)) j = openFlag v j := rfl
theorem openFlag_rel (sid j : Nat) :
    openFlag (v.apply (.rel sid)) j = if j = sid then false else openFlag v j := by
  simp only [openFlag_sinkAt, sinkAt_rel]; split <;> rfl
@[simp] theorem openFlag_done (c : Nat) (o : Outcome) (j : Nat) :
    openFlag (v.apply (.done c o)) j = openFlag v j := rfl

@[simp] theorem calls_created (sid : Nat) (ok : Bool) : (v.apply (.created sid ok)).calls = v.calls := rfl
@[simp] theorem calls_closed (sid : Nat) : (v.apply (.closed sid)).calls = v.calls := rfl

theorem calls_sent (sid c j : Nat) :
    (v.apply (.sent sid c)).calls[j]? =
      if j = c ∧ c < v.calls.length then some (sentStat v sid c) else v.calls[j]? :=
  getElem?_set_if ..

theorem calls_connecting (sid c j : Nat) :
    (v.apply (.connecting sid c)).calls[j]? =
      if j = c ∧ c < v.calls.length then some (.connecting sid) else v.calls[j]? :=
  getElem?_set_if ..

theorem calls_queued (c j : Nat) :
    (v.apply (.queued c)).calls[j]? =
      if j = c ∧ c < v.calls.length then some .pending else v.calls[j]? :=
  getElem?_set_if ..

theorem calls_done (c : Nat) (o : Outcome) (j : Nat) :
    (v.apply (.done c o)).calls[j]? =
      if j = c ∧ c < v.calls.length then some (doneStat v c) else v.calls[j]? :=
  getElem?_set_if ..

theorem calls_rel_free {sid : Nat} (h : holderOf v sid = none) : (v.apply (.rel sid)).calls = v.calls := by
  simp only [View.apply, h]

theorem calls_rel_lent {sid c : Nat} (h : holderOf v sid = some c) (j : Nat) :
    (v.apply (.rel sid)).calls[j]? =
      if j = c ∧ c < v.calls.length then some (relStat v c) else v.calls[j]? := by
  simp only [View.apply, h]; exact getElem?_set_if ..

@[simp] theorem calls_len_sent (sid c : Nat) : (v.apply (.sent sid c)).calls.length = v.calls.length :=
  List.length_set
@[simp] theorem calls_len_connecting (sid c : Nat) :
    (v.apply (.connecting sid c)).calls.length = v.calls.length :=
  List.length_set
@[simp] theorem calls_len_queued (c : Nat) : (v.apply (.queued c)).calls.length = v.calls.length :=
  List.length_set
@[simp] theorem calls_len_rel (sid : Nat) : (v.apply (.rel sid)).calls.length = v.calls.length := by
  simp only [View.apply]; split <;> simp
@[simp] theorem calls_len_done (c : Nat) (o : Outcome) : (v.apply (.done c o)).calls.length = v.calls.length :=
  List.length_set

end apply

theorem holderOf_lt {v : View} {sid c : Nat} (h : holderOf v sid = some c) : sid < v.sinks.length := by
  by_contra hc
  rw [holderOf_sinkAt, sinkAt_of_le (Nat.le_of_not_lt hc)] at h
  cases h

theorem lentIds_queued (v : View) (c : Nat) : lentIds (v.apply (.queued c)) = lentIds v := rfl
theorem lentIds_done (v : View) (c : Nat) (o : Outcome) : lentIds (v.apply (.done c o)) = lentIds v := rfl

theorem mem_sinkIds {v : View} {p : Nat → Bool} {f : SinkSt → Bool} {x : Nat}
    (hp : ∀ j, p j = f (sinkAt v.sinks j)) (hf : f ⟨false, none, false⟩ = false) :
    x ∈ (List.range v.sinks.length).filter p ↔ p x = true := by
  rw [mem_ids, and_iff_right_iff_imp]
  intro h
  by_contra hc
  rw [hp, sinkAt_of_le (Nat.le_of_not_lt hc), hf] at h
  cases h

theorem mem_lentIds {v : View} {x : Nat} : x ∈ lentIds v ↔ (holderOf v x).isSome = true := by
  rw [← isLent_eq]
  exact mem_sinkIds (f := fun k => k.lent.isSome) (fun j => by rw [isLent_eq, holderOf_sinkAt]) rfl

theorem lentIds_congr {v v' : View} (hh : ∀ j, holderOf v' j = holderOf v j) : lentIds v' = lentIds v :=
  eq_of_sorted_of_mem (sorted_ids _ _) (sorted_ids _ _) fun x => by rw [mem_lentIds, mem_lentIds, hh]

theorem lentIds_created (v : View) (sid : Nat) (ok : Bool) : lentIds (v.apply (.created sid ok)) = lentIds v :=
  lentIds_congr (holderOf_created v sid ok)

theorem lentIds_closed (v : View) (sid : Nat) : lentIds (v.apply (.closed sid)) = lentIds v :=
  lentIds_congr (holderOf_closed v sid)

theorem lentIds_perm_cons {v v' : View} {sid : Nat} (hfree : holderOf v sid = none)
    (hlent : (holderOf v' sid).isSome = true) (hh : ∀ j, j ≠ sid → holderOf v' j = holderOf v j) :
    (lentIds v').Perm (sid :: lentIds v) :=
  have hnd : (sid :: lentIds v).Nodup := List.nodup_cons.2 ⟨by rw [mem_lentIds, hfree]; nofun, nodup_ids _ _⟩
  (List.perm_ext_iff_of_nodup (l₁ := lentIds v') (nodup_ids _ _) hnd).2 fun x => by
    rw [List.mem_cons, mem_lentIds, mem_lentIds]
    by_cases hx : x = sid
    · simp [hx, hlent]
    · simp [hx, hh x hx]

theorem mem_aliveIds {v : View} {x : Nat} : x ∈ aliveIds v ↔ isAlive v x = true :=
  mem_sinkIds (f := SinkSt.alive) (isAlive_sinkAt v) rfl

theorem mem_openingIds {v : View} {x : Nat} : x ∈ openingIds v ↔ isOpening v x = true :=
  mem_sinkIds (f := fun k => k.opening && k.lent.isSome)
    (fun j => by rw [isOpening_eq, openFlag_sinkAt, holderOf_sinkAt]) rfl

theorem mem_busyIds {v : View} {x : Nat} : x ∈ busyIds v ↔ isBusy v x = true :=
  mem_sinkIds (f := fun k => k.lent.isSome && !k.opening)
    (fun j => by rw [isBusy_eq, openFlag_sinkAt, holderOf_sinkAt]) rfl

theorem getElem?_lt {α : Type} {l : List α} {j : Nat} {a : α} (h : l[j]? = some a) : j < l.length := by
  by_contra hc; rw [List.getElem?_eq_none (Nat.le_of_not_lt hc)] at h; cases h

theorem mem_pendingIds {v : View} {c : Nat} : c ∈ pendingIds v ↔ v.calls[c]? = some .pending := by
  unfold pendingIds isPending
  rw [mem_ids, beq_iff_eq, and_iff_right_iff_imp]
  exact getElem?_lt

theorem lentIds_split (v : View) :
    (lentIds v).length = (busyIds v).length + (openingIds v).length := by
  unfold lentIds busyIds openingIds
  rw [List.length_eq_length_filter_add (isBusy v), List.filter_filter, List.filter_filter]
  congr 2 <;> refine List.filter_congr fun i _ => ?_ <;> rw [isBusy_eq, isLent_eq]
  · cases (holderOf v i).isSome <;> cases openFlag v i <;> rfl
  · rw [isOpening_eq]; cases (holderOf v i).isSome <;> cases openFlag v i <;> rfl

theorem busy_or_opening {v : View} {x : Nat} (h : (holderOf v x).isSome = true) :
    isBusy v x = true ∨ isOpening v x = true := by
  rw [isBusy_eq, isOpening_eq, h]
  cases openFlag v x <;> simp

structure SinkSet (v v' : View) (sid : Nat) (h : Option Nat) (o : Bool) : Prop where
  len : v'.sinks.length = v.sinks.length
  holder : ∀ j, holderOf v' j = if j = sid then h else holderOf v j
  alive : ∀ j, isAlive v' j = isAlive v j
  flag : ∀ j, openFlag v' j = if j = sid then o else openFlag v j

theorem sinkSet_sent (v : View) {sid : Nat} (c : Nat) (hlt : sid < v.sinks.length) :
    SinkSet v (v.apply (.sent sid c)) sid (some c) false :=
  ⟨sinks_len_sent .., fun j => by rw [holderOf_sent]; simp only [hlt, and_true], isAlive_sent v sid c,
   fun j => by rw [openFlag_sent]; simp only [hlt, and_true]⟩

theorem sinkSet_connecting (v : View) {sid : Nat} (c : Nat) (hlt : sid < v.sinks.length) :
    SinkSet v (v.apply (.connecting sid c)) sid (some c) true :=
  ⟨sinks_len_connecting .., fun j => by rw [holderOf_connecting]; simp only [hlt, and_true],
   isAlive_connecting v sid c, fun j => by rw [openFlag_connecting]; simp only [hlt, and_true]⟩

theorem sinkSet_rel (v : View) (sid : Nat) : SinkSet v (v.apply (.rel sid)) sid none false :=
  ⟨sinks_len_rel .., holderOf_rel v sid, isAlive_rel v sid, openFlag_rel v sid⟩

theorem SinkSet.holder_eq {v v' : View} {sid : Nat} {h : Option Nat} {o : Bool} (hS : SinkSet v v' sid h o)
    (hh : holderOf v sid = h) (j : Nat) : holderOf v' j = holderOf v j := by
  rw [hS.holder]; split
  · next hj => rw [hj, hh]
  · rfl

structure CallSet (v v' : View) (c : Nat) (st : CStat) : Prop where
  get : ∀ j, v'.calls[j]? = if j = c then some st else v.calls[j]?

/-- what `calls_sent`, `calls_done`, … say about a call that exists -/
theorem CallSet.of_set {v v' : View} {c : Nat} {st st0 : CStat}
    (h : ∀ j, v'.calls[j]? = if j = c ∧ c < v.calls.length then some st else v.calls[j]?)
    (hc : v.calls[c]? = some st0) : CallSet v v' c st :=
  ⟨fun j => by rw [h]; simp only [getElem?_lt hc, and_true]⟩

end Scales.Watermark
