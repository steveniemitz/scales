import ScalesModel.Proofs.HeapPut
import ScalesModel.Model.Aperture

/-!
  Membership facts about the heap model (Model/Heap.lean) needed by C05/C06: every heap
  operation keeps `WF`, permutes the heap array or changes it by exactly the node it adds or
  removes, and never touches endpoints or `_servers`.  Only `WF` is assumed, not the order of the heap.
-/
namespace Scales.Aperture
open Scales.Heap

/-- `s'` has the same members as `s` -/
structure HFrame (s s' : HS) : Prop where
  wf : WF s'
  perm : s'.heap.Perm s.heap
  ep : ∀ id, (s'.node id).ep = (s.node id).ep
  servers : s'.servers = s.servers
  len : s'.nodes.length = s.nodes.length

theorem HFrame.refl {s : HS} (hw : WF s) : HFrame s s := ⟨hw, List.Perm.refl _, fun _ => rfl, rfl, rfl⟩

theorem HFrame.trans {a b c : HS} (h1 : HFrame a b) (h2 : HFrame b c) : HFrame a c :=
  ⟨h2.wf, h2.perm.trans h1.perm, fun id => (h2.ep id).trans (h1.ep id), h2.servers.trans h1.servers,
   h2.len.trans h1.len⟩

theorem HFrame.size {s s' : HS} (h : HFrame s s') : s'.size = s.size := h.perm.length_eq

theorem idAt_succ (s : HS) {k : Nat} (h : k < s.heap.length) : s.idAt (k + 1) = s.heap[k] := by
  unfold HS.idAt
  rw [if_neg (Nat.succ_ne_zero k), Nat.add_sub_cancel, List.getD_eq_getElem?_getD, List.getElem?_eq_getElem h]
  rfl

theorem heap_nodup {s : HS} (hw : WF s) : s.heap.Nodup := by
  rw [List.Nodup, List.pairwise_iff_getElem]
  intro i j hi hj hij h
  rw [← idAt_succ s hi, ← idAt_succ s hj] at h
  have := hw.inj (i + 1) (j + 1) (Nat.succ_pos i) hi (Nat.succ_pos j) hj h
  omega

/-- heaps with `WF` are duplicate-free: with the same members they are rearrangements of each other -/
theorem heap_perm {s' : HS} {l : List Nat} (hw' : WF s') (hl : l.Nodup) (h : ∀ id, InHeap s' id ↔ id ∈ l) :
    s'.heap.Perm l := by
  rw [List.perm_ext_iff_of_nodup (heap_nodup hw') hl]
  intro id
  rw [mem_heap_iff]
  exact h id

theorem HFrame.of_frame {s s' : HS} (hw : WF s) (hw' : WF s') (f : Frame s s') : HFrame s s' :=
  ⟨hw', heap_perm hw' (heap_nodup hw) fun id => (f.inHeap id).trans (mem_heap_iff s id).symm,
    fun id => (f.fields id).2.1, f.servers, f.len⟩

theorem WF_of_same {s s' : HS} (hw : WF s) (hh : s'.heap = s.heap) (hl : s'.nodes.length = s.nodes.length)
    (hi : ∀ id, (s'.node id).index = (s.node id).index) : WF s' :=
  hw.same hh hl hi

theorem HFrame_of_same {s s' : HS} (hw : WF s) (hh : s'.heap = s.heap) (hl : s'.nodes.length = s.nodes.length)
    (hi : ∀ id, (s'.node id).index = (s.node id).index) (he : ∀ id, (s'.node id).ep = (s.node id).ep)
    (hs : s'.servers = s.servers) : HFrame s s' :=
  ⟨WF_of_same hw hh hl hi, hh ▸ List.Perm.refl _, he, hs, hl⟩

theorem HFrame.lists {s s' : HS} (f : HFrame s s') (d : List Nat) (r : List (Nat × Bool)) :
    HFrame s { s' with down := d, reqs := r } :=
  ⟨f.wf.same rfl rfl fun _ => rfl, f.perm, f.ep, f.servers, f.len⟩

theorem setNode_HFrame {s : HS} (hw : WF s) (id : Nat) (n : Node) (hi : n.index = (s.node id).index)
    (he : n.ep = (s.node id).ep) : HFrame s (s.setNode id n) := by
  apply HFrame_of_same (s' := s.setNode id n) hw rfl (by simp) (setNode_index s id n hi)
  · intro id'; rw [node_setNode]; split
    · rename_i h; rw [he, h.1]
    · rfl
  · rfl

theorem fixUp_HFrame {s : HS} (hw : WF s) (i : Nat) (hi : i ≤ s.size) : HFrame s (s.fixUp i) := by
  obtain ⟨w, f, _⟩ := fixUp_spec s i hw hi
  exact HFrame.of_frame hw w f

theorem fixDown_HFrame {s : HS} (hw : WF s) (i j : Nat) (hj : j ≤ s.size) : HFrame s (s.fixDown i j) := by
  obtain ⟨w, f, _⟩ := fixDown_spec s i j hw hj
  exact HFrame.of_frame hw w f

theorem scan_HFrame {s : HS} (hw : WF s) (l : List Nat) : HFrame s (s.scan l).1 := by
  induction l generalizing s with
  | nil => exact HFrame.refl hw
  | cons nid rest ih =>
    rw [scan_cons]
    split
    · exact ih hw
    · split
      · have f1 : HFrame s (s.setLoad nid ((s.node nid).load - Penalty)) := setNode_HFrame hw nid _ rfl rfl
        have hp := pos_le _ f1.wf nid
        rw [setLoad_pos] at hp
        have f2 := fixUp_HFrame f1.wf (pos s nid) hp
        exact (f1.trans f2).trans (ih f2.wf)
      · exact ih hw

theorem scanned_HFrame {s : HS} (hw : WF s) : HFrame s s.scanned :=
  (scan_HFrame hw s.down).lists _ _

theorem markRoot_HFrame {s : HS} (hw : WF s) : HFrame s s.markRoot := by
  have f1 : HFrame s (s.setLoad (s.idAt 1) ((s.node (s.idAt 1)).load + Penalty)) := setNode_HFrame hw _ _ rfl rfl
  have f2 := f1.lists (s.idAt 1 :: s.down) s.reqs
  exact f2.trans (fixDown_HFrame f2.wf 1 s.size (le_refl _))

theorem dispatch_HFrame {s : HS} (hw : WF s) (nid : Nat) : HFrame s (s.dispatch nid) := by
  have f1 : HFrame s (s.setLoad nid ((s.node nid).load + 1)) := setNode_HFrame hw _ _ rfl rfl
  have f2 := f1.trans (fixDown_HFrame f1.wf (pos (s.setLoad nid ((s.node nid).load + 1)) nid) s.size (le_refl _))
  exact f2.lists _ _

theorem putRest_HFrame {s : HS} (hw : WF s) (nid j : Nat)
    (hj : 0 ≤ (s.node nid).index → (s.node nid).load = Idle → s.size > 1 → 1 ≤ j ∧ j ≤ s.size) :
    HFrame s (s.putRest nid j) := by
  obtain ⟨w, f, _⟩ := putRest_spec s hw nid j hj
  have g := setNode_HFrame hw nid { s.node nid with closed := (s.node nid).closed +
    if (s.node nid).index < 0 ∧ (s.node nid).load = Idle then 1 else 0 } rfl rfl
  exact g.trans (HFrame.of_frame g.wf w f)

theorem putNode_HFrame {s : HS} (hw : WF s) (nid j : Nat)
    (hj : s.putDraws nid = true → 1 ≤ j ∧ j ≤ s.size) : HFrame s (s.putNode nid j) := by
  rw [putNode_rest]
  have hd : s.putDraws nid = (decide (0 ≤ (s.node nid).index) &&
    decide ((if (s.node nid).load - 1 < Idle then Idle else (s.node nid).load - 1) = Idle) && decide (s.size > 1)) := rfl
  generalize (if (s.node nid).load - 1 < Idle then Idle else (s.node nid).load - 1) = v at hd ⊢
  have f1 : HFrame s (s.setLoad nid v) := setNode_HFrame hw nid _ rfl rfl
  refine f1.trans (putRest_HFrame f1.wf nid j fun hnn hl hs => hj ?_)
  have hlen := inHeap_lt _ f1.wf nid (inHeap_of_nonneg f1.wf hnn)
  rw [(setLoad_node s nid nid v).2.2.2.2] at hnn
  rw [HS.setLoad, node_self s nid _ (by simpa using hlen)] at hl
  rw [hd, Bool.and_eq_true, Bool.and_eq_true, decide_eq_true_eq, decide_eq_true_eq, decide_eq_true_eq]
  exact ⟨⟨hnn, hl⟩, hs⟩

theorem put_HFrame {s : HS} (hw : WF s) (r j : Nat)
    (hj : ∀ nid, s.reqs[r]? = some (nid, false) → s.putDraws nid = true → 1 ≤ j ∧ j ≤ s.size) :
    HFrame s (s.put r j) := by
  unfold HS.put
  split
  · exact HFrame.refl hw
  · exact HFrame.refl hw
  · rename_i nid h
    have f1 : HFrame s { s with reqs := s.reqs.set r (nid, true) } := (HFrame.refl hw).lists _ _
    exact f1.trans (putNode_HFrame f1.wf nid j (hj nid h))

/-- the draw the model goes on with is one `__Put` can have made -/
theorem putDraw_range {s : HS} {nid : Nat} (h : s.putDraws nid = true) (j : Nat) :
    1 ≤ putDraw s nid j ∧ putDraw s nid j ≤ s.size := by
  unfold putDraw
  by_cases hl : putLegal s nid j = true
  · rw [if_pos hl]
    unfold putLegal at hl
    rw [if_pos h] at hl
    exact of_decide_eq_true hl
  · rw [if_neg hl, if_pos h]
    have : s.size > 1 := of_decide_eq_true (Bool.and_eq_true_iff.1 h).2
    exact ⟨le_refl _, le_of_lt this⟩

theorem addSink_spec {s : HS} (hw : WF s) (ep : Nat) :
    WF (s.addSink ep) ∧ (s.addSink ep).heap.Perm (s.nodes.length :: s.heap) ∧
    (∀ id, id < s.nodes.length → ((s.addSink ep).node id).ep = (s.node id).ep) ∧
    ((s.addSink ep).node s.nodes.length).ep = ep ∧
    (s.addSink ep).servers = s.servers ∧ (s.addSink ep).nodes.length = s.nodes.length + 1 := by
  obtain ⟨⟨hl, _, hih, hold, hnew⟩, _, hsv, w⟩ := addSink_facts hw ep
  refine ⟨w, heap_perm w (List.nodup_cons.2 ⟨fun h => ?_, heap_nodup hw⟩) fun id => ?_,
    fun id h => (hold id h).2.1, hnew.2.1, hsv, hl⟩
  · exact Nat.lt_irrefl _ (inHeap_lt s hw _ ((mem_heap_iff s _).1 h))
  · rw [hih, List.mem_cons, mem_heap_iff, or_comm]

theorem mem_heapEps {s : HS} {x : Nat} : x ∈ heapEps s ↔ ∃ id, InHeap s id ∧ (s.node id).ep = x := by
  unfold heapEps
  simp only [List.mem_map, mem_heap_iff]

theorem findByEp_absent {s : HS} {ep : Nat} (h : s.findByEp ep = none) : ep ∉ heapEps s :=
  fun hc => let ⟨id, hi, he⟩ := mem_heapEps.1 hc; findByEp_none s ep h id hi he

theorem removeSink_spec {s : HS} (hw : WF s) (ep : Nat) :
    WF (s.removeSink ep).1 ∧ (s.removeSink ep).1.servers = s.servers ∧
    (s.removeSink ep).1.nodes.length = s.nodes.length ∧
    (∀ id, ((s.removeSink ep).1.node id).ep = (s.node id).ep) ∧
    (((s.removeSink ep).2 = false ∧ (s.removeSink ep).1 = s ∧ ep ∉ heapEps s) ∨
     ((s.removeSink ep).2 = true ∧ ∃ nid, (s.node nid).ep = ep ∧ s.heap.Perm (nid :: (s.removeSink ep).1.heap))) := by
  cases hf : s.findByEp ep with
  | none =>
    rw [removeSink_none hf]
    exact ⟨hw, rfl, rfl, fun _ => rfl, Or.inl ⟨rfl, rfl, findByEp_absent hf⟩⟩
  | some nid =>
    obtain ⟨hin, hep⟩ := findByEp_some s ep nid hf
    rw [removeSink_pop s hw ep nid hf]
    obtain ⟨w, lf, hsv, _⟩ := remove_facts hw hin
    refine ⟨w, hsv, lf.len, fun id => (lf.fields id).2.1, Or.inr ⟨rfl, nid, hep,
      heap_perm hw (List.nodup_cons.2 ⟨fun h => ((lf.inHeap nid).mp ((mem_heap_iff _ nid).mp h)).2 rfl, heap_nodup w⟩)
        fun id => ?_⟩⟩
    rw [List.mem_cons, mem_heap_iff, lf.inHeap]
    exact ⟨fun h => (em (id = nid)).imp_right fun e => ⟨h, e⟩, fun h => h.elim (fun e => e ▸ hin) And.left⟩

theorem heapEps_length (s : HS) : (heapEps s).length = s.size := by simp [heapEps, HS.size]

theorem HFrame.eps {s s' : HS} (h : HFrame s s') : (heapEps s').Perm (heapEps s) := by
  unfold heapEps
  rw [List.map_congr_left (fun id _ => h.ep id)]
  exact h.perm.map _

theorem setChan_HFrame {s : HS} (hw : WF s) (nid st : Nat) : HFrame s (s.setChan nid st) := by
  rw [setChan_eq]
  exact setNode_HFrame hw nid _ rfl rfl

theorem addSink_eps {s : HS} (hw : WF s) (ep : Nat) : (heapEps (s.addSink ep)).Perm (ep :: heapEps s) := by
  obtain ⟨_, hp, he, hn, _, _⟩ := addSink_spec hw ep
  unfold heapEps
  refine (hp.map _).trans ?_
  rw [List.map_cons, hn]
  exact (List.Perm.of_eq (List.map_congr_left fun id hid => he id (inHeap_lt s hw id ((mem_heap_iff s id).1 hid)))).cons _

theorem removeSink_eps {s : HS} (hw : WF s) (ep : Nat) (h : (s.removeSink ep).2 = true) :
    (heapEps s).Perm (ep :: heapEps (s.removeSink ep).1) := by
  obtain ⟨_, _, _, he, hc⟩ := removeSink_spec hw ep
  rcases hc with ⟨hf, _⟩ | ⟨_, nid, hnid, hp⟩
  · rw [hf] at h; cases h
  · unfold heapEps
    refine (hp.map _).trans ?_
    rw [List.map_cons, hnid]
    exact (List.Perm.of_eq (List.map_congr_left fun id _ => (he id).symm)).cons _

theorem removeSink_false {s : HS} (hw : WF s) (ep : Nat) (h : (s.removeSink ep).2 = false) :
    (s.removeSink ep).1 = s ∧ ep ∉ heapEps s := by
  obtain ⟨_, _, _, _, hc⟩ := removeSink_spec hw ep
  rcases hc with ⟨_, h1, h2⟩ | ⟨ht, _⟩
  · exact ⟨h1, h2⟩
  · rw [ht] at h; cases h

theorem removeSink_of_mem {s : HS} (hw : WF s) (ep : Nat) (h : ep ∈ heapEps s) : (s.removeSink ep).2 = true := by
  by_contra hc
  exact (removeSink_false hw ep (by simpa using hc)).2 h

end Scales.Aperture
