/-
  Proofs/TimerQueueLemmas.lean — the data side of C10.  `Core` ties the heap of Model/TimerQueue.lean
  to its history fields; Schedule, cancel, the clock and the worker's one primitive `pop` keep it.  The
  run check of the monitor of Adapter/TimerQueue.lean is read as its four clauses
  (`Acc.checkRun_eq_ok_iff`), and `Core` gives them for the run a `pop` makes (`Core.popRun`).  The
  worker's control flow is in Proofs/TimerQueueWorker.lean.
-/
import ScalesModel.Adapter.TimerQueue
import ScalesModel.Proofs.VerdictLemmas
import Mathlib.Data.List.Nodup
namespace Scales.TimerQ

theorem le_ceilTo (r d : Nat) : d ≤ ceilTo r d := by
  unfold ceilTo
  split
  · exact Nat.le_refl _
  · rename_i hr
    have hr' : 0 < r := Nat.pos_of_ne_zero hr
    have h : d + r - 1 + 1 ≤ _ := Nat.lt_div_mul_add hr'
    rw [Nat.sub_add_cancel (Nat.le_add_left_of_le hr')] at h
    exact Nat.le_of_add_le_add_right h

/-- `Item.lt` and `Rec.keyLt` both order by a pair of numbers of which the second is a unique `seq` -/
theorem lex_trans {a b c d e f : Nat} (h1 : a < c ∨ (a = c ∧ b < d)) (h2 : c < e ∨ (c = e ∧ d < f)) :
    a < e ∨ (a = e ∧ b < f) :=
  h1.elim
    (fun h => h2.elim (fun h' => .inl (Nat.lt_trans h h')) fun h' => .inl (h'.1 ▸ h))
    (fun h => h2.elim (fun h' => .inl (h.1 ▸ h')) fun h' => .inr ⟨h.1.trans h'.1, Nat.lt_trans h.2 h'.2⟩)

theorem lex_irrefl {a b : Nat} : ¬ (a < a ∨ (a = a ∧ b < b)) :=
  fun h => h.elim (Nat.lt_irrefl _) fun h => Nat.lt_irrefl _ h.2

theorem lex_lt_of_not_lt {a b c d : Nat} (h : ¬ (a < c ∨ (a = c ∧ b < d))) (hne : b ≠ d) :
    c < a ∨ (c = a ∧ d < b) :=
  (Nat.lt_trichotomy c a).elim .inl fun h' => h'.elim
    (fun e => .inr ⟨e, (Nat.lt_or_gt_of_ne hne).resolve_left fun hlt => h (.inr ⟨e.symm, hlt⟩)⟩)
    fun h' => (h (.inl h')).elim

theorem Item.lt_trans {a b c : Item} (h1 : a.lt b) (h2 : b.lt c) : a.lt c := lex_trans h1 h2

theorem Item.lt_irrefl (a : Item) : ¬ a.lt a := lex_irrefl

theorem Item.lt_of_not_lt {a b : Item} (h : ¬ a.lt b) (hs : b.seq < a.seq) : b.lt a :=
  lex_lt_of_not_lt h (Nat.ne_of_gt hs)

theorem Item.lt_deadline_le {a b : Item} (h : a.lt b) : a.deadline ≤ b.deadline :=
  h.elim Nat.le_of_lt fun h => Nat.le_of_eq h.1

theorem insertSorted_cons (x y : Item) (ys : List Item) :
    insertSorted x (y :: ys) = if x.lt y then x :: y :: ys else y :: insertSorted x ys := rfl

theorem insertSorted_perm (x : Item) (q : List Item) : (insertSorted x q).Perm (x :: q) := by
  fun_induction insertSorted x q with
  | case1 => exact .refl _
  | case2 y ys _ => exact .refl _
  | case3 y ys _ ih => exact (ih.cons y).trans (.swap x y ys)

theorem mem_insertSorted {x i : Item} {q : List Item} : i ∈ insertSorted x q ↔ i = x ∨ i ∈ q := by
  rw [(insertSorted_perm x q).mem_iff, List.mem_cons]

theorem forall_mem_insertSorted {x : Item} {q : List Item} {P : Item → Prop} :
    (∀ i ∈ insertSorted x q, P i) ↔ P x ∧ ∀ i ∈ q, P i :=
  (forall_congr' fun _ => imp_congr_left mem_insertSorted).trans forall_eq_or_imp

theorem insertSorted_ne_nil (x : Item) (q : List Item) : insertSorted x q ≠ [] :=
  fun h => List.cons_ne_nil x q (h ▸ insertSorted_perm x q).nil_eq.symm

theorem insertSorted_length (x : Item) (q : List Item) : (insertSorted x q).length = q.length + 1 :=
  (insertSorted_perm x q).length_eq

theorem insertSorted_pairwise (x : Item) (q : List Item) (hq : q.Pairwise Item.lt)
    (hx : ∀ i ∈ q, i.seq < x.seq) : (insertSorted x q).Pairwise Item.lt := by
  fun_induction insertSorted x q with
  | case1 => exact List.pairwise_singleton _ _
  | case2 y ys hlt =>
    exact List.pairwise_cons.mpr
      ⟨List.forall_mem_cons.mpr ⟨hlt, fun z hz => Item.lt_trans hlt ((List.pairwise_cons.mp hq).1 z hz)⟩, hq⟩
  | case3 y ys hnlt ih =>
    obtain ⟨hy, hys⟩ := List.pairwise_cons.mp hq
    obtain ⟨hxy, hxys⟩ := List.forall_mem_cons.mp hx
    exact List.pairwise_cons.mpr
      ⟨forall_mem_insertSorted.mpr ⟨Item.lt_of_not_lt hnlt hxy, hy⟩, ih hys hxys⟩

def ranSeqs (s : St) : List Nat := s.ran.map (·.1)
def cancSeqs (s : St) : List Nat := s.cancels.map (·.1)
def qSeqs (s : St) : List Nat := s.queue.map (·.seq)

/-- The data invariant: heap entries and history fields describe the same Schedule calls.  Two clauses
    carry the properties.  `acct`: every Schedule call is still queued, or has run, or has a cancel call,
    so no entry is lost (`rec_cases`, hence no lost wake-up and the order clause).  `ran_canc`: a cancel
    call for an action that ran came at or after the run (with `ran_facts`: `cancel_effective`). -/
structure Core (s : St) : Prop where
  sorted : s.queue.Pairwise Item.lt
  q_nodup : (qSeqs s).Nodup
  q_rec : ∀ i ∈ s.queue, ∃ r ∈ s.recs, r.seq = i.seq ∧ r.rd = i.deadline
  q_canc : ∀ i ∈ s.queue, (i.cancelled = true ↔ i.seq ∈ cancSeqs s)
  q_ran : ∀ i ∈ s.queue, i.seq ∉ ranSeqs s
  recs_seq : ∀ r ∈ s.recs, 1 ≤ r.seq ∧ r.seq ≤ s.seq
  recs_nodup : (s.recs.map (·.seq)).Nodup
  recs_rd : ∀ r ∈ s.recs, r.rd = ceilTo s.res r.d
  acct : ∀ r ∈ s.recs, r.seq ∈ qSeqs s ∨ r.seq ∈ ranSeqs s ∨ r.seq ∈ cancSeqs s
  ran_nodup : (ranSeqs s).Nodup
  ran_facts : ∀ p ∈ s.ran, p.2 ≤ s.now ∧ ∃ r ∈ s.recs, r.seq = p.1 ∧ r.rd ≤ p.2
  ran_canc : ∀ p ∈ s.ran, ∀ c ∈ s.cancels, c.1 = p.1 → p.2 ≤ c.2
  canc_seq : ∀ k ∈ cancSeqs s, k ≤ s.seq

/-- where `step` starts from: the spawns of the previous transition forgotten -/
abbrev St.clearOut (s : St) : St := { s with out := [] }

def accOf (s : St) : Acc := ⟨s.now, s.seq, s.recs, s.cancels, s.ran⟩

theorem Core.keep {s : St} (h : Core s) {ev : Bool} {pc : Pc} {out : List Nat} :
    Core { s with ev := ev, pc := pc, out := out } :=
  { h with }

theorem Core.init (res now0 : Nat) : Core (init res now0) :=
  have nil {α : Type} {P : α → Prop} : ∀ x ∈ ([] : List α), P x := nofun
  ⟨.nil, .nil, nil, nil, nil, nil, .nil, nil, nil, .nil, nil, nil, nil⟩

theorem Core.rec_unique {s : St} (h : Core s) {r r' : Rec} (hr : r ∈ s.recs) (hr' : r' ∈ s.recs)
    (he : r.seq = r'.seq) : r = r' :=
  List.inj_on_of_nodup_map h.recs_nodup hr hr' he

theorem Core.q_seq_le {s : St} (h : Core s) {i : Item} (hi : i ∈ s.queue) : 1 ≤ i.seq ∧ i.seq ≤ s.seq := by
  obtain ⟨r, hr, hs, _⟩ := h.q_rec i hi
  exact hs ▸ h.recs_seq r hr

theorem Core.ran_seq_le {s : St} (h : Core s) {k : Nat} (hk : k ∈ ranSeqs s) : k ≤ s.seq := by
  obtain ⟨p, hp, rfl⟩ := List.mem_map.mp hk
  obtain ⟨_, r, hr, hs, _⟩ := h.ran_facts p hp
  exact hs ▸ (h.recs_seq r hr).2

theorem Core.ran_rec {s : St} (h : Core s) {p : Nat × Nat} (hp : p ∈ s.ran) {r : Rec} (hr : r ∈ s.recs)
    (he : r.seq = p.1) : r.rd ≤ p.2 ∧ p.2 ≤ s.now := by
  obtain ⟨hnow, r', hr', hs, hd⟩ := h.ran_facts p hp
  cases h.rec_unique hr' hr (hs.trans he.symm)
  exact ⟨hd, hnow⟩

theorem Core.cancel_effective {s : St} (h : Core s) {r : Rec} (hr : r ∈ s.recs) {tc : Nat}
    (hc : (r.seq, tc) ∈ s.cancels) (hlt : tc < r.rd) : r.seq ∉ ranSeqs s := fun hm => by
  obtain ⟨p, hp, hpe⟩ := List.mem_map.mp hm
  exact Nat.lt_irrefl _ (Nat.lt_of_lt_of_le hlt
    (Nat.le_trans (h.ran_rec hp hr hpe.symm).1 (h.ran_canc p hp _ hc hpe.symm)))

theorem Core.rec_cases {s : St} (h : Core s) {r : Rec} (hr : r ∈ s.recs) (hnc : r.seq ∉ cancSeqs s) :
    (∃ i ∈ s.queue, i.seq = r.seq ∧ i.deadline = r.rd ∧ i.cancelled = false) ∨
      ∃ t, (r.seq, t) ∈ s.ran ∧ r.rd ≤ t ∧ t ≤ s.now := by
  refine (h.acct r hr).imp (fun hq => ?_) fun hran => ?_
  · obtain ⟨i, hi, hie⟩ := List.mem_map.mp hq
    obtain ⟨r', hr', hs, hd⟩ := h.q_rec i hi
    cases h.rec_unique hr' hr (hs.trans hie)
    exact ⟨i, hi, hie, hd.symm, Bool.eq_false_iff.mpr fun hcf => hnc (hie ▸ (h.q_canc i hi).mp hcf)⟩
  · obtain ⟨p, hp, hpe⟩ := List.mem_map.mp (hran.resolve_right hnc)
    exact ⟨p.2, hpe ▸ hp, h.ran_rec hp hr hpe.symm⟩

theorem Core.tick {s : St} (h : Core s) (dt : Nat) : Core { s with now := s.now + dt } :=
  { h with ran_facts := fun p hp =>
      ⟨Nat.le_trans (h.ran_facts p hp).1 (Nat.le_add_right _ _), (h.ran_facts p hp).2⟩ }

/-- the heap entry that `Schedule(d, _)` pushes -/
abbrev newItem (s : St) (d : Nat) : Item := ⟨ceilTo s.res d, s.seq + 1, false⟩

theorem schedule_queue (s : St) (d : Nat) :
    (schedule s d).queue = insertSorted (newItem s d) s.queue := rfl
theorem schedule_recs (s : St) (d : Nat) :
    (schedule s d).recs = ⟨s.seq + 1, d, ceilTo s.res d⟩ :: s.recs := rfl
@[simp] theorem schedule_seq (s : St) (d : Nat) : (schedule s d).seq = s.seq + 1 := rfl
@[simp] theorem schedule_res (s : St) (d : Nat) : (schedule s d).res = s.res := rfl
@[simp] theorem schedule_now (s : St) (d : Nat) : (schedule s d).now = s.now := rfl
@[simp] theorem schedule_pc (s : St) (d : Nat) : (schedule s d).pc = s.pc := rfl
@[simp] theorem schedule_ran (s : St) (d : Nat) : (schedule s d).ran = s.ran := rfl
@[simp] theorem schedule_cancels (s : St) (d : Nat) : (schedule s d).cancels = s.cancels := rfl
@[simp] theorem schedule_out (s : St) (d : Nat) : (schedule s d).out = s.out := rfl

theorem schedule_ev (s : St) (d : Nat) :
    (schedule s d).ev = (match insertSorted (newItem s d) s.queue with
      | h :: _ => if h.deadline = ceilTo s.res d then true else s.ev
      | [] => s.ev) := rfl

theorem schedule_ev_of_nil (s : St) (d : Nat) (h : s.queue = []) : (schedule s d).ev = true := by
  rw [schedule_ev, h]; exact if_pos rfl

theorem schedule_ev_mono (s : St) (d : Nat) (h : s.ev = true) : (schedule s d).ev = true := by
  rw [schedule_ev, h]
  cases insertSorted _ s.queue with
  | nil => rfl
  | cons hd _ => exact ite_self _

theorem Core.schedule {s : St} (h : Core s) (d : Nat) : Core (schedule s d) :=
  have hperm : (qSeqs (TimerQ.schedule s d)).Perm ((s.seq + 1) :: qSeqs s) :=
    (insertSorted_perm _ s.queue).map _
  have hfresh : ∀ {k}, k ≤ s.seq → k ≠ s.seq + 1 := fun hk he => Nat.not_succ_le_self _ (he ▸ hk)
  { h with
    sorted := insertSorted_pairwise _ _ h.sorted fun _ hi => Nat.lt_succ_of_le (h.q_seq_le hi).2
    q_nodup := hperm.nodup_iff.mpr <| List.nodup_cons.mpr
      ⟨fun hm => (List.mem_map.mp hm).elim fun _ hi => hfresh (h.q_seq_le hi.1).2 hi.2, h.q_nodup⟩
    q_rec := forall_mem_insertSorted.mpr ⟨⟨_, List.mem_cons_self, rfl, rfl⟩,
      fun i hi => (h.q_rec i hi).imp fun _ hr => ⟨List.mem_cons_of_mem _ hr.1, hr.2⟩⟩
    q_canc := forall_mem_insertSorted.mpr
      ⟨⟨nofun, fun hm => (hfresh (h.canc_seq _ hm) rfl).elim⟩, h.q_canc⟩
    q_ran := forall_mem_insertSorted.mpr ⟨fun hm => hfresh (h.ran_seq_le hm) rfl, h.q_ran⟩
    recs_seq := List.forall_mem_cons.mpr ⟨⟨Nat.le_add_left 1 _, Nat.le_refl _⟩,
      fun r hr => ⟨(h.recs_seq r hr).1, Nat.le_succ_of_le (h.recs_seq r hr).2⟩⟩
    recs_nodup := List.nodup_cons.mpr
      ⟨fun hm => (List.mem_map.mp hm).elim fun r hr => hfresh (h.recs_seq r hr.1).2 hr.2, h.recs_nodup⟩
    recs_rd := List.forall_mem_cons.mpr ⟨rfl, h.recs_rd⟩
    acct := List.forall_mem_cons.mpr ⟨.inl (hperm.mem_iff.mpr List.mem_cons_self),
      fun r hr => (h.acct r hr).imp_left fun hq => hperm.mem_iff.mpr (List.mem_cons_of_mem _ hq)⟩
    ran_facts := fun p hp => ⟨(h.ran_facts p hp).1,
      (h.ran_facts p hp).2.imp fun _ hr => ⟨List.mem_cons_of_mem _ hr.1, hr.2⟩⟩
    canc_seq := fun k hk => Nat.le_succ_of_le (h.canc_seq k hk) }

theorem cancel_queue (s : St) (k : Nat) :
    (cancel s k).queue = s.queue.map (fun i => if i.seq = k then { i with cancelled := true } else i) := rfl
theorem cancel_cancels (s : St) (k : Nat) : (cancel s k).cancels = (k, s.now) :: s.cancels := rfl
@[simp] theorem cancel_seq (s : St) (k : Nat) : (cancel s k).seq = s.seq := rfl
@[simp] theorem cancel_res (s : St) (k : Nat) : (cancel s k).res = s.res := rfl
@[simp] theorem cancel_now (s : St) (k : Nat) : (cancel s k).now = s.now := rfl
@[simp] theorem cancel_pc (s : St) (k : Nat) : (cancel s k).pc = s.pc := rfl
@[simp] theorem cancel_ev (s : St) (k : Nat) : (cancel s k).ev = s.ev := rfl
@[simp] theorem cancel_ran (s : St) (k : Nat) : (cancel s k).ran = s.ran := rfl
@[simp] theorem cancel_recs (s : St) (k : Nat) : (cancel s k).recs = s.recs := rfl
@[simp] theorem cancel_out (s : St) (k : Nat) : (cancel s k).out = s.out := rfl

/-- what `cancel k` does to one heap entry, written so that deadline and seq stay by definition -/
def flag (k : Nat) (i : Item) : Item := { i with cancelled := decide (i.seq = k) || i.cancelled }

theorem flag_of_ne {k : Nat} {i : Item} (h : i.seq ≠ k) : flag k i = i := by
  unfold flag; rw [decide_eq_false h, Bool.false_or]

theorem flag_cancelled (k : Nat) (i : Item) :
    (flag k i).cancelled = true ↔ i.seq = k ∨ i.cancelled = true := by
  show (_ || _) = true ↔ _
  rw [Bool.or_eq_true, decide_eq_true_eq]

theorem cancel_queue_flag (s : St) (k : Nat) : (cancel s k).queue = s.queue.map (flag k) :=
  List.map_congr_left fun i _ => by
    split
    · rename_i h; unfold flag; rw [decide_eq_true h, Bool.true_or]
    · rename_i h; exact (flag_of_ne h).symm

theorem qSeqs_cancel (s : St) (k : Nat) : qSeqs (cancel s k) = qSeqs s := by
  unfold qSeqs; rw [cancel_queue_flag, List.map_map]; rfl

theorem Core.cancel {s : St} (h : Core s) (k : Nat) (hk : k ≤ s.seq) : Core (cancel s k) :=
  have e := cancel_queue_flag s k
  { h with
    sorted := e ▸ List.pairwise_map.mpr h.sorted
    q_nodup := qSeqs_cancel s k ▸ h.q_nodup
    q_rec := e ▸ (List.forall_mem_map (f := flag k)).mpr h.q_rec
    q_canc := e ▸ (List.forall_mem_map (f := flag k)).mpr fun j hj => by
      rw [flag_cancelled, h.q_canc j hj]; exact List.mem_cons.symm
    q_ran := e ▸ (List.forall_mem_map (f := flag k)).mpr h.q_ran
    acct := fun r hr => qSeqs_cancel s k ▸
      (h.acct r hr).imp_right (Or.imp_right (List.mem_cons_of_mem _))
    ran_canc := fun p hp => List.forall_mem_cons.mpr ⟨fun _ => (h.ran_facts p hp).1, h.ran_canc p hp⟩
    canc_seq := List.forall_mem_cons.mpr ⟨hk, h.canc_seq⟩ }

theorem Acc.hasRun_iff (a : Acc) (k : Nat) : a.hasRun k = true ↔ k ∈ a.ran.map (·.1) :=
  List.contains_iff_mem

theorem Acc.isCancelled_iff (a : Acc) (k : Nat) : a.isCancelled k = true ↔ k ∈ a.cancels.map (·.1) :=
  List.contains_iff_mem

theorem Acc.pending_iff (a : Acc) (r : Rec) :
    a.pending r = true ↔ r.seq ∉ a.ran.map (·.1) ∧ r.seq ∉ a.cancels.map (·.1) := by
  unfold Acc.pending
  rw [Bool.and_eq_true, Bool.not_eq_true', Bool.not_eq_true', ← Bool.not_eq_true, ← Bool.not_eq_true,
    Acc.hasRun_iff, Acc.isCancelled_iff]

theorem Rec.keyLt_iff (a b : Rec) :
    a.keyLt b = true ↔ (a.rd < b.rd ∨ (a.rd = b.rd ∧ a.seq < b.seq)) := by
  unfold Rec.keyLt
  rw [Bool.or_eq_true, Bool.and_eq_true, decide_eq_true_eq, decide_eq_true_eq, beq_iff_eq]

theorem find?_seq {recs : List Rec} (hnd : (recs.map (·.seq)).Nodup) {r : Rec} (hr : r ∈ recs) :
    recs.find? (fun x => x.seq == r.seq) = some r := by
  induction recs with
  | nil => cases hr
  | cons x xs ih =>
    rw [List.map_cons, List.nodup_cons] at hnd
    rw [List.find?_cons]
    rcases List.mem_cons.mp hr with rfl | hr
    · rw [beq_self_eq_true]
    · rw [beq_false_of_ne fun he => hnd.1 (List.mem_map.mpr ⟨r, hr, he.symm⟩)]
      exact ih hnd.2 hr

/-- the order property at the level of the model: the head is below every record still pending -/
theorem Core.head_least {s : St} {h : Item} {rest : List Item} (hc : Core { s with queue := h :: rest })
    {r : Rec} (hr : r ∈ s.recs) (hne : r.seq ≠ h.seq) (hnr : r.seq ∉ ranSeqs s)
    (hncc : r.seq ∉ cancSeqs s) : h.deadline < r.rd ∨ (h.deadline = r.rd ∧ h.seq < r.seq) := by
  rcases hc.rec_cases hr hncc with ⟨i, hi, hs, hd, _⟩ | ⟨t, ht, _⟩
  · rcases List.mem_cons.mp hi with rfl | hi'
    · exact absurd hs.symm hne
    · exact hs ▸ hd ▸ (List.pairwise_cons.mp hc.sorted).1 i hi'
  · exact absurd (List.mem_map_of_mem (f := (·.1)) ht) hnr

theorem Acc.checkRun_eq_ok_iff {a : Acc} (hnd : (a.recs.map (·.seq)).Nodup) {rk : Rec} (hrk : rk ∈ a.recs) :
    a.checkRun rk.seq = .ok ↔ rk.seq ∉ a.ran.map (·.1) ∧ rk.d ≤ a.clock ∧
      (∀ c ∈ a.cancels, c.1 = rk.seq → rk.rd ≤ c.2) ∧
      ∀ r ∈ a.recs, r.seq ≠ rk.seq → r.seq ∉ a.ran.map (·.1) → r.seq ∉ a.cancels.map (·.1) →
        rk.rd < r.rd ∨ (rk.rd = r.rd ∧ rk.seq < r.seq) := by
  unfold Acc.checkRun Acc.recOf
  rw [find?_seq hnd hrk]
  dsimp only
  refine Verdict.ite_fail_eq_ok.trans <| and_congr (not_congr (a.hasRun_iff _)) <| Verdict.ite_fail_eq_ok.trans <|
    and_congr Nat.not_lt <| Verdict.ite_fail_eq_ok.trans <| and_congr ?_ ?_
  · rw [Bool.not_eq_true, List.any_eq_false]
    exact forall₂_congr fun c _ => by
      rw [Bool.and_eq_true, beq_iff_eq, decide_eq_true_eq, not_and, Nat.not_lt]
  · generalize hf : List.find? _ a.recs = o
    refine Iff.trans (b := o = none) ?_ ?_
    · cases o with
      | none => exact ⟨fun _ => rfl, fun _ => rfl⟩
      | some _ => exact ⟨nofun, nofun⟩
    · subst hf
      rw [List.find?_eq_none]
      refine forall₂_congr fun r _ => ?_
      rw [Bool.and_eq_true, Bool.and_eq_true, bne_iff_ne, Acc.pending_iff, Rec.keyLt_iff]
      exact ⟨fun h hne hnr hnc => lex_lt_of_not_lt (fun hlt => h ⟨⟨hne, hnr, hnc⟩, hlt⟩) hne,
        fun h hp => lex_irrefl (lex_trans (h hp.1.1 hp.1.2.1 hp.1.2.2) hp.2)⟩

theorem Core.popDrop {s : St} {h : Item} {rest : List Item} (hc : Core { s with queue := h :: rest })
    (hcanc : h.cancelled = true) : Core { s with queue := rest } :=
  { hc with
    sorted := hc.sorted.of_cons
    q_nodup := hc.q_nodup.of_cons
    q_rec := (List.forall_mem_cons.mp hc.q_rec).2
    q_canc := (List.forall_mem_cons.mp hc.q_canc).2
    q_ran := (List.forall_mem_cons.mp hc.q_ran).2
    acct := fun r hr => (hc.acct r hr).elim
      (fun hq => (List.mem_cons.mp hq).elim
        (fun e => .inr (.inr (e ▸ (hc.q_canc h List.mem_cons_self).mp hcanc))) .inl)
      .inr }

/-- The monitor's clauses `once`, `not-early` and `cancel-effective` for the run of a live, due head are what
    `ran_nodup`, `ran_facts` and `ran_canc` ask of the new entry; `order` is `Core.head_least`. -/
theorem Core.popRun {s : St} {h : Item} {rest : List Item} (hc : Core { s with queue := h :: rest })
    (hnc : h.cancelled = false) (hdue : h.deadline ≤ s.now) :
    Core { runItem s h with queue := rest } ∧ (accOf s).checkRun h.seq = .ok := by
  have hh : h ∈ ({ s with queue := h :: rest } : St).queue := List.mem_cons_self
  have hnd := List.nodup_cons.mp hc.q_nodup
  obtain ⟨r, hr, hrs, hrd⟩ := hc.q_rec h hh
  have hncc : ∀ c ∈ s.cancels, c.1 ≠ h.seq := fun c hcm he =>
    Bool.false_ne_true (hnc ▸ (hc.q_canc h hh).mpr (List.mem_map.mpr ⟨c, hcm, he⟩))
  refine ⟨{ hc with
    sorted := hc.sorted.of_cons
    q_nodup := hnd.2
    q_rec := (List.forall_mem_cons.mp hc.q_rec).2
    q_canc := (List.forall_mem_cons.mp hc.q_canc).2
    q_ran := fun i hi hm => (List.mem_cons.mp hm).elim
      (fun e => hnd.1 (e ▸ List.mem_map_of_mem hi)) (hc.q_ran i (List.mem_cons_of_mem _ hi))
    acct := fun r' hr' => (hc.acct r' hr').elim
      (fun hq => (List.mem_cons.mp hq).elim (fun e => .inr (.inl (e ▸ List.mem_cons_self))) .inl)
      (.inr ∘ Or.imp_left (List.mem_cons_of_mem _))
    ran_nodup := List.nodup_cons.mpr ⟨hc.q_ran h hh, hc.ran_nodup⟩
    ran_facts := List.forall_mem_cons.mpr ⟨⟨Nat.le_refl _, r, hr, hrs, hrd ▸ hdue⟩, hc.ran_facts⟩
    ran_canc := List.forall_mem_cons.mpr ⟨fun c hcm he => (hncc c hcm he).elim, hc.ran_canc⟩ }, ?_⟩
  rw [← hrs]
  exact (Acc.checkRun_eq_ok_iff hc.recs_nodup hr).mpr ⟨hrs ▸ hc.q_ran h hh,
    Nat.le_trans (le_ceilTo s.res r.d) (hc.recs_rd r hr ▸ hrd ▸ hdue), fun c hcm he => (hncc c hcm (he.trans hrs)).elim,
    fun r' hr' hne hnr hncc' => hrs ▸ hrd ▸ hc.head_least hr' (hrs ▸ hne) hnr hncc'⟩

/-- All the worker does besides its blocking points: `heappop`, then
    `if not cancelled: gevent.spawn(action)`.  The caller shortens the queue. -/
def pop (s : St) (h : Item) : St := if h.cancelled then s else runItem s h

theorem pop_ev (s : St) (h : Item) : (pop s h).ev = s.ev := by unfold pop; split <;> rfl

theorem runs_cons_ok {a a' : Acc} {x : Nat} {xs : List Nat} (h : a.runs (x :: xs) = (.ok, a')) :
    a.checkRun x = .ok ∧ Acc.runs { a with ran := (x, a.clock) :: a.ran } xs = (.ok, a') := by
  rw [Acc.runs] at h
  cases hx : a.checkRun x with
  | ok => rw [hx] at h; exact ⟨rfl, h⟩
  | fail c ps => rw [hx] at h; cases h

/-- the part of the monitor state that the labels alone determine -/
def Acc.forget (a : Acc) : Acc := { a with ran := [] }

theorem Acc.forget_apply (a : Acc) (res : Nat) (l : Label) :
    (a.apply res l).forget = a.forget.apply res l := by
  cases l <;> rfl

theorem runs_forget (a : Acc) (xs : List Nat) : (a.runs xs).2.forget = a.forget := by
  fun_induction Acc.runs a xs with
  | case1 => rfl
  | case2 a k ks _ ih => exact ih
  | case3 => rfl

/-- every run of an accepted sequence was accepted in the monitor state of its own moment -/
theorem runs_split (a : Acc) (pre : List Nat) (k : Nat) (post : List Nat) (a' : Acc)
    (h : a.runs (pre ++ k :: post) = (.ok, a')) :
    ∃ a1 : Acc, a1.checkRun k = .ok ∧ a1.forget = a.forget ∧
      a1.ran.map (·.1) = pre.reverse ++ a.ran.map (·.1) := by
  induction pre generalizing a with
  | nil => exact ⟨a, (runs_cons_ok h).1, rfl, rfl⟩
  | cons x xs ih =>
    obtain ⟨a1, h1, h2, h3⟩ := ih _ (runs_cons_ok h).2
    exact ⟨a1, h1, h2, by rw [h3, List.reverse_cons, List.append_assoc]; rfl⟩

theorem specStep_ok {res : Nat} {a a' : Acc} {l : Label} {o : Obs} (hpre : (a.apply res l).preCheck l = .ok)
    (hruns : (a.apply res l).runs (obsRan o) = (.ok, a')) (hpost : a'.postCheck l = .ok) :
    specStep res a l o = (.ok, a') := by
  unfold specStep
  simp only [hpre, hruns, hpost]

/-- the monitor's check at a cancel call is `Core.cancel_effective` for the call just recorded -/
theorem checkCancel_ok {s : St} (hc : Core s) {k : Nat} (hk : (k, s.now) ∈ s.cancels) :
    (accOf s).checkCancel k = .ok := by
  unfold Acc.checkCancel
  cases hf : (accOf s).recOf k with
  | none => rfl
  | some r =>
    have hf : s.recs.find? (fun r => r.seq == k) = some r := hf
    have hrk : r.seq = k := beq_iff_eq.mp (List.find?_some (p := fun r : Rec => r.seq == k) hf)
    refine if_neg fun hcond => ?_
    rw [Bool.and_eq_true, decide_eq_true_eq, Acc.hasRun_iff] at hcond
    exact hc.cancel_effective (List.mem_of_find?_eq_some hf) (hrk ▸ hk) hcond.1 (hrk ▸ hcond.2)

end Scales.TimerQ
