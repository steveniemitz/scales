/-
  Proofs/UriLemmas.lean — C20, component `uri`: what `splitOn`, `cut`, the decimal numerals and
  `parseUri` do on a string assembled from parts that are free of the delimiters.
-/
import ScalesModel.Adapter.Uri
namespace Scales.Uri

/-- so the branch `| [] => [[x]]` of `splitOn` is never taken -/
theorem splitOn_ne_nil (c : Char) (s : Str) : splitOn c s ≠ [] := by
  fun_induction splitOn c s <;> simp

theorem splitOn_prefix (c : Char) (a : Str) {b p : Str} {ps : List Str} (h : c ∉ a)
    (hb : splitOn c b = p :: ps) : splitOn c (a ++ b) = (a ++ p) :: ps := by
  induction a with
  | nil => exact hb
  | cons x xs ih =>
    have hx : ¬ x = c := fun hh => h (hh ▸ List.mem_cons_self)
    simp only [List.cons_append, splitOn, if_neg hx, ih (fun hh => h (List.mem_cons_of_mem _ hh))]

theorem splitOn_not_mem (c : Char) (a : Str) (h : c ∉ a) : splitOn c a = [a] := by
  simpa using splitOn_prefix c a (b := []) h rfl

theorem splitOn_append (c : Char) (a b : Str) (h : c ∉ a) :
    splitOn c (a ++ c :: b) = a :: splitOn c b := by
  simpa using splitOn_prefix c a (b := c :: b) (p := []) h (by simp only [splitOn, if_true])

theorem splitOn_intercalate (c : Char) (ps : List Str) (hne : ps ≠ []) (h : ∀ p ∈ ps, c ∉ p) :
    splitOn c (intercalate c ps) = ps := by
  fun_induction intercalate c ps with
  | case1 => exact absurd rfl hne
  | case2 p => exact splitOn_not_mem c p (h p List.mem_cons_self)
  | case3 p q rest ih =>
    rw [splitOn_append c p _ (h p List.mem_cons_self),
      ih (List.cons_ne_nil _ _) (fun x hx => h x (List.mem_cons_of_mem _ hx))]

theorem mem_intercalate (sep : Char) (ps : List Str) (c : Char) (h : c ∈ intercalate sep ps) :
    c = sep ∨ ∃ p ∈ ps, c ∈ p := by
  fun_induction intercalate sep ps with
  | case1 => cases h
  | case2 p => exact Or.inr ⟨p, List.mem_cons_self, h⟩
  | case3 p q rest ih =>
    simp only [List.mem_append, List.mem_cons] at h
    rcases h with h | h | h
    · exact Or.inr ⟨p, List.mem_cons_self, h⟩
    · exact Or.inl h
    · exact (ih h).imp_right fun ⟨x, hx, hc⟩ => ⟨x, List.mem_cons_of_mem _ hx, hc⟩

theorem cut_append (c : Char) (a b : Str) (h : c ∉ a) : cut c (a ++ c :: b) = (a, b) := by
  induction a with
  | nil => simp only [List.nil_append, cut, if_true]
  | cons x xs ih =>
    have hx : ¬ x = c := fun hh => h (hh ▸ List.mem_cons_self)
    simp only [List.cons_append, cut, if_neg hx, ih (fun hh => h (List.mem_cons_of_mem _ hh))]

theorem contains_of_not_mem {c : Char} {l : Str} (h : c ∉ l) : l.contains c = false := by
  rw [List.contains_eq_mem, decide_eq_false h]

theorem takeWhile_stop (p : Char → Bool) (a b : Str) (ha : ∀ c ∈ a, p c = true)
    (hb : b = [] ∨ ∃ x xs, b = x :: xs ∧ p x = false) :
    (a ++ b).takeWhile p = a ∧ (a ++ b).dropWhile p = b := by
  rw [List.takeWhile_append_of_pos ha, List.dropWhile_append_of_pos ha]
  rcases hb with rfl | ⟨x, xs, rfl, hx⟩
  · simp
  · have hx' : ¬ p x = true := by simp [hx]
    rw [List.takeWhile_cons_of_neg hx', List.dropWhile_cons_of_neg hx', List.append_nil]
    exact ⟨rfl, rfl⟩

theorem digitChar_facts : ∀ d < 10, isDigit (digitChar d) = true ∧ (digitChar d).toNat - 48 = d := by
  decide

theorem decToNat_singleton (c : Char) (hc : isDigit c = true) : decToNat [c] = some (c.toNat - 48) := by
  simp [decToNat, hc]

theorem decToNat_concat (cs : Str) (c : Char) (n : Nat) (hcs : decToNat cs = some n)
    (hc : isDigit c = true) : decToNat (cs ++ [c]) = some (n * 10 + (c.toNat - 48)) := by
  cases cs with
  | nil => cases hcs
  | cons x xs =>
    have hcs' : List.foldl _ (some 0) (x :: xs) = some n := hcs
    show List.foldl _ (some 0) ((x :: xs) ++ [c]) = _
    rw [List.foldl_append, hcs']
    simp [hc]

theorem natToDecFuel_spec (fuel n : Nat) (hn : n < fuel) :
    (∀ c ∈ natToDecFuel fuel n, isDigit c = true) ∧ decToNat (natToDecFuel fuel n) = some n := by
  fun_induction natToDecFuel fuel n with
  | case1 n => exact absurd hn n.not_lt_zero
  | case2 fuel n h10 =>
    obtain ⟨h1, h2⟩ := digitChar_facts n h10
    rw [decToNat_singleton _ h1, h2]
    exact ⟨fun c hc => List.mem_singleton.mp hc ▸ h1, rfl⟩
  | case3 fuel n h10 ih =>
    obtain ⟨a1, a2⟩ := ih
      (Nat.lt_of_lt_of_le (Nat.div_lt_self (by omega) (by decide)) (Nat.le_of_lt_succ hn))
    obtain ⟨h1, h2⟩ := digitChar_facts (n % 10) (Nat.mod_lt _ (by decide))
    rw [decToNat_concat _ _ _ a2 h1, h2, Nat.div_add_mod' n 10]
    refine ⟨fun c hc => ?_, rfl⟩
    rcases List.mem_append.mp hc with hc | hc
    · exact a1 c hc
    · exact List.mem_singleton.mp hc ▸ h1
theorem natToDec_digits (n : Nat) : ∀ c ∈ natToDec n, isDigit c = true :=
  (natToDecFuel_spec (n + 1) n n.lt_succ_self).1

theorem decToNat_natToDec (n : Nat) : decToNat (natToDec n) = some n :=
  (natToDecFuel_spec (n + 1) n n.lt_succ_self).2

theorem mapM_map_some {α β : Type} (f : α → β) (g : β → Option α) (l : List α)
    (h : ∀ x ∈ l, g (f x) = some x) : (l.map f).mapM g = some l := by
  induction l with
  | nil => rfl
  | cons x xs ih =>
    have h1 := h x (by simp)
    have h2 := ih (fun y hy => h y (List.mem_cons_of_mem _ hy))
    simp [List.mapM_cons, h1, h2]

theorem parseServer_render (h : Str) (p : Nat) (hh : ':' ∉ h) :
    parseServer (renderServer (h, p)) = some (h, p) := by
  have hd : ':' ∉ natToDec p := fun hc => absurd (natToDec_digits p _ hc) (by decide)
  simp only [parseServer, renderServer, splitOn_append ':' h _ hh, splitOn_not_mem ':' _ hd, decToNat_natToDec]

theorem splitScheme_colon (c : Char) (cs rest : Str) (hc : isAlpha c = true)
    (hcs : (c :: cs).all isSchemeChar = true) :
    splitScheme (c :: cs ++ ':' :: rest) = ((c :: cs).map lower, rest) := by
  have hcolon : ':' ∉ c :: cs := fun h => absurd (List.all_eq_true.mp hcs _ h) (by decide)
  have hmem : (c :: cs ++ ':' :: rest).contains ':' = true := by simp
  simp only [splitScheme, hmem, if_true, cut_append ':' _ rest hcolon, hc, hcs, Bool.and_self]

/-- `parseUri` on the text `scheme://netloc path [#endpoint]`, the form `renderTcp` and `renderZk` write,
    for any scheme: the parser is taken apart here once and the result says which handler gets which
    part.  The `match` is that of `renderZk`; with `hep` in scope it has to be kept from generalizing. -/
theorem parseUri_render (c : Char) (cs netloc path : Str) (endpoint : Option Str)
    (hc : isAlpha c = true) (hcs : (c :: cs).all isSchemeChar = true)
    (hn : ∀ c ∈ netloc, c ≠ '/' ∧ c ≠ '?' ∧ c ≠ '#' ∧ c ≠ '[' ∧ c ≠ ']')
    (hpath : (path = [] ∨ ∃ rest, path = '/' :: rest) ∧ ∀ c ∈ path, c ≠ '?' ∧ c ≠ '#')
    (hep : endpoint ≠ some []) :
    parseUri (c :: cs ++ ':' :: '/' :: '/' :: (netloc ++ (path ++
        match (generalizing := false) endpoint with | some f => '#' :: f | none => []))) =
      if (c :: cs).map lower = tcpScheme then handleTcp netloc
      else if (c :: cs).map lower = zkScheme then .zk netloc path endpoint
      else .err .nohandler := by
  have hq : path.contains '?' = false := contains_of_not_mem fun hc => (hpath.2 _ hc).1 rfl
  have hfm : '#' ∉ path := fun hc => (hpath.2 _ hc).2 rfl
  have hb1 : netloc.contains '[' = false := contains_of_not_mem fun hc => (hn _ hc).2.2.2.1 rfl
  have hb2 : netloc.contains ']' = false := contains_of_not_mem fun hc => (hn _ hc).2.2.2.2 rfl
  generalize hfr : (match endpoint with | some f => '#' :: f | none => []) = fr
  have hs := splitScheme_colon c cs ('/' :: '/' :: (netloc ++ (path ++ fr))) hc hcs
  have htw := takeWhile_stop (fun c => !isNetlocEnd c) netloc (path ++ fr)
    (fun c hc => by simp [isNetlocEnd, (hn c hc).1, (hn c hc).2.1, (hn c hc).2.2.1])
    (by
      rcases hpath.1 with rfl | ⟨rest, rfl⟩
      · cases endpoint with
        | none => exact .inl hfr.symm
        | some f => exact .inr ⟨'#', f, hfr.symm, rfl⟩
      · exact .inr ⟨'/', _, rfl, rfl⟩)
  simp only [parseUri, hs, splitNetloc, htw.1, htw.2, hb1, hb2, Bool.false_and, Bool.or_self,
    Bool.false_eq_true, if_false]
  subst hfr
  cases endpoint with
  | none => simp only [List.append_nil, contains_of_not_mem hfm, hq, Bool.false_eq_true, if_false, if_true]
  | some f =>
    have hf : (path ++ '#' :: f).contains '#' = true := by simp
    simp only [hf, if_true, cut_append '#' path f hfm, hq, Bool.false_eq_true, if_false,
      if_neg fun h : f = [] => hep (h ▸ rfl)]

end Scales.Uri
