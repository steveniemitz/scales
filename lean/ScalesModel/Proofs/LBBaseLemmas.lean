import ScalesModel.Model.LBBase

/-! What the functions of Model/LBBase.lean compute, case by case, for any subclass. -/
namespace Scales.LBBase
variable {σ ρ : Type} (S : Sub σ ρ)

theorem addServer_old {s : σ} {ep : Nat} (h : ep ∈ S.servers s) : addServer S s ep = s := if_pos h

theorem addServer_new {s : σ} {ep : Nat} (h : ep ∉ S.servers s) :
    addServer S s ep = S.onAdd (S.setServers s (S.servers s ++ [ep])) ep := if_neg h

theorem notify_open {lb : LB σ} (h : lb.initDone = true) (n : Notif) :
    lb.notify S n = { lb with sub := applyNotif S lb.sub n } := by
  unfold LB.notify; rw [if_pos h]

theorem notify_shut {lb : LB σ} (h : lb.initDone = false) (n : Notif) :
    lb.notify S n = { lb with blocked := lb.blocked ++ [n] } := by
  unfold LB.notify; rw [if_neg (by rw [h]; exact Bool.false_ne_true)]

theorem notify_base (lb : LB σ) (n : Notif) :
    (lb.notify S n).initDone = lb.initDone ∧
    (lb.notify S n).blocked = (if lb.initDone then lb.blocked else lb.blocked ++ [n]) ∧
    (lb.notify S n).queued = lb.queued := by
  unfold LB.notify; split <;> exact ⟨rfl, rfl, rfl⟩

theorem request_ready {lb : LB σ} (h : S.openReady lb.sub = true) (evt : Option Bool) :
    lb.request S evt = ({ lb with sub := (S.request lb.sub).1 }, some (S.request lb.sub).2) := by
  unfold LB.request; rw [if_pos h]

theorem request_wait {lb : LB σ} (h : ¬ S.openReady lb.sub = true) (evt : Option Bool) :
    lb.request S evt = ({ lb with queued := lb.queued ++ [evt] }, none) := by
  unfold LB.request; rw [if_neg h]

theorem expire_cases (lb : LB σ) (k : Nat) :
    (∃ b, lb.queued[k]? = some (some b) ∧ lb.expire k = some { lb with queued := lb.queued.set k (some true) }) ∨
    ((∀ b, lb.queued[k]? ≠ some (some b)) ∧ lb.expire k = none) := by
  unfold LB.expire
  split
  · rename_i b h; exact Or.inl ⟨b, h, rfl⟩
  · rename_i h; exact Or.inr ⟨h, rfl⟩

theorem flush_live {e : Option Bool} (h : live e = true) (q : List (Option Bool)) (s : σ) :
    flush S (e :: q) s =
      ((flush S q (S.request s).1).1, some (S.request s).2 :: (flush S q (S.request s).1).2) := by
  rw [flush, if_pos h]

theorem flush_dead {e : Option Bool} (h : ¬ live e = true) (q : List (Option Bool)) (s : σ) :
    flush S (e :: q) s = ((flush S q s).1, none :: (flush S q s).2) := by
  rw [flush, if_neg h]

theorem flush_eq_filter_live (q : List (Option Bool)) (s : σ) :
    (flush S q s).1 = (flush S (q.filter live) s).1 ∧
    (flush S q s).2.filterMap id = (flush S (q.filter live) s).2.filterMap id := by
  induction q generalizing s with
  | nil => exact ⟨rfl, rfl⟩
  | cons e q ih =>
    by_cases hl : live e = true
    · rw [List.filter_cons_of_pos hl, flush_live S hl, flush_live S hl]
      exact ⟨(ih _).1, congrArg (_ :: ·) (ih _).2⟩
    · rw [List.filter_cons_of_neg hl, flush_dead S hl]
      exact ih s

theorem finish_cases (lb : LB σ) :
    (∃ s0, (s0 = lb.sub ∨ s0 = S.settle lb.sub) ∧ S.openReady s0 = true ∧ lb.queued ≠ [] ∧
      lb.finish S = ({ lb with sub := S.settle (flush S lb.queued s0).1, queued := [] }, (flush S lb.queued s0).2)) ∨
    ((S.openReady (S.settle lb.sub) = true → lb.queued = []) ∧
      lb.finish S = ({ lb with sub := S.settle lb.sub }, [])) := by
  unfold LB.finish
  by_cases h0 : S.openReady lb.sub = true ∧ lb.queued ≠ []
  · rw [if_pos h0]
    exact Or.inl ⟨lb.sub, Or.inl rfl, h0.1, h0.2, rfl⟩
  · rw [if_neg h0]
    by_cases h1 : S.openReady (S.settle lb.sub) = true ∧ lb.queued ≠ []
    · dsimp only
      rw [if_pos h1]
      exact Or.inl ⟨S.settle lb.sub, Or.inr rfl, h1.1, h1.2, rfl⟩
    · dsimp only
      rw [if_neg h1]
      exact Or.inr ⟨fun h => Classical.not_not.1 fun hq => h1 ⟨h, hq⟩, rfl⟩

end Scales.LBBase
