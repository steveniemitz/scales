/-
  Proofs/FrontEndLemmas.lean — C01.  Per call: the invariant (`Shape`: the three records a call can be;
  `CallInv` is the form Props/C01 reads), and `Moves`, what an operation leaves of a call, which the
  executable specification accepts as long as the rounded deadline is still ahead of a pending call
  (`Moves.stepOK_of_bound`).  All calls together: `Rel` between what the specification remembers and the
  state, kept by every legal operation list (`run_ok`).
-/
import ScalesModel.Adapter.FrontEnd
import ScalesModel.Proofs.VerdictLemmas
import Mathlib.Data.List.Forall2

namespace Scales.FrontEnd

theorem le_roundUp (d : Nat) : d ≤ roundUp d := by
  unfold roundUp resolution
  omega

/-- per-call invariant of the front end, together with what the specification remembers -/
structure CallInv (oa : Option Nat) (i : CallInfo) (cl : Call) : Prop where
  cid : i.cid = cl.cid
  issueT : i.issueT = cl.issueT
  T : i.T = cl.T
  setsLe : cl.sets.length ≤ 1
  overIff : (∃ t, cl.phase = .over t) ↔ cl.sets ≠ []
  waiting : ∀ g, cl.phase = .waitOpen g → oa = none ∧ i.preOpen = true ∧ cl.lowerGot = false ∧
    g = (if 0 < cl.T then some (roundUp (cl.issueT + cl.T)) else none)
  opened : ∀ t, oa = some t → ∀ g, cl.phase ≠ .waitOpen g
  liveDue : ∀ due, cl.phase = .live (some due) → due = roundUp (cl.issueT + cl.T) ∧ 0 < cl.T
  liveNone : cl.phase = .live none → cl.T = 0
  /-- TimeoutError is never set before t+T -/
  tmo : ∀ t, (t, Outcome.timeout) ∈ cl.sets → 0 < cl.T ∧ cl.issueT + cl.T ≤ t

def FirstOK (i : CallInfo) (cl : Call) : Prop := i.first = (cl.sets.getLast?).map (·.2)

/-- The per-call invariant: a call with number `c`, issued at `t` with timeout `T`, is one of three
    records.  While it is pending, whichever timer is queued (the dispatcher's, then the timeout sink's)
    is due at the rounded deadline.  `pre`: the specification has the call down as issued before the
    client opened.  Records and not equations on the fields of a call: `cases` substitutes the record
    for the call, `dispatch`, `respond`, `fire`, `armedDue` and `viewOf` compute on it, and the record
    after an operation is met by one constructor and `rfl`. -/
inductive Shape (oa : Option Nat) (pre : Bool) (c t T : Nat) : Call → Prop
  | waiting {ev : Bool} {g : Option Nat} : g = (if 0 < T then some (roundUp (t + T)) else none) →
      oa = none → pre = true → Shape oa pre c t T ⟨c, t, T, .waitOpen g, ev, false, []⟩
  | live {ev lg : Bool} {d : Option Nat} : d = (if 0 < T then some (roundUp (t + T)) else none) →
      Shape oa pre c t T ⟨c, t, T, .live d, ev, lg, []⟩
  | over {ev lg : Bool} {e : TimerEnd} {t' : Nat} {o : Outcome} :
      (o = .timeout → 0 < T ∧ t + T ≤ t') → Shape oa pre c t T ⟨c, t, T, .over e, ev, lg, [(t', o)]⟩

/-- Nothing of `i` but number, issue time, timeout and `preOpen` enters, so an `i` with one more post,
    or with `fired` set, has the same invariant by definition. -/
abbrev Inv (oa : Option Nat) (i : CallInfo) : Call → Prop := Shape oa i.preOpen i.cid i.issueT i.T

variable {oa : Option Nat} {i : CallInfo} {cl : Call}

theorem Inv.cid (h : Inv oa i cl) : i.cid = cl.cid := by
  cases h <;> rfl

theorem Inv.callInv (h : Inv oa i cl) : CallInv oa i cl := by
  cases h with
  | waiting hg h1 h2 =>
    exact ⟨rfl, rfl, rfl, Nat.zero_le 1, ⟨nofun, (absurd rfl ·)⟩, fun _ h => by cases h; exact ⟨h1, h2, rfl, hg⟩,
      fun _ h => (nomatch h1.symm.trans h), nofun, nofun, nofun⟩
  | live hd =>
    refine ⟨rfl, rfl, rfl, Nat.zero_le 1, ⟨nofun, (absurd rfl ·)⟩, nofun, fun _ _ _ => nofun,
      fun due h => ?_, fun h => ?_, nofun⟩ <;> cases h <;> split at hd
    · cases hd; exact ⟨rfl, ‹_›⟩
    · cases hd
    · cases hd
    · exact Nat.eq_zero_of_not_pos ‹_›
  | over htmo =>
    exact ⟨rfl, rfl, rfl, Nat.le_refl 1, ⟨fun _ => nofun, fun _ => ⟨_, rfl⟩⟩, nofun, fun _ _ _ => nofun, nofun, nofun,
      fun _ h => by cases List.mem_singleton.mp h; exact htmo rfl⟩

theorem Inv.armedDue_eq (h : Inv oa i cl) (hs : cl.sets = []) (hT : 0 < cl.T) :
    cl.armedDue = some (roundUp (cl.issueT + cl.T)) := by
  cases h with
  | waiting hg | live hg => exact hg.trans (if_pos hT)
  | over => cases hs

/-- between two operations: the invariant, and the specification remembers the call's result -/
def Good (oa : Option Nat) (i : CallInfo) (cl : Call) : Prop := Inv oa i cl ∧ FirstOK i cl

/-- What an operation at time `now` leaves of a call that was `Good`: it is `Good` again (with `oa'` the
    client's opening time afterwards); or the specification remembers no result, and the call is over
    with its result set now, to something the environment posted or to TimeoutError.  The call before is
    not named: `i.first` is all that `Moves.stepOK_of_bound` reads of it, and a call that is issued,
    which has no call before, is left like any other. -/
inductive Moves (oa' : Option Nat) (i : CallInfo) (now : Nat) : Call → Prop
  | same {cl' : Call} : Good oa' i cl' → Moves oa' i now cl'
  | done {ev lg : Bool} {e : TimerEnd} {o : Outcome} : i.first = none →
      (o = .timeout → 0 < i.T ∧ i.issueT + i.T ≤ now) → (o ≠ .timeout → i.posts.contains o = true) →
      Moves oa' i now ⟨i.cid, i.issueT, i.T, .over e, ev, lg, [(now, o)]⟩

theorem Moves.dispatch (oa' : Option Nat) {ev lg : Bool} (now : Nat) (g : Option Nat) (hf : i.first = none) :
    Moves oa' i now (Call.dispatch ⟨i.cid, i.issueT, i.T, .waitOpen g, ev, lg, []⟩ now) := by
  simp only [Call.dispatch]
  by_cases h0 : i.T = 0
  · rw [if_pos h0]
    exact .same ⟨.live (by simp [h0]), hf⟩
  · have hpos : 0 < i.T := Nat.pos_of_ne_zero h0
    rw [if_neg h0]
    by_cases hd : i.issueT + i.T < now
    · -- the deadline has already passed: immediate TimeoutError
      rw [if_pos hd]
      exact .done hf (fun _ => ⟨hpos, Nat.le_of_lt hd⟩) (absurd rfl ·)
    · rw [if_neg hd]
      exact .same ⟨.live (if_pos hpos).symm, hf⟩

/-- the open result completes at `now`: calls linked on it are dispatched, the others not touched -/
theorem Moves.openDone {oa' : Option Nat} (h : Good oa i cl) (now : Nat) : Moves oa' i now (cl.dispatch now) := by
  cases h.1 with
  | waiting => exact .dispatch _ now _ h.2
  | live hd => exact .same ⟨.live hd, h.2⟩
  | over htmo => exact .same ⟨.over htmo, h.2⟩

theorem Moves.respond (h : Good oa i cl) (now : Nat) (o : Outcome) (hl : cl.lowerGot = true)
    (henv : o = .timeout → 0 < cl.T ∧ cl.issueT + cl.T ≤ now) (hpost : i.posts.contains o = true) :
    Moves oa i now (cl.respond now o) := by
  cases h.1 with
  | waiting => cases hl
  | live => exact .done h.2 henv fun _ => hpost
  | over => exact .same h

/-- a timer action of the call runs: the timeout sink's, or — while the client is still
    opening — the dispatcher's own -/
theorem Moves.fire (h : Good oa i cl) (now : Nat) (hen : cl.fireEnabled now = true) :
    Moves oa i now (cl.fire now) := by
  cases h.1 with
  | waiting hg | live hg =>
    by_cases h0 : 0 < i.T
    · cases hg.trans (if_pos h0)
      exact .done h.2 (fun _ => ⟨h0, Nat.le_trans (le_roundUp _) (of_decide_eq_true hen)⟩) (absurd rfl ·)
    · cases hg.trans (if_neg h0); cases hen
  | @over _ _ e _ _ htmo =>
    cases e with
    | cancelled due cat =>
      -- only the view's timer code and `evtSet` change, and the specification reads neither
      exact .same ⟨.over htmo, h.2⟩
    | none | fired => cases hen

theorem viewOf_nsets (cl : Call) : (viewOf cl).nsets = cl.sets.length := rfl

/-- `op` happens while `due` is still ahead: not after it, and strictly before it if `op` reads the
    clock (a tick at the rounded deadline itself must already see the call complete). -/
def Ahead (op : Op) (due : Nat) : Prop := op.time ≤ due ∧ (op.isTick = true → op.time < due)

theorem spec_pending {a : Acc} {idx c : Nat} {op : Op} {v : CallView}
    (hn : v.nsets = 0) (hr : v.res = .pending) (hf : i.first = none)
    (hb : 0 < i.T → Ahead op (roundUp (i.issueT + i.T))) : specCall a idx op c i v = .ok := by
  unfold specCall
  simp only [hn, hr, hf]
  simp only [show ¬ (0 > 1) by omega, if_false]
  refine Verdict.ite_fail_eq_ok.mpr ⟨fun hc => ?_, rfl⟩
  simp only [Bool.and_eq_true, Bool.or_eq_true, decide_eq_true_eq] at hc
  obtain ⟨p1, p2⟩ := hb hc.1
  rcases hc.2 with h | ⟨h1, h2⟩
  · exact Nat.not_lt.mpr p1 h
  · exact Nat.lt_irrefl _ (h1 ▸ p2 h2)

theorem spec_done_old {a : Acc} {idx c : Nat} {op : Op} {v : CallView} {o : Outcome}
    (hn : v.nsets = 1) (hr : v.res = .done o) (hf : i.first = some o) : specCall a idx op c i v = .ok := by
  unfold specCall
  simp only [hn, hr, hf]
  simp

theorem spec_done_new {a : Acc} {idx c : Nat} {op : Op} {v : CallView} {o : Outcome}
    (hn : v.nsets = 1) (hr : v.res = .done o) (hf : i.first = none)
    (hsrc : o ≠ .timeout → i.posts.contains o = true)
    (htmo : o = .timeout → 0 < i.T ∧ i.issueT + i.T ≤ op.time)
    (hlate : 0 < i.T → op.time ≤ roundUp (i.issueT + i.T)) :
    specCall a idx op c i v = .ok := by
  unfold specCall
  simp only [hn, hr, hf]
  simp only [show ¬ (1 > 1) by omega, if_false]
  apply Verdict.and_ok
  · cases o with
    | ok v => simp only [hsrc nofun, if_true]
    | err e => simp only [hsrc nofun, if_true]
    | timeout =>
      obtain ⟨h1, h2⟩ := htmo rfl
      simp only [if_neg (Nat.ne_of_gt h1), if_neg (Nat.not_lt.mpr h2), ite_self]
  · refine Verdict.ite_fail_eq_ok.mpr ⟨fun hc => ?_, rfl⟩
    simp only [Bool.and_eq_true, decide_eq_true_eq] at hc
    exact Nat.not_lt.mpr (hlate hc.1) hc.2

theorem note1_first (i : CallInfo) (cl : Call) (h : i.first = none ∨ FirstOK i cl) :
    FirstOK (note1 i (viewOf cl)) cl := by
  unfold FirstOK note1 viewOf at *
  cases hl : cl.sets.getLast? with
  | none =>
    have hf : i.first = none := h.elim id fun h => by rw [h, hl]; rfl
    simp only [hf]; rfl
  | some x =>
    rcases h with h | h
    · simp only [h]; rfl
    · rw [hl] at h; simp only [h]; exact h

theorem Inv.note1 (h : Inv oa i cl) (v : CallView) : Inv oa (note1 i v) cl := by
  unfold FrontEnd.note1; split <;> exact h

/-- What one operation establishes per call: the invariant again; the specification's verdict for
    this call (whatever `a`, `idx` and the call number `c`: they only enter the parameters of a
    `fail`); and that what `note1` then remembers is the call's result, so that `noteFirst` yields
    `Good` again (`stepOK_all`). -/
def StepOK (oa' : Option Nat) (op : Op) (i' : CallInfo) (cl' : Call) : Prop :=
  Inv oa' i' cl' ∧ (∀ a idx c, specCall a idx op c i' (viewOf cl') = .ok) ∧
  FirstOK (note1 i' (viewOf cl')) cl'

def Punctual (op : Op) (cl : Call) : Prop := ∀ due, cl.armedDue = some due → Ahead op due

theorem Moves.stepOK_of_bound {oa' : Option Nat} {op : Op} {cl' : Call} (m : Moves oa' i op.time cl')
    (hbound : i.first = none → 0 < i.T → Ahead op (roundUp (i.issueT + i.T))) : StepOK oa' op i cl' := by
  cases m with
  | same hg =>
    refine ⟨hg.1, fun _ _ _ => ?_, note1_first _ _ (.inr hg.2)⟩
    cases hg.1 with
    | waiting | live => exact spec_pending rfl rfl hg.2 (hbound hg.2)
    | over => exact spec_done_old rfl rfl hg.2
  | done hf htmo hsrc =>
    exact ⟨.over htmo, fun _ _ _ => spec_done_new rfl rfl hf hsrc htmo
      fun hT => (hbound hf hT).1, note1_first _ _ (.inl hf)⟩

/-- the deadline bound holds as long as the timer queue is punctual, because a pending call with
    a timeout has a timer queued for the rounded deadline -/
theorem Moves.stepOK {oa' : Option Nat} {op : Op} {cl' : Call} (m : Moves oa' i op.time cl')
    (hg : Good oa i cl) (hpunct : Punctual op cl) : StepOK oa' op i cl' :=
  m.stepOK_of_bound fun hf hT => by
    -- on a record of `Shape`, `i.T` is `cl.T`
    obtain ⟨h, hf'⟩ := hg
    cases h with
    | waiting hg | live hg => exact hpunct _ (hg.trans (if_pos hT))
    | over => cases hf'.symm.trans hf

/-- what the specification remembers (`a`) against the state: opened or not alike, and the calls
    pairwise `Good` -/
structure Rel (a : Acc) (s : FE) : Prop where
  openNone : a.openAt = none ↔ s.openSt = .pending
  calls : List.Forall₂ (Good a.openAt) a.infos s.calls

theorem opOk_punctual {s : FE} {op : Op} (h : opOk s op = true) : ∀ cl ∈ s.calls, Punctual op cl := by
  intro cl hcl due hd
  simp only [opOk, armedBefore, Bool.and_eq_true, Bool.not_eq_true', List.any_eq_false] at h
  have h1 := h.1.2 cl hcl
  rw [hd] at h1
  refine ⟨Nat.not_lt.mp (by simpa using h1), fun ht => ?_⟩
  cases op with
  | tick t =>
    have h2 := h.2
    simp only [armedAtOrBefore, Bool.not_eq_true', List.any_eq_false] at h2
    have h3 := h2 cl hcl
    rw [hd] at h3
    show t < due
    simpa using h3
  | _ => cases ht

theorem opOk_lower {s : FE} {c : Nat} {o : Outcome} {t : Nat} (h : opOk s (.lower c o t) = true) :
    ∀ cl ∈ s.calls, cl.cid = c → cl.lowerGot = true ∧ (o = .timeout → 0 < cl.T ∧ cl.issueT + cl.T ≤ t) := by
  intro cl hcl hc
  have := List.all_eq_true.mp (Bool.and_eq_true_iff.mp (Bool.and_eq_true_iff.mp h).2).2 cl hcl
  simp only [hc, bne_self_eq_false, Bool.false_or, Bool.and_eq_true, Bool.or_eq_true, bne_iff_ne,
    decide_eq_true_eq] at this
  exact ⟨this.1, fun ho => this.2.resolve_left fun h => h ho⟩

/-- `DispatchMethodCall` at `t`: the call is created, and dispatched at once if the client is open.
    The call is the new call of `FE.issue`, verbatim, so that `after_step` finds it at the end of the
    new list by unfolding. -/
theorem Moves.issue {a : Acc} {s : FE} (hrel : Rel a s) (T t : Nat) :
    Moves a.openAt { cid := a.infos.length, issueT := t, T := T, preOpen := a.openAt.isNone } t
      (match s.openSt with
        | .done _ _ => (newCall s.calls.length t T false).dispatch t
        | .pending => newCall s.calls.length t T true) := by
  rw [← hrel.calls.length_eq]
  cases hos : s.openSt with
  | pending =>
    have hnone : a.openAt = none := hrel.openNone.mpr hos
    exact .same ⟨.waiting (by simp) hnone (by rw [hnone]; rfl), rfl⟩
  | done ok t0 => exact .dispatch _ t none rfl

theorem after_step (a : Acc) (s : FE) (hrel : Rel a s) (op : Op) (hok : opOk s op = true) :
    List.Forall₂ (StepOK (a.after op).openAt op) (a.after op).infos (stepSt s op).calls ∧
    ((a.after op).openAt = none ↔ (stepSt s op).openSt = .pending) := by
  -- `opOk` speaks of the calls of the state, so membership in `s.calls` rides along with the relation
  have hcalls : List.Forall₂ (fun i cl => cl ∈ s.calls ∧ Good a.openAt i cl) a.infos s.calls :=
    List.forall₂_iff_zip.mpr ⟨hrel.calls.length_eq, fun h => ⟨(List.of_mem_zip h).2, List.forall₂_zip hrel.calls h⟩⟩
  have ok {oa' : Option Nat} {i : CallInfo} {cl cl' : Call} (hcl : cl ∈ s.calls) (hg : Good a.openAt i cl)
      (m : Moves oa' i op.time cl') : StepOK oa' op i cl' :=
    m.stepOK hg (opOk_punctual hok cl hcl)
  have same (i : CallInfo) (cl : Call) (h : cl ∈ s.calls ∧ Good a.openAt i cl) : StepOK a.openAt op i cl :=
    ok h.1 h.2 (.same h.2)
  cases op with
  | issue T t =>
    -- the deadline of the new call is ahead, and an issue does not read the clock
    have hnew := (Moves.issue hrel T t).stepOK_of_bound (op := .issue T t)
      (fun _ _ => ⟨Nat.le_trans (Nat.le_add_right t T) (le_roundUp _), fun h => Bool.noConfusion h⟩)
    exact ⟨List.rel_append (hcalls.imp same) (.cons hnew .nil), hrel.openNone⟩
  | openDone ok t =>
    cases hos : s.openSt with
    | done ok0 t0 =>
      have hsome : a.openAt.isNone = false := by
        cases hoa : a.openAt with
        | none => have := hrel.openNone.mp hoa; rw [hos] at this; cases this
        | some _ => rfl
      simp only [Acc.after, hsome, Bool.false_eq_true, if_false, stepSt, FE.openDone, hos]
      exact ⟨hcalls.imp same, hos ▸ hrel.openNone⟩
    | pending =>
      have hnone : a.openAt = none := hrel.openNone.mpr hos
      simp only [Acc.after, hnone, stepSt, FE.openDone, hos]
      refine ⟨List.forall₂_map_right_iff.mpr (hcalls.imp fun i cl h => ?_), by simp⟩
      exact ok h.1 h.2 (Moves.openDone h.2 t)
  | lower c0 o t =>
    have hall := opOk_lower hok
    refine ⟨List.rel_map (fun i cl ⟨hcl, hg⟩ => ?_) hcalls, hrel.openNone⟩
    have hcid : i.cid = cl.cid := hg.1.cid
    by_cases hc : cl.cid = c0
    · rw [if_pos hc, if_pos (hcid.trans hc)]
      have hg' : Good a.openAt { i with posts := i.posts ++ [o] } cl := hg
      exact ok hcl hg' (Moves.respond hg' t o (hall cl hcl hc).1 (hall cl hcl hc).2 (by simp))
    · rw [if_neg hc, if_neg fun h => hc (hcid.symm.trans h)]
      exact same i cl ⟨hcl, hg⟩
  | fire cs t =>
    refine ⟨List.rel_map (fun i cl ⟨hcl, hg⟩ => ?_) hcalls, hrel.openNone⟩
    have hg' : Good a.openAt (if cs.contains i.cid then { i with fired := true } else i) cl := by
      split <;> exact hg
    by_cases hc : (cs.contains cl.cid && cl.fireEnabled t) = true
    · rw [if_pos hc]
      exact ok hcl hg' (Moves.fire hg' t (Bool.and_eq_true_iff.mp hc).2)
    · rw [if_neg hc]
      exact same _ cl ⟨hcl, hg'⟩
  | tick t => exact ⟨hcalls.imp same, hrel.openNone⟩

theorem stepOK_all {op : Op} {oa : Option Nat} {infos : List CallInfo} {calls : List Call}
    (h : List.Forall₂ (StepOK oa op) infos calls) :
    (∀ a idx c, specCalls a idx op c infos (calls.map viewOf) = .ok) ∧
    List.Forall₂ (Good oa) (noteFirst infos (calls.map viewOf)) calls := by
  induction h with
  | nil => exact ⟨fun _ _ _ => rfl, .nil⟩
  | cons hab _ ih =>
    exact ⟨fun a idx c => Verdict.and_ok (hab.2.1 a idx c) (ih.1 a idx (c + 1)), .cons ⟨hab.1.note1 _, hab.2.2⟩ ih.2⟩

def runOps (s : FE) (ops : List Op) : FE := ops.foldl stepSt s

theorem run_ok : ∀ (ops : List Op) (a : Acc) (s : FE) (idx : Nat), Rel a s → opsOk s ops = true →
    specGo a idx (comp.trace () s ops) = .ok ∧ ∃ a', Rel a' (runOps s ops) := by
  intro ops
  induction ops with
  | nil => exact fun a s idx h _ => ⟨rfl, a, h⟩
  | cons op ops ih =>
    intro a s idx hrel hok
    simp only [opsOk, Bool.and_eq_true] at hok
    obtain ⟨hstep, hopen⟩ := after_step a s hrel op hok.1
    obtain ⟨hspec, hgood⟩ := stepOK_all hstep
    obtain ⟨h1, h2⟩ := ih { a.after op with infos := noteFirst (a.after op).infos ((stepSt s op).calls.map viewOf) }
      (stepSt s op) (idx + 1) ⟨hopen, hgood⟩ hok.2
    simp only [TComp.trace, comp, step, specGo]
    exact ⟨Verdict.and_ok (hspec _ idx 0) h1, h2⟩

theorem rel_init : Rel {} FE.init := ⟨by simp [FE.init], .nil⟩

theorem reachable_inv (ops : List Op) (hok : opsOk FE.init ops = true) :
    ∀ cl ∈ (runOps FE.init ops).calls, ∃ oa i, Inv oa i cl := by
  obtain ⟨a, hrel⟩ := (run_ok ops {} FE.init 0 rel_init hok).2
  intro cl hcl
  obtain ⟨n, hn, rfl⟩ := List.getElem_of_mem hcl
  exact ⟨_, _, (hrel.calls.get (hrel.calls.length_eq ▸ hn) hn).1⟩

theorem opsOk_append : ∀ (o1 o2 : List Op) (s : FE),
    opsOk s (o1 ++ o2) = (opsOk s o1 && opsOk (runOps s o1) o2)
  | [], _, _ => rfl
  | o :: os, o2, s => by
    simp only [List.cons_append, opsOk, opsOk_append os o2, Bool.and_assoc]; rfl

theorem pending_deadline_ahead (ops : List Op) (op : Op) (hok : opsOk FE.init ops = true)
    (hop : opOk (runOps FE.init ops) op = true) :
    ∀ cl ∈ (runOps FE.init ops).calls, 0 < cl.T → cl.sets = [] → Ahead op (roundUp (cl.issueT + cl.T)) :=
  fun cl hcl hT hs => let ⟨_, _, h⟩ := reachable_inv ops hok cl hcl
    opOk_punctual hop cl hcl _ (h.armedDue_eq hs hT)

end Scales.FrontEnd
