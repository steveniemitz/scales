/-
  Proofs/MuxCodecLemmas.lean — lemmas for C13 (ThriftMux codec).

  The encoder writes base-256 digits (`be16` … `be64`, `encodeTag`), the independent decoder reads
  polynomials in the bytes.  Both are related through `BigEndian.value` and `BigEndian.digits`; the
  type byte and the int64 fields go through `BigEndian.signed`, the inverse of the model's `toU`.
  Every writer is characterised by `… = .ok bs ↔ domain ∧ bs = canonical bytes`; a parser has an
  `_enc` lemma (it reads the canonical bytes back) and, where C13 states that the decoder is
  canonical, an `_inv` lemma (it accepts nothing else).  An `_inv` lemma goes through the parser's
  own cases (`fun_cases`, `fun_induction`); the parser's value is the last arrow of its statement,
  not a named hypothesis, because the tactic rewrites the goal only.
-/
import ScalesModel.Adapter.MuxCodec
import ScalesModel.Proofs.BigEndian
import ScalesModel.Proofs.RunLemmas
import ScalesModel.Proofs.VerdictLemmas
import Mathlib.Data.List.Basic
import Mathlib.Data.List.Induction
import Mathlib.Data.List.Nodup
import Mathlib.Data.List.Perm.Basic

namespace Scales.MuxCodec

open BigEndian (allBytes allBytes_append mod_digit digits value signed)

theorem value_two (a b : Nat) : value [a, b] = a * 256 + b := by simp [value]

theorem value_three (a b c : Nat) : value [a, b, c] = a * 65536 + b * 256 + c := by
  simp only [value, List.foldl]; omega

theorem value_four (a b c d : Nat) : value [a, b, c, d] = a * 16777216 + b * 65536 + c * 256 + d := by
  simp only [value, List.foldl]; omega

theorem be24_eq (n : Nat) : be24 n = digits 3 n := by simp [be24, digits, Nat.div_div_eq_div_mul]
theorem be32_eq (n : Nat) : be32 n = digits 4 n := by simp [be32, digits, Nat.div_div_eq_div_mul]
theorem encodeTag_eq (n : Nat) : encodeTag n = be24 n := rfl

theorem be16_length (n : Nat) : (be16 n).length = 2 := rfl
theorem be32_length (n : Nat) : (be32 n).length = 4 := rfl
theorem be64_length (n : Nat) : (be64 n).length = 8 := rfl
theorem encodeTag_length (n : Nat) : (encodeTag n).length = 3 := rfl

theorem value_be16 (n : Nat) : value (be16 n) = n % 65536 := BigEndian.value_digits 2 n
theorem value_be24 (n : Nat) : value (be24 n) = n % 16777216 := by rw [be24_eq]; exact BigEndian.value_digits 3 n
theorem value_be32 (n : Nat) : value (be32 n) = n % 4294967296 := by rw [be32_eq]; exact BigEndian.value_digits 4 n

/-- `be64` is two base-2^32 digits -/
theorem value_be64 (n : Nat) : value (be64 n) = n % 18446744073709551616 := by
  rw [be64, BigEndian.value_append, value_be32, value_be32, Nat.mod_mod, Nat.mod_mod, be32_length]
  exact mod_digit n 4294967296 4294967296

/-- the decoders' polynomial in the digits of `n` is `n` -/
theorem be16_val {n : Nat} (h : n < 65536) : n / 256 % 256 * 256 + n % 256 = n := by
  rw [← value_two]; exact (value_be16 n).trans (Nat.mod_eq_of_lt h)

theorem be24_val {n : Nat} (h : n < 16777216) : n / 65536 % 256 * 65536 + n / 256 % 256 * 256 + n % 256 = n := by
  rw [← value_three]; exact (value_be24 n).trans (Nat.mod_eq_of_lt h)

theorem be32_val {n : Nat} (h : n < 4294967296) :
    n / 16777216 % 256 * 16777216 + n / 65536 % 256 * 65536 + n / 256 % 256 * 256 + n % 256 = n := by
  rw [← value_four]; exact (value_be32 n).trans (Nat.mod_eq_of_lt h)

theorem be16_horner {a b : Nat} (h : allBytes [a, b]) : be16 (a * 256 + b) = [a, b] := by
  rw [← value_two]; exact BigEndian.digits_value _ h

theorem be24_horner {a b c : Nat} (h : allBytes [a, b, c]) : be24 (a * 65536 + b * 256 + c) = [a, b, c] := by
  rw [← value_three, be24_eq]; exact BigEndian.digits_value _ h

theorem be32_horner {a b c d : Nat} (h : allBytes [a, b, c, d]) :
    be32 (a * 16777216 + b * 65536 + c * 256 + d) = [a, b, c, d] := by
  rw [← value_four, be32_eq]; exact BigEndian.digits_value _ h

theorem toU_eq_emod {m : Nat} {x : Int} (h1 : -(m : Int) ≤ 2 * x) (h2 : 2 * x < m) :
    toU m x = (x % (m : Int)).toNat :=
  (BigEndian.emod_toNat_eq_ite h1 h2).symm

theorem signed_toU {m : Nat} {x : Int} (h1 : -(m : Int) ≤ 2 * x) (h2 : 2 * x < m) : signed m (toU m x) = x := by
  rw [toU_eq_emod h1 h2, BigEndian.signed_emod h1 h2]

theorem toU_lt {m : Nat} {x : Int} (h1 : -(m : Int) ≤ 2 * x) (h2 : 2 * x < m) : toU m x < m := by
  rw [toU_eq_emod h1 h2]; exact BigEndian.emod_toNat_lt (by omega) x

theorem toU_signed {m u : Nat} (hu : u < m) : toU m (signed m u) = u := by
  rw [toU_eq_emod (BigEndian.signed_range hu).1 (BigEndian.signed_range hu).2, BigEndian.emod_signed hu]

theorem sgn8_eq_signed (t : Nat) : sgn8 t = signed 256 t := BigEndian.signed_half (h := 128) rfl t

theorem inI8_iff {x : Int} : inI8 x = true ↔ -128 ≤ x ∧ x ≤ 127 := by simp [inI8]

theorem inI64_iff {x : Int} : inI64 x = true ↔ -9223372036854775808 ≤ x ∧ x ≤ 9223372036854775807 := by
  simp [inI64]

theorem sgn8_toU {ty : Int} (h : inI8 ty = true) : sgn8 (toU 256 ty) = ty := by
  rw [inI8_iff] at h
  rw [sgn8_eq_signed]; exact signed_toU (by omega) (by omega)

theorem toU8_lt {ty : Int} (h : inI8 ty = true) : toU 256 ty < 256 := by
  rw [inI8_iff] at h
  exact toU_lt (by omega) (by omega)

theorem toU_sgn8 {t : Nat} (ht : t < 256) : toU 256 (sgn8 t) = t := by
  rw [sgn8_eq_signed]; exact toU_signed ht

theorem s16_be16 {n : Nat} (h : n < 32768) : s16 (n / 256 % 256) (n % 256) = (n : Int) := by
  simp only [s16, be16_val (Nat.lt_trans h (by decide)), if_pos h]

theorem i64?_cons (a b c d e f g h : Nat) :
    i64? [a, b, c, d, e, f, g, h] = some (signed 18446744073709551616 (value [a, b, c, d, e, f, g, h])) := by
  rw [← BigEndian.signed_half (h := 9223372036854775808) rfl]
  simp [i64?, value]

theorem i64?_be64 {x : Int} (h : inI64 x = true) : i64? (be64 (toU 18446744073709551616 x)) = some x := by
  have e : i64? (be64 (toU 18446744073709551616 x)) =
      some (signed 18446744073709551616 (value (be64 (toU 18446744073709551616 x)))) := i64?_cons ..
  rw [inI64_iff] at h
  rw [e, value_be64, Nat.mod_eq_of_lt (toU_lt (by omega) (by omega)), signed_toU (by omega) (by omega)]

theorem u16?_be16 {n : Nat} {r : Bytes} (h : n < 65536) : u16? (be16 n ++ r) = some (n, r) := by
  simp only [be16, u16?, List.cons_append, List.nil_append, be16_val h]

theorem u16?_inv {bs r : Bytes} {n : Nat} (hb : allBytes bs) :
    u16? bs = some (n, r) → bs = be16 n ++ r ∧ allBytes r := by
  fun_cases u16? bs with
  | case1 a b r' =>
    rintro ⟨⟩
    obtain ⟨h2, hr⟩ := (allBytes_append (a := [a, b])).1 hb
    exact ⟨by rw [be16_horner h2]; rfl, hr⟩
  | case2 => nofun

theorem take?_append (b r : Bytes) : take? b.length (b ++ r) = some (b, r) :=
  BigEndian.take_drop_eq_some.2 ⟨rfl, rfl⟩

theorem take?_inv {n : Nat} {bs x r : Bytes} (h : take? n bs = some (x, r)) : bs = x ++ r ∧ x.length = n :=
  BigEndian.take_drop_eq_some.1 h

theorem sized16?_enc {b r : Bytes} (h : b.length < 65536) :
    sized16? (be16 b.length ++ (b ++ r)) = some (b, r) := by
  unfold sized16?
  rw [u16?_be16 h]
  exact take?_append b r

theorem sized16?_inv {bs x r : Bytes} (hb : allBytes bs) :
    sized16? bs = some (x, r) → bs = be16 x.length ++ (x ++ r) ∧ allBytes r := by
  fun_cases sized16? bs with
  | case1 n r' hu =>
    intro h
    obtain ⟨rfl, hr⟩ := u16?_inv hb hu
    obtain ⟨rfl, rfl⟩ := take?_inv h
    exact ⟨rfl, (allBytes_append.1 hr).2⟩
  | case2 => nofun

/-- a length-prefixed pair as the frame description writes it -/
def pairBytes (kv : Bytes × Bytes) : Bytes := be16 kv.1.length ++ (kv.1 ++ (be16 kv.2.length ++ kv.2))

theorem pairs?_enc {ps : List (Bytes × Bytes)} {r : Bytes}
    (hl : ∀ kv ∈ ps, kv.1.length < 65536 ∧ kv.2.length < 65536) :
    pairs? ps.length ((ps.map pairBytes).flatten ++ r) = some (ps, r) := by
  induction ps with
  | nil => rfl
  | cons kv rest ih =>
    obtain ⟨h1, h2⟩ := hl kv List.mem_cons_self
    simp only [List.length_cons, List.map_cons, List.flatten_cons, pairs?, pairBytes, List.append_assoc,
      sized16?_enc h1, sized16?_enc h2, ih fun kv h => hl kv (List.mem_cons_of_mem _ h)]

theorem pairs?_inv {n : Nat} {bs r : Bytes} {ps : List (Bytes × Bytes)} (hb : allBytes bs) :
    pairs? n bs = some (ps, r) → bs = (ps.map pairBytes).flatten ++ r ∧ ps.length = n ∧ allBytes r := by
  fun_induction pairs? n bs generalizing ps with
  | case1 => rintro ⟨⟩; simpa using hb
  | case5 n bs k r1 hk v r2 hv ps' r3 hp ih =>
    rintro ⟨⟩
    obtain ⟨rfl, h1⟩ := sized16?_inv hb hk
    obtain ⟨rfl, h2⟩ := sized16?_inv h1 hv
    obtain ⟨rfl, hlen, h3⟩ := ih h2 hp
    exact ⟨by simp [pairBytes, List.append_assoc], by simp [hlen], h3⟩
  | _ => nofun

theorem skipSized_enc {x r : Bytes} (h : x.length < 32768) : skipSized (be16 x.length ++ (x ++ r)) = .ok r := by
  simp only [be16, List.cons_append, List.nil_append, skipSized, s16_be16 h]
  rw [if_neg (by omega)]
  simp

theorem skipContexts_enc {cs : List (Bytes × Bytes)} (r : Bytes)
    (h : ∀ kv ∈ cs, kv.1.length < 32768 ∧ kv.2.length < 32768) :
    skipContexts cs.length ((cs.map pairBytes).flatten ++ r) = .ok r := by
  induction cs with
  | nil => rfl
  | cons kv rest ih =>
    obtain ⟨h1, h2⟩ := h kv List.mem_cons_self
    simp only [List.length_cons, List.map_cons, List.flatten_cons, skipContexts, readContext, pairBytes,
      List.append_assoc]
    simp only [skipSized_enc h1, skipSized_enc h2]
    exact ih fun kv hkv => h kv (List.mem_cons_of_mem _ hkv)

/-- the Tdispatch body as the frame description writes it -/
def tdispatchBytes (d : Tdispatch) : Bytes :=
  be16 d.ctxs.length ++ ((d.ctxs.map pairBytes).flatten ++
    (be16 d.dst.length ++ (d.dst ++ (be16 d.dtab.length ++ ((d.dtab.map pairBytes).flatten ++ d.payload)))))

theorem parseTdispatch_enc (d : Tdispatch) (hn : d.ctxs.length < 65536)
    (hc : ∀ kv ∈ d.ctxs, kv.1.length < 65536 ∧ kv.2.length < 65536) (hd : d.dst.length < 65536)
    (hm : d.dtab.length < 65536) (ht : ∀ kv ∈ d.dtab, kv.1.length < 65536 ∧ kv.2.length < 65536) :
    parseTdispatch (tdispatchBytes d) = some d := by
  simp only [parseTdispatch, tdispatchBytes, u16?_be16 hn, pairs?_enc hc, sized16?_enc hd, u16?_be16 hm,
    pairs?_enc ht]

theorem parseTdispatch_inv {bs : Bytes} {d : Tdispatch} (hb : allBytes bs) :
    parseTdispatch bs = some d → bs = tdispatchBytes d := by
  fun_cases parseTdispatch bs with
  | case6 n r hn ctxs r1 hc dst r2 hd nd r3 hnd dtab payload ht =>
    rintro ⟨⟩
    obtain ⟨rfl, h0⟩ := u16?_inv hb hn
    obtain ⟨rfl, rfl, h1⟩ := pairs?_inv h0 hc
    obtain ⟨rfl, h2⟩ := sized16?_inv h1 hd
    obtain ⟨rfl, h3⟩ := u16?_inv h2 hnd
    obtain ⟨rfl, rfl, -⟩ := pairs?_inv h3 ht
    simp [tdispatchBytes]
  | _ => nofun

theorem parseTdiscarded_enc {which : Nat} {why : Bytes} (h : which < 16777216) :
    parseTdiscarded (encodeTag which ++ why) = some (which, why) := by
  simp only [encodeTag, parseTdiscarded, List.cons_append, List.nil_append, be24_val h]

theorem writer_cases {ε α : Type} {x : Except ε α} {p : Prop} {c : α} (h : ∀ {a}, x = .ok a ↔ p ∧ a = c) :
    (p ∧ x = .ok c) ∨ (¬p ∧ ∃ e, x = .error e) := by
  cases x with
  | ok a => exact .inl ⟨(h.1 rfl).1, congrArg _ (h.1 rfl).2⟩
  | error e => exact .inr ⟨(nomatch h.2 ⟨·, rfl⟩), e, rfl⟩

/-- Two parts the model writes one after the other.  Applied as a term, with the rest as `fun _ => …`: the model's `match`
    is a constant of its own and agrees with the one in this statement only by unfolding, so `rw` does not find it; for the
    same reason the law is stated for `Except Err Bytes` (the one for any `Except ε α` does not unify). -/
theorem seq_eq_ok {β : Type} {x : Except Err Bytes} {p : Prop} {c : Bytes} {f : Bytes → Except Err β} {b : β}
    {q : Bytes → Prop} : (∀ {a}, x = .ok a ↔ p ∧ a = c) → (∀ a, f a = .ok b ↔ q a) →
      ((match x with | .error e => .error e | .ok a => f a : Except Err β) = .ok b ↔ p ∧ q c) := by
  intro h k
  rcases writer_cases h with ⟨hp, e⟩ | ⟨hp, _, e⟩ <;> simp [hp, e, k]

theorem ok_eq_ok {ε α : Type} {a b : α} : (.ok a : Except ε α) = .ok b ↔ b = a := by
  rw [Except.ok.injEq, eq_comm]

theorem forall₂_eq_ok {α ε β : Type} {w : α → Except ε β} {p : α → Prop} {c : α → β}
    (h : ∀ {a b}, w a = .ok b ↔ p a ∧ b = c a) {as : List α} {bs : List β} :
    List.Forall₂ (fun a b => w a = .ok b) as bs ↔ (∀ a ∈ as, p a) ∧ bs = as.map c := by
  simp only [h, List.forall₂_and_left]
  rw [eq_comm (a := bs), ← List.forall₂_eq_eq_eq, List.forall₂_map_left_iff]
  simp only [eq_comm]

theorem packI8_eq_ok {x : Int} {bs : Bytes} : packI8 x = .ok bs ↔ inI8 x = true ∧ bs = [toU 256 x] := by
  rw [packI8, inI8_iff]; split <;> simp [*, eq_comm]

theorem packI64_eq_ok {x : Int} {bs : Bytes} :
    packI64 x = .ok bs ↔ inI64 x = true ∧ bs = be64 (toU 18446744073709551616 x) := by
  rw [packI64, inI64_iff]; split <;> simp [*, eq_comm]

theorem packLen16_eq_ok {n : Nat} {bs : Bytes} : packLen16 n = .ok bs ↔ n < 32768 ∧ bs = be16 n := by
  rw [packLen16]; split <;> simp [*, eq_comm]

theorem packLen32_eq_ok {n : Nat} {bs : Bytes} : packLen32 n = .ok bs ↔ n < 2147483648 ∧ bs = be32 n := by
  rw [packLen32]; split <;> simp [*, eq_comm]

theorem utf8E_eq_ok {s : Text} {bs : Bytes} : utf8E s = .ok bs ↔ (utf8 s).isSome = true ∧ bs = (utf8 s).getD [] := by
  rw [utf8E]; split <;> simp [*, eq_comm]


/-- the canonical bytes of a frame -/
def encFrame (f : Frame) : Bytes :=
  be32 (4 + f.body.length) ++ ([toU 256 f.ty] ++ encodeTag f.tag) ++ f.body

theorem encFrame_length (f : Frame) : (encFrame f).length = 8 + f.body.length := by
  simp [encFrame, be32, encodeTag]; omega

/-- the frames `parseFrame` reads back -/
def frameOk (f : Frame) : Prop :=
  inI8 f.ty = true ∧ f.tag < 16777216 ∧ 4 + f.body.length < 4294967296

theorem buildHeader_eq_ok {tag : Nat} {ty : Int} {len : Nat} {bs : Bytes} :
    buildHeader tag ty len = .ok bs ↔
      (inI8 ty = true ∧ 4 + len < 2147483648) ∧ bs = be32 (4 + len) ++ ([toU 256 ty] ++ encodeTag tag) := by
  have h4 : 1 + 3 + len = 4 + len := by omega
  rw [buildHeader, h4]
  rcases writer_cases (@packLen32_eq_ok (4 + len)) with ⟨hl, el⟩ | ⟨hl, _, el⟩ <;>
    rcases writer_cases (@packI8_eq_ok ty) with ⟨ht, et⟩ | ⟨ht, _, et⟩ <;> simp [hl, el, ht, et, eq_comm]

theorem frameOf_eq_ok {tag : Nat} {ty : Int} {body bs : Bytes} :
    frameOf tag ty body = .ok bs ↔
      (inI8 ty = true ∧ 4 + body.length < 2147483648) ∧ bs = encFrame ⟨ty, tag, body⟩ :=
  (seq_eq_ok buildHeader_eq_ok fun _ => ok_eq_ok).trans Iff.rfl

theorem parseHeader_enc {tag : Nat} {ty : Int} {n : Nat} (hty : inI8 ty = true)
    (hn : n < 4294967296) (htag : tag < 16777216) :
    parseHeader (be32 n ++ ([toU 256 ty] ++ encodeTag tag)) = some (n, ty, tag) := by
  simp only [be32, encodeTag, parseHeader, List.cons_append, List.nil_append, be32_val hn, be24_val htag,
    sgn8_toU hty]

theorem parseFrame_enc {f : Frame} (h : frameOk f) : parseFrame (encFrame f) = some f := by
  simp only [encFrame, be32, encodeTag, parseFrame, List.cons_append, List.nil_append, be32_val h.2.2,
    be24_val h.2.1, sgn8_toU h.1, if_true]

theorem parseFrame_inv {bs : Bytes} {f : Frame} (hb : allBytes bs) : parseFrame bs = some f → bs = encFrame f := by
  fun_cases parseFrame bs with
  | case1 l0 l1 l2 l3 t a b c body hlen =>
    rintro ⟨⟩
    obtain ⟨h4, hb⟩ := (allBytes_append (a := [l0, l1, l2, l3])).1 hb
    obtain ⟨ht, hb⟩ := (allBytes_append (a := [t])).1 hb
    obtain ⟨h3, _⟩ := (allBytes_append (a := [a, b, c])).1 hb
    rw [encFrame, ← hlen, be32_horner h4, toU_sgn8 (ht t List.mem_cons_self), encodeTag_eq, be24_horner h3]
    rfl
  | _ => nofun

theorem u32?_be32 {n : Nat} {r : Bytes} (h : n < 4294967296) : u32? (be32 n ++ r) = some n := by
  simp only [be32, u32?, List.cons_append, List.nil_append, be32_val h]

theorem splitStreamFuel_encFrame {f : Frame} {rest : Bytes} {fuel : Nat} (h : 4 + f.body.length < 4294967296) :
    splitStreamFuel (fuel + 1) (encFrame f ++ rest) =
      match splitStreamFuel fuel rest with
      | none => none
      | some cs => some (encFrame f :: cs) := by
  have hne : (encFrame f ++ rest).isEmpty = false := by simp [encFrame, be32]
  have hu : u32? (encFrame f ++ rest) = some (4 + f.body.length) := by
    rw [encFrame, List.append_assoc, List.append_assoc]; exact u32?_be32 h
  have ht : take? (4 + (4 + f.body.length)) (encFrame f ++ rest) = some (encFrame f, rest) := by
    rw [← Nat.add_assoc]
    exact encFrame_length f ▸ take?_append (encFrame f) rest
  rw [splitStreamFuel]
  simp only [hne, hu, ht, Bool.false_eq_true, if_false, Nat.not_lt.2 (Nat.le_add_right 4 _)]
  cases splitStreamFuel fuel rest <;> rfl

theorem splitStreamFuel_nil (fuel : Nat) : splitStreamFuel fuel [] = some [] := by
  cases fuel <;> simp [splitStreamFuel]

/-- the length prefix makes the frames a prefix code -/
theorem splitStreamFuel_frames (fs : List Frame) : ∀ (fuel : Nat), (∀ f ∈ fs, 4 + f.body.length < 4294967296) →
    (fs.map encFrame).flatten.length ≤ fuel → splitStreamFuel fuel (fs.map encFrame).flatten = some (fs.map encFrame) := by
  induction fs with
  | nil => intro fuel _ _; exact splitStreamFuel_nil fuel
  | cons f fs ih =>
    intro fuel hok hlen
    simp only [List.map_cons, List.flatten_cons, List.length_append, encFrame_length] at hlen ⊢
    obtain ⟨fuel', rfl⟩ : ∃ k, fuel = k + 1 := ⟨fuel - 1, by omega⟩
    rw [splitStreamFuel_encFrame (hok f List.mem_cons_self),
      ih fuel' (fun g hg => hok g (List.mem_cons_of_mem _ hg)) (by omega)]

theorem splitStream_frames {fs : List Frame} (h : ∀ f ∈ fs, 4 + f.body.length < 4294967296) :
    splitStream (fs.map encFrame).flatten = some (fs.map encFrame) :=
  splitStreamFuel_frames fs _ h (Nat.le_refl _)

theorem parseFrames_enc {fs : List Frame} (h : ∀ f ∈ fs, frameOk f) :
    parseFrames (fs.map encFrame) = some fs := by
  induction fs with
  | nil => rfl
  | cons f fs ih =>
    simp only [List.map_cons, parseFrames, parseFrame_enc (h f List.mem_cons_self),
      ih (fun g hg => h g (List.mem_cons_of_mem _ hg))]

theorem parseStream_enc {fs : List Frame} (h : ∀ f ∈ fs, frameOk f) :
    parseStream ((fs.map encFrame).flatten) = some fs := by
  simp only [parseStream, splitStream_frames fun f hf => (h f hf).2.2]
  exact parseFrames_enc h

theorem splitStreamFuel_inv {fuel : Nat} {bs : Bytes} {cs : List Bytes} :
    splitStreamFuel fuel bs = some cs → bs = cs.flatten := by
  fun_induction splitStreamFuel fuel bs generalizing cs with
  | case1 bs he | case3 fuel bs he => rintro ⟨⟩; simpa using he
  | case8 fuel bs _ n _ _ chunk rest ht cs' hs ih =>
    rintro ⟨⟩
    rw [List.flatten_cons, ← ih hs]
    exact (take?_inv ht).1
  | _ => nofun

theorem parseFrames_inv {cs : List Bytes} {fs : List Frame} (hb : allBytes cs.flatten) :
    parseFrames cs = some fs → cs = fs.map encFrame := by
  fun_induction parseFrames cs generalizing fs with
  | case1 => rintro ⟨⟩; rfl
  | case2 c cs f fs' hfs hf ih =>
    rintro ⟨⟩
    obtain ⟨hc, hcs⟩ := allBytes_append.1 hb
    rw [List.map_cons, ← ih hcs hfs, ← parseFrame_inv hc hf]
  | _ => nofun

theorem parseStream_inv {bs : Bytes} {fs : List Frame} (hb : allBytes bs) :
    parseStream bs = some fs → bs = (fs.map encFrame).flatten := by
  fun_cases parseStream bs with
  | case1 => nofun
  | case2 cs hs =>
    intro h
    obtain rfl := splitStreamFuel_inv hs
    rw [parseFrames_inv hb h]

/-- Unicode scalar values: below U+110000 and not a surrogate -/
def isScalar (c : Nat) : Bool := decide (c < 1114112) && !(decide (55296 ≤ c) && decide (c < 57344))

theorem utf8Char_isSome (c : Nat) : (utf8Char c).isSome = isScalar c := by
  -- in each of the six branches of `utf8Char` the guards on `c` decide `isScalar c`
  fun_cases utf8Char c <;> simp [isScalar] <;> omega

theorem utf8_isSome_iff (s : List Nat) : (utf8 s).isSome = s.all isScalar := by
  induction s with
  | nil => rfl
  | cons c cs ih =>
    simp only [utf8, List.all_cons, ← ih, ← utf8Char_isSome]
    cases utf8Char c <;> cases utf8 cs <;> rfl

theorem isCont_enc {r : Nat} (h : r < 64) : isCont (128 + r) = true := by
  simp only [isCont, Bool.and_eq_true, decide_eq_true_eq]; omega

/-! the strict decoder on a well-formed sequence of 2, 3, 4 bytes: lead byte `192 + q`, `224 + q`,
    `240 + q`, then six bits of `c` in each continuation byte -/

theorem utf8Step_two {c q r : Nat} (rest : Bytes) (hc : c = q * 64 + r) (hq : 2 ≤ q) (hq' : q < 32) (hr : r < 64) :
    utf8Step ((192 + q) :: (128 + r) :: rest) = some (c, rest) := by
  rw [utf8Step, if_neg (by omega), if_neg (by omega), if_pos (by omega)]
  simp only [isCont_enc hr, Nat.add_sub_cancel_left, if_true, hc]

theorem utf8Step_three {c q r s : Nat} (rest : Bytes) (hc : c = q * 4096 + r * 64 + s) (hq : q < 16) (hr : r < 64)
    (hs : s < 64) (hv : 2048 ≤ c) (hsur : c < 55296 ∨ 57344 ≤ c) :
    utf8Step ((224 + q) :: (128 + r) :: (128 + s) :: rest) = some (c, rest) := by
  rw [utf8Step, if_neg (by omega), if_neg (by omega), if_neg (by omega), if_pos (by omega)]
  simp only [isCont_enc hr, isCont_enc hs, Nat.add_sub_cancel_left, Bool.true_and, ← hc]
  rw [if_pos (by simp [hv, hsur])]

theorem utf8Step_four {c q r s t : Nat} (rest : Bytes) (hc : c = q * 262144 + r * 4096 + s * 64 + t) (hq : q < 5)
    (hr : r < 64) (hs : s < 64) (ht : t < 64) (hv : 65536 ≤ c) (hv' : c < 1114112) :
    utf8Step ((240 + q) :: (128 + r) :: (128 + s) :: (128 + t) :: rest) = some (c, rest) := by
  rw [utf8Step, if_neg (by omega), if_neg (by omega), if_neg (by omega), if_neg (by omega), if_pos (by omega)]
  simp only [isCont_enc hr, isCont_enc hs, isCont_enc ht, Nat.add_sub_cancel_left, Bool.true_and, ← hc]
  rw [if_pos (by simp [hv, hv'])]

/-- the encoder writes the base-64 digits of `c` into such a sequence -/
theorem utf8Step_char {c : Nat} {a : Bytes} (rest : Bytes) : utf8Char c = some a →
    utf8Step (a ++ rest) = some (c, rest) := by
  have h64 (n : Nat) : n % 64 < 64 := Nat.mod_lt n (by decide)
  fun_cases utf8Char c with
  | case1 h1 => rintro ⟨⟩; exact if_pos h1
  | case2 h1 h2 =>
    rintro ⟨⟩
    exact utf8Step_two rest (Nat.div_add_mod' c 64).symm (by omega) (Nat.div_lt_of_lt_mul h2) (h64 c)
  | case4 h1 h2 h3 hs =>
    rintro ⟨⟩
    refine utf8Step_three rest ?_ (Nat.div_lt_of_lt_mul h3) (h64 _) (h64 c) (by omega) (by omega)
    rw [Nat.add_assoc, mod_digit c 64 64, Nat.div_add_mod' c 4096]
  | case5 h1 h2 h3 h4 =>
    rintro ⟨⟩
    refine utf8Step_four rest ?_ (Nat.div_lt_of_lt_mul (Nat.lt_trans h4 (by decide))) (h64 _) (h64 _) (h64 c)
      (by omega) h4
    rw [Nat.add_assoc, Nat.add_assoc, mod_digit c 64 64, mod_digit c 4096 64, Nat.div_add_mod' c 262144]
  | _ => nofun

/-- a code point takes at least one byte: the decoder gets it back from them -/
theorem utf8Char_ne_nil {c : Nat} {a : Bytes} (h : utf8Char c = some a) : a ≠ [] := by
  rintro rfl
  cases utf8Step_char [] h

theorem utf8DecodeFuel_step {bs r : Bytes} {c f : Nat} (h : utf8Step bs = some (c, r)) :
    utf8DecodeFuel (f + 1) bs = (utf8DecodeFuel f r).map (c :: ·) := by
  cases bs with
  | nil => cases h
  | cons b bs => simp only [utf8DecodeFuel, h]

theorem utf8DecodeFuel_enc (s : List Nat) : ∀ (bs : Bytes) (f : Nat), utf8 s = some bs → bs.length ≤ f →
    utf8DecodeFuel f bs = some s := by
  fun_induction utf8 s with
  | case1 => rintro _ f ⟨⟩ _; cases f <;> rfl
  | case2 c cs a b hb ha ih =>
    rintro _ f ⟨⟩ hf
    have := List.length_pos_iff.2 (utf8Char_ne_nil ha)
    rw [List.length_append] at hf
    obtain ⟨f, rfl⟩ := Nat.exists_eq_succ_of_ne_zero (show f ≠ 0 by omega)
    rw [utf8DecodeFuel_step (utf8Step_char b ha), ih b f hb (by omega)]
    rfl
  | case3 => nofun

theorem utf8Decode_enc {s : List Nat} {bs : Bytes} (h : utf8 s = some bs) : utf8Decode bs = some s :=
  utf8DecodeFuel_enc s bs bs.length h (Nat.le_refl _)

theorem textOk_iff {s : Text} : textOk s = true ↔ (utf8 s).isSome = true ∧ ((utf8 s).getD []).length < 32768 := by
  unfold textOk; split <;> simp [*]

theorem writeVal_eq_ok {v : CtxVal} {bs : Bytes} :
    writeVal v = .ok bs ↔ valOk v = true ∧ bs = be16 ((rawVal v).getD []).length ++ (rawVal v).getD [] := by
  cases v with
  | other => simp [writeVal, valOk]
  | text s =>
    exact (seq_eq_ok utf8E_eq_ok fun _ => seq_eq_ok packLen16_eq_ok fun _ => ok_eq_ok).trans
      (by simp [valOk, textOk_iff, rawVal, and_assoc])
  | deadline ts timeout =>
    simp only [writeVal, valOk, rawVal]
    rcases writer_cases (@packI64_eq_ok ts) with ⟨h1, e1⟩ | ⟨h1, _, e1⟩ <;>
      rcases writer_cases (@packI64_eq_ok timeout) with ⟨h2, e2⟩ | ⟨h2, _, e2⟩ <;>
        simp [h1, e1, h2, e2, eq_comm, be64_length]

theorem writeEntry_eq_ok {k : Text} {v : CtxVal} {bs : Bytes} :
    writeEntry k v = .ok bs ↔ entryOk (k, v) = true ∧ bs = pairBytes (rawEntry (k, v)) :=
  (seq_eq_ok utf8E_eq_ok fun _ => seq_eq_ok packLen16_eq_ok fun _ => seq_eq_ok writeVal_eq_ok fun _ =>
    ok_eq_ok).trans (by simp [entryOk, textOk_iff, rawEntry, pairBytes, and_assoc])

theorem writeEntries_eq_ok {d : Dict} {bs : Bytes} :
    writeEntries d = .ok bs ↔ d.all entryOk = true ∧ bs = ((d.map rawEntry).map pairBytes).flatten := by
  induction d generalizing bs with
  | nil => simp [writeEntries, eq_comm]
  | cons kv rest ih =>
    exact (seq_eq_ok writeEntry_eq_ok fun _ => seq_eq_ok ih fun _ => ok_eq_ok).trans (by simp [and_assoc])

def ctxBytes (d : Dict) : Bytes := be16 d.length ++ ((d.map rawEntry).map pairBytes).flatten

theorem writeContext_eq_ok {d : Dict} {bs : Bytes} :
    writeContext d = .ok bs ↔ dictOk d = true ∧ bs = ctxBytes d :=
  (seq_eq_ok packLen16_eq_ok fun _ => seq_eq_ok writeEntries_eq_ok fun _ => ok_eq_ok).trans
    (by simp [dictOk, ctxBytes, and_assoc])

theorem entryOk_raw {kv : Text × CtxVal} (h : entryOk kv = true) :
    (utf8 kv.1 = some (rawEntry kv).1 ∧ rawVal kv.2 = some (rawEntry kv).2) ∧
      (rawEntry kv).1.length < 32768 ∧ (rawEntry kv).2.length < 32768 := by
  obtain ⟨k, v⟩ := kv
  simp only [entryOk, Bool.and_eq_true] at h
  obtain ⟨hk, hl⟩ := textOk_iff.1 h.1
  obtain ⟨b, hb⟩ := Option.isSome_iff_exists.1 hk
  cases v with
  | other => cases h.2
  | deadline ts timeout => simpa [rawEntry, rawVal, hb, be64_length] using hl
  | text s =>
    obtain ⟨hs, hl'⟩ := textOk_iff.1 h.2
    obtain ⟨b', hb'⟩ := Option.isSome_iff_exists.1 hs
    simpa [rawEntry, rawVal, hb, hb'] using And.intro hl hl'

theorem pairBytes_length (kv : Bytes × Bytes) : (pairBytes kv).length = 4 + kv.1.length + kv.2.length := by
  simp [pairBytes, be16_length]; omega

theorem ctxBytes_length (d : Dict) : (ctxBytes d).length = 2 + (d.map entrySize).sum := by
  have e : List.length ∘ pairBytes ∘ rawEntry = entrySize := funext fun kv => pairBytes_length _
  simp [ctxBytes, be16_length, e]

def Dict.keys (d : Dict) : List Text := d.map Prod.fst

theorem Dict.keys_set (d : Dict) (k : Text) (v : CtxVal) :
    (d.set k v).keys = if k ∈ d.keys then d.keys else d.keys ++ [k] := by
  induction d with
  | nil => simp [Dict.set, Dict.keys]
  | cons kv rest ih => grind [Dict.set, Dict.keys]

theorem Dict.nodup_set (d : Dict) (k : Text) (v : CtxVal) (h : d.keys.Nodup) : (d.set k v).keys.Nodup := by
  rw [Dict.keys_set]
  split
  · exact h
  · exact List.nodup_append.2 ⟨h, List.nodup_singleton k, by grind⟩

theorem Dict.get?_set (d : Dict) (k : Text) (v : CtxVal) (k' : Text) :
    (d.set k v).get? k' = if k = k' then some v else d.get? k' := by
  induction d with
  | nil => simp [Dict.set, Dict.get?]
  | cons kv rest ih => grind [Dict.set, Dict.get?]

theorem Dict.nodup_update (xs : List (Text × CtxVal)) : ∀ (d : Dict), d.keys.Nodup → (d.update xs).keys.Nodup := by
  induction xs with
  | nil => intro d h; exact h
  | cons x xs ih => intro d h; exact ih _ (Dict.nodup_set d x.1 x.2 h)

theorem Dict.get?_update (xs : List (Text × CtxVal)) : ∀ (d : Dict) (k : Text),
    (d.update xs).get? k = match lastAssign xs k with | some v => some v | none => d.get? k := by
  induction xs with
  | nil => intro d k; rfl
  | cons x xs ih =>
    intro d k
    obtain ⟨k0, v0⟩ := x
    simp only [Dict.update, List.foldl_cons] at ih ⊢
    rw [ih]
    simp only [lastAssign]
    cases lastAssign xs k with
    | some w => rfl
    | none =>
      simp only [Dict.get?_set]
      by_cases hk : k0 = k <;> simp [hk]

theorem Dict.get?_eq_none (d : Dict) (k : Text) : d.get? k = none ↔ k ∉ d.keys := by
  induction d with
  | nil => simp [Dict.get?, Dict.keys]
  | cons kv rest ih => grind [Dict.get?, Dict.keys]

theorem lastAssign_eq_get? (d : Dict) (h : d.keys.Nodup) (k : Text) : lastAssign d k = d.get? k := by
  induction d with
  | nil => rfl
  | cons kv rest ih =>
    obtain ⟨k0, v0⟩ := kv
    simp only [Dict.keys, List.map_cons, List.nodup_cons] at h
    simp only [lastAssign, Dict.get?]
    rw [ih h.2]
    by_cases hk : k0 = k
    · subst hk
      have : Dict.get? rest k0 = none := (Dict.get?_eq_none rest k0).2 h.1
      simp [this]
    · simp only [hk, if_false]
      cases Dict.get? rest k <;> rfl

theorem publicProps_get? (d : Dict) (k : Text) :
    (publicProps d).get? k = if isPrivate k then none else d.get? k := by
  induction d with
  | nil => simp [publicProps, Dict.get?]
  | cons kv rest ih => grind [publicProps, Dict.get?]

theorem publicProps_nodup (d : Dict) (h : d.keys.Nodup) : (publicProps d).keys.Nodup := by
  unfold publicProps Dict.keys at *
  exact List.Nodup.sublist (List.Sublist.map _ List.filter_sublist) h

theorem dispatchCtx_nodup (props hdrs : List (Text × CtxVal)) : (dispatchCtx props hdrs).keys.Nodup := by
  unfold dispatchCtx
  apply Dict.nodup_update
  apply Dict.nodup_update
  simp [Dict.keys]

theorem dispatchCtx_get? (props hdrs : List (Text × CtxVal)) (k : Text) :
    (dispatchCtx props hdrs).get? k = want props hdrs k := by
  have hn : ∀ xs : List (Text × CtxVal), (Dict.update [] xs).keys.Nodup :=
    fun xs => Dict.nodup_update xs [] (by simp [Dict.keys])
  have hg : ∀ (xs : List (Text × CtxVal)) (k : Text), (Dict.update [] xs).get? k = lastAssign xs k := by
    intro xs k
    rw [Dict.get?_update]
    cases lastAssign xs k <;> rfl
  unfold dispatchCtx want
  rw [Dict.get?_update, lastAssign_eq_get? _ (hn hdrs), hg hdrs]
  cases lastAssign hdrs k with
  | some v => rfl
  | none =>
    simp only
    rw [hg, lastAssign_eq_get? _ (publicProps_nodup _ (hn props)), publicProps_get?, hg]

/-- type byte and body of an in-domain message -/
def bodyOf : Msg → Int × Bytes
  | .call props hdrs payload => (tDispatch, ctxBytes (dispatchCtx props hdrs) ++ ([0, 0, 0, 0] ++ payload))
  | .discard which reason => (tDiscarded, encodeTag which ++ (utf8 reason).getD [])
  | .ping => (tPing, [])

def frameOfItem (it : Nat × Msg) : Frame := ⟨(bodyOf it.2).1, it.1, (bodyOf it.2).2⟩

theorem bodyOf_length (m : Msg) : (bodyOf m).2.length = bodySize m := by
  cases m with
  | call props hdrs payload => simp [bodyOf, bodySize, ctxBytes_length]; omega
  | discard which reason => simp [bodyOf, bodySize, encodeTag]; omega
  | ping => rfl

theorem bodyOf_type (m : Msg) : inI8 (bodyOf m).1 = true := by
  cases m <;> rfl

/-- the messages `Marshal` accepts -/
def marshalOk : Msg → Prop
  | .call props hdrs _ => dictOk (dispatchCtx props hdrs) = true
  | .discard _ reason => (utf8 reason).isSome = true
  | .ping => False

theorem marshal_eq_ok {m : Msg} {tb : Int × Bytes} : marshal m = .ok tb ↔ marshalOk m ∧ tb = bodyOf m := by
  cases m with
  | call props hdrs payload => exact seq_eq_ok writeContext_eq_ok fun _ => ok_eq_ok
  | discard which reason => exact seq_eq_ok utf8E_eq_ok fun _ => ok_eq_ok
  | ping => simp [marshal, marshalOk]

/-- the messages written to the connection at all: a ping, or whatever `Marshal` accepts, of a size that
    fits the length prefix.  (`Msg.inDomain` adds only the bound on the discarded tag, which the code masks.) -/
def written (m : Msg) : Prop := (m = .ping ∨ marshalOk m) ∧ 4 + (bodyOf m).2.length < 2147483648

theorem wire_eq_ok {tag : Nat} {m : Msg} {bs : Bytes} :
    wire tag m = .ok bs ↔ written m ∧ bs = encFrame (frameOfItem (tag, m)) := by
  have hf (m : Msg) : frameOf tag (bodyOf m).1 (bodyOf m).2 = .ok bs ↔
      4 + (bodyOf m).2.length < 2147483648 ∧ bs = encFrame (frameOfItem (tag, m)) := by
    rw [frameOf_eq_ok, bodyOf_type, frameOfItem]; simp
  fun_cases wire tag m with
  | case1 => simp only [written, true_or, true_and]; exact hf .ping
  | case2 m hp e he =>
    exact ⟨nofun, fun h => (h.1.1.elim hp fun hm => nomatch he.symm.trans (marshal_eq_ok.2 ⟨hm, rfl⟩)).elim⟩
  | case3 m hp ty body he =>
    obtain ⟨h, e⟩ := marshal_eq_ok.1 he
    obtain ⟨rfl, rfl⟩ := Prod.ext_iff.1 e
    simpa [written, h] using hf m

theorem inDomain_written {m : Msg} (h : m.inDomain = true) : written m := by
  cases m <;> simp_all [Msg.inDomain, written, marshalOk, bodyOf_length]

theorem inDomain_call {props hdrs : List (Text × CtxVal)} {payload : Bytes}
    (h : (Msg.call props hdrs payload).inDomain = true) : dictOk (dispatchCtx props hdrs) = true := by
  simp only [Msg.inDomain, Bool.and_eq_true] at h
  exact h.2

theorem inDomain_discard {which : Nat} {reason : Text} (h : (Msg.discard which reason).inDomain = true) :
    which < 16777216 ∧ ∃ r, utf8 reason = some r := by
  simp only [Msg.inDomain, Bool.and_eq_true, decide_eq_true_eq, Option.isSome_iff_exists] at h
  exact h.2

theorem wire_ok (tag : Nat) {m : Msg} (h : m.inDomain = true) :
    wire tag m = .ok (encFrame (frameOfItem (tag, m))) :=
  wire_eq_ok.2 ⟨inDomain_written h, rfl⟩

theorem itemOk_iff {it : Nat × Msg} : itemOk it = true ↔ it.2.inDomain = true ∧ it.1 < 16777216 := by
  simp [itemOk]

theorem items_all_ok {items : List (Nat × Msg)}
    (h : ∀ it ∈ items, it.2.inDomain = true ∧ it.1 < 16777216) : items.all itemOk = true :=
  List.all_eq_true.2 fun it hit => itemOk_iff.2 (h it hit)

theorem frameOfItem_ok {it : Nat × Msg} (h : itemOk it = true) : frameOk (frameOfItem it) :=
  ⟨bodyOf_type _, (itemOk_iff.1 h).2, Nat.lt_trans (inDomain_written (itemOk_iff.1 h).1).2 (by decide)⟩

theorem frameOfItem_all_ok {items : List (Nat × Msg)} (h : items.all itemOk = true) :
    ∀ f ∈ items.map frameOfItem, frameOk f := by
  intro f hf
  obtain ⟨it, hit, rfl⟩ := List.mem_map.1 hf
  exact frameOfItem_ok (List.all_eq_true.1 h it hit)

theorem parseTdispatch_call {d : Dict} (payload : Bytes) (h : dictOk d = true) :
    parseTdispatch (ctxBytes d ++ ([0, 0, 0, 0] ++ payload)) = some ⟨d.map rawEntry, [], [], payload⟩ := by
  have e : ctxBytes d ++ ([0, 0, 0, 0] ++ payload) = tdispatchBytes ⟨d.map rawEntry, [], [], payload⟩ := by
    simp [ctxBytes, tdispatchBytes, be16]
  simp only [dictOk, Bool.and_eq_true, decide_eq_true_eq, List.all_eq_true] at h
  rw [e]
  refine parseTdispatch_enc _ (by simp; omega) ?_ (by simp) (by simp) (by simp)
  intro kv hkv
  obtain ⟨x, hx, rfl⟩ := List.mem_map.1 hkv
  have := (entryOk_raw (h.2 x hx)).2
  omega

theorem checkBody_bodyOf (idx : Nat) {m : Msg} (h : m.inDomain = true) :
    checkBody idx m (bodyOf m).1 (bodyOf m).2 = .ok := by
  cases m with
  | call props hdrs payload =>
    simp only [checkBody, bodyOf, parseTdispatch_call payload (inDomain_call h), expectedCtx]
    have hp : ((dispatchCtx props hdrs).map rawEntry).isPerm ((dispatchCtx props hdrs).map rawEntry) = true :=
      List.isPerm_iff.2 (List.Perm.refl _)
    simp [hp]
  | discard which reason =>
    obtain ⟨hw, r, hr⟩ := inDomain_discard h
    simp [checkBody, bodyOf, hr, parseTdiscarded_enc hw]
  | ping => simp [checkBody, bodyOf]

theorem decodeWire_item {it : Nat × Msg} (h : itemOk it = true) :
    decodeWire (encFrame (frameOfItem it)) = some (expectedOf it.1 it.2) := by
  obtain ⟨tag, m⟩ := it
  have hd := (itemOk_iff.1 h).1
  -- `rw`, not `unfold`: after `unfold` the kernel evaluates `_ * 16777216` on the frame's bytes in unary
  rw [decodeWire, parseFrame_enc (frameOfItem_ok h)]
  cases m with
  | call props hdrs payload =>
    simp only [frameOfItem, bodyOf, tDispatch, if_true, parseTdispatch_call payload (inDomain_call hd), expectedOf,
      expectedCtx]
  | discard which reason =>
    obtain ⟨hw, r, hr⟩ := inDomain_discard hd
    simp [frameOfItem, bodyOf, tDiscarded, hr, parseTdiscarded_enc hw, expectedOf]
  | ping => simp [frameOfItem, bodyOf, tPing, expectedOf]

theorem decode_items {items : List (Nat × Msg)} (h : items.all itemOk = true) :
    ((items.map frameOfItem).map encFrame).map decodeWire = items.map (fun it => some (expectedOf it.1 it.2)) := by
  induction items with
  | nil => rfl
  | cons it items ih =>
    simp only [List.all_cons, Bool.and_eq_true] at h
    rw [List.map_cons, List.map_cons, List.map_cons, List.map_cons, decodeWire_item h.1, ih h.2]

theorem checkFrame_item (idx : Nat) {it : Nat × Msg} (h : itemOk it = true) :
    checkFrame idx it.1 it.2 (encFrame (frameOfItem it)) = .ok := by
  rw [checkFrame, parseFrame_enc (frameOfItem_ok h)]
  simp only [frameOfItem, ne_eq, not_true_eq_false, if_false]
  exact checkBody_bodyOf idx (itemOk_iff.1 h).1

theorem streamOf_ok {items : List (Nat × Msg)} (h : items.all itemOk = true) :
    streamOf items = ((items.map frameOfItem).map encFrame).flatten := by
  induction items with
  | nil => rfl
  | cons it items ih =>
    simp only [List.all_cons, Bool.and_eq_true] at h
    simp only [streamOf, wire_ok it.1 (itemOk_iff.1 h.1).1, ih h.2, List.map_cons, List.flatten_cons]

theorem splitStream_streamOf {items : List (Nat × Msg)} (hall : items.all itemOk = true) :
    splitStream (streamOf items) = some ((items.map frameOfItem).map encFrame) := by
  rw [streamOf_ok hall]
  exact splitStream_frames fun f hf => (frameOfItem_all_ok hall f hf).2.2

theorem takeMatch_head (idx : Nat) {it : Nat × Msg} (rest : List (Nat × Msg)) (h : itemOk it = true) :
    takeMatch idx (frameOfItem it) (it :: rest) = some rest := by
  simp only [takeMatch, frameOfItem, checkBody_bodyOf idx (itemOk_iff.1 h).1, Verdict.isOk, and_self, if_true]

theorem matchFrames_items (idx : Nat) {items : List (Nat × Msg)} (h : items.all itemOk = true) :
    matchFrames idx (items.map frameOfItem) items = .ok := by
  induction items with
  | nil => rfl
  | cons it items ih =>
    simp only [List.all_cons, Bool.and_eq_true] at h
    simp only [List.map_cons, matchFrames, takeMatch_head idx items h.1]
    exact ih h.2

theorem checkStream_model (idx : Nat) {items : List (Nat × Msg)} (h : items.all itemOk = true) :
    checkStream idx items (.bytes (streamOf items)) = .ok := by
  simp only [checkStream, streamOf_ok h, parseStream_enc (frameOfItem_all_ok h)]
  exact matchFrames_items idx h

/-- the reply-header reader on `type:1 tag:3`: `header >> 24` and `(header << 8 & 0xffffffff) >> 8`
    of the int32 `s * 2^24 + t` are the signed `s` and the 24-bit `t` -/
theorem readHeader_arith (s t : Int) (h0 : 0 ≤ t) (h1 : t < 16777216) :
    (s * 16777216 + t) / 16777216 = s ∧ (s * 16777216 + t) * 256 % 4294967296 / 256 = t := by omega

/-- `unpack('!i')` of the type byte `b0` followed by the 24-bit tag `t` -/
theorem header_int {b0 t : Nat} (h0 : b0 < 256) (ht : t < 16777216) :
    (if b0 * 16777216 + t < 2147483648 then ((b0 * 16777216 + t : Nat) : Int)
      else ((b0 * 16777216 + t : Nat) : Int) - 4294967296) = sgn8 b0 * 16777216 + t := by
  unfold sgn8; split <;> split <;> omega

theorem readHeader_eq (b0 b1 b2 b3 : Nat) (rest : Bytes) (h0 : b0 < 256) (h1 : b1 < 256)
    (h2 : b2 < 256) (h3 : b3 < 256) :
    readHeader (b0 :: b1 :: b2 :: b3 :: rest) = .ok (sgn8 b0, b1 * 65536 + b2 * 256 + b3) := by
  have ht : b1 * 65536 + b2 * 256 + b3 < 16777216 := by omega
  obtain ⟨e1, e2⟩ := readHeader_arith (sgn8 b0) ↑(b1 * 65536 + b2 * 256 + b3) (Int.natCast_nonneg _) (by omega)
  have ha : b0 * 16777216 + b1 * 65536 + b2 * 256 + b3 = b0 * 16777216 + (b1 * 65536 + b2 * 256 + b3) := by omega
  simp only [readHeader, ha, header_int h0 ht, e1, e2, Int.toNat_natCast]

theorem specObs_run (idx : Nat) (op : Op) : specObs idx op (run op) = .ok := by
  generalize ho : run op = o
  fun_cases specObs idx op o with
  | case1 tag ty len hg =>
    simp only [Bool.and_eq_true, decide_eq_true_eq] at hg
    obtain ⟨⟨hty, htag⟩, hlen⟩ := hg
    simp only [← ho, run, buildHeader_eq_ok.2 ⟨⟨hty, hlen⟩, rfl⟩, obsBytes, checkHdr,
      parseHeader_enc hty (Nat.lt_trans hlen (by decide)) htag, if_true]
  | case3 b ty tag hp hall =>
    subst ho
    match b, hp, hall with
    | b0 :: b1 :: b2 :: b3 :: rest, hp, hall =>
      simp only [List.all_cons, Bool.and_eq_true, decide_eq_true_eq] at hall
      simp only [parseHead, Option.some.injEq, Prod.mk.injEq] at hp
      simp only [run, readHeader_eq b0 b1 b2 b3 rest hall.1 hall.2.1 hall.2.2.1 hall.2.2.2.1, hp.1, hp.2,
        checkRdhdr, and_self, if_true]
  | case6 m hg =>
    simp only [Bool.and_eq_true, bne_iff_ne, ne_eq] at hg
    simp only [← ho, run, marshal_eq_ok.2 ⟨(inDomain_written hg.1).1.resolve_left hg.2, rfl⟩, checkMarshal]
    exact checkBody_bodyOf idx hg.1
  | case8 tag m hg =>
    have hg : itemOk (tag, m) = true := hg
    simp only [← ho, run, wire_ok tag (itemOk_iff.1 hg).1, obsBytes, checkWire]
    exact checkFrame_item idx hg
  | case10 items hg => exact ho ▸ checkStream_model idx hg
  | _ => rfl
theorem specGo_trace (ops : List Op) : ∀ idx, specGo idx (comp.trace () () ops) = .ok := by
  induction ops with
  | nil => intro idx; rfl
  | cons op ops ih =>
    intro idx
    rw [comp.trace_cons step, specGo]
    exact Verdict.and_ok (specObs_run idx op) (ih (idx + 1))

end Scales.MuxCodec
