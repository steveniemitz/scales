import ScalesModel.Proofs.ApertureHeap
import ScalesModel.Proofs.LBSpec
import ScalesModel.Proofs.LBGate
import ScalesModel.Proofs.VerdictLemmas
import ScalesModel.Adapter.ApertureHeap

/-!
  C03/C04 on the balancers behind base.py's gate (components `aperture3`, `aperture4`,
  Adapter/ApertureHeap.lean): the heap invariant `HInv` holds after every operation of every legal
  operation list with fewer than 2^31−1 dispatches; the judge's state (`A3`) is the state of the model (`Sim3`); the
  executable specifications `specC03A`, `specC04A` hold on every history of the model.
-/
namespace Scales.LB
open Scales.Heap Scales.Aperture Scales.LBBase

theorem newReqs_filter_eq (l : List ResV) : newReqs (l.filter (· = .queued)) = [] := by
  unfold newReqs
  rw [List.filterMap_filter, List.filterMap_eq_nil_iff]
  intro r _
  cases r <;> rfl

theorem get_len (cfg : Cfg) (a : AS) (h0 : a.hs.size ≠ 0) :
    (a.get cfg).1.hs.reqs.length = a.hs.reqs.length + 1 := by
  rw [get_newReqs, get_of_members cfg a h0, List.length_append]
  rfl

theorem reqsPut_length (reqs : List (Nat × Bool)) (op : Op) : (reqsPut reqs op).length = reqs.length := by
  unfold reqsPut
  split
  · split
    · exact List.length_set
    · rfl
  · rfl

theorem step_reqs_mono (cfg : Cfg) (lb : St) (op : Op) :
    lb.sub.hs.reqs.length ≤ (stepSt cfg lb op).1.sub.hs.reqs.length := by
  rw [step_newReqs, List.length_append, reqsPut_length]
  exact Nat.le_add_right _ _

theorem run_reqs_mono (cfg : Cfg) (ops : List Op) : ∀ (lb : St),
    lb.sub.hs.reqs.length ≤ (runSt cfg lb ops).sub.hs.reqs.length := by
  induction ops with
  | nil => intro lb; exact le_refl _
  | cons op ops ih => intro lb; exact le_trans (step_reqs_mono cfg lb op) (ih _)

/-! Requests that timed out while they waited for the open result: `flush` drops them (C12's gate clause,
  Proofs/LBGate.lean), so on a history of the model no dispatch is entered as completed: the table the judges
  rebuild (`newReqsQ`) is `newReqs` of the results. -/

theorem lateReqs_of_dropOk : ∀ (q : List (Option Bool)) (rs : List ResV), dropOk q rs = true →
    lateReqs q rs = newReqs rs
  | [], rs, _ => by unfold lateReqs; rfl
  | _ :: _, [], _ => by unfold lateReqs; rfl
  | e :: q, r :: rs, h => by
    rw [dropOk, Bool.and_eq_true, Bool.or_eq_true, decide_eq_true_eq] at h
    have ih := lateReqs_of_dropOk q rs h.2
    unfold lateReqs
    rw [ih]
    cases r with
    | node id ep d =>
      rcases h.1 with hl | hd
      · rw [hl]; rfl
      · cases hd
    | _ => rfl

theorem newReqsQ_of_gate (idx : Nat) (q : List (Option Bool)) (o : Obs) (h : gateAt 1 idx q o = .ok) :
    newReqsQ q o = newReqs o.res := by
  unfold newReqsQ
  by_cases hc : (o.queued == 0 && !q.isEmpty) = true
  · rw [if_pos hc]
    unfold gateAt at h
    rw [if_pos hc] at h
    have hd : dropOk q o.flushed = true := by
      cases hd : dropOk q o.flushed with
      | true => rfl
      | false => rw [hd, if_pos ⟨by decide, rfl⟩] at h; cases h
    rw [lateReqs_of_dropOk _ _ hd]
    exact newReqs_filter_ne o.res
  · rw [if_neg hc]

theorem step_queue (cfg : Cfg) (lb : St) (op : Op) (hg : GInv lb) :
    GInv (stepSt cfg lb op).1 ∧
    newReqsQ (gateArrive lb.queued op (step cfg lb op).2) (step cfg lb op).2 = newReqs (stepSt cfg lb op).2 ∧
    gateNext (gateArrive lb.queued op (step cfg lb op).2) (step cfg lb op).2 = (stepSt cfg lb op).1.queued := by
  obtain ⟨g1, g2, g3⟩ := gate_step cfg lb op 1 0 hg
  exact ⟨g1, newReqsQ_of_gate 0 _ _ g2, g3⟩

theorem newReqs_open {rs : List ResV} {p : Nat × Bool} (hp : p ∈ newReqs rs) : p.2 = false := by
  obtain ⟨r, _, hr⟩ := List.mem_filterMap.1 hp
  cases r with
  | node id ep d => cases hr; rfl
  | _ => cases hr

theorem lateIds_newReqs (rs : List ResV) : lateIds (newReqs rs) = [] := by
  unfold lateIds
  rw [List.map_eq_nil_iff, List.filter_eq_nil_iff]
  intro p hp
  rw [newReqs_open hp]
  exact Bool.false_ne_true

theorem withServers_keep {a : AS} (h : HInv a.hs) (l : List Nat) : Keep a.hs (withServers a l).hs :=
  ⟨h.servers l, ChExt.of_eq rfl⟩

theorem applyNotif_keep {cfg : Cfg} {a : AS} (f : Full cfg a) (h : HInv a.hs) (n : Notif) :
    Keep a.hs (applyNotif (sub cfg) a n).hs := by
  rcases applyNotif_shape cfg a n with ⟨_, _, _, e⟩ | ⟨ep, _, hm, e⟩ | ⟨ep, _, e⟩ <;> rw [e]
  · exact Keep.refl h
  · have k1 := withServers_keep h (a.hs.servers ++ [ep])
    exact k1.trans (addSink_keep cfg k1.hinv ep fun hc => hm ((f.part ep).1 (List.mem_append_left _ hc)))
  · have k1 := withServers_keep h (a.hs.servers.filter (· ≠ ep))
    exact k1.trans (removeSink_keep cfg (a := withServers a _) (setServers_PInv f.inv _).1 k1.hinv ep)

theorem get_keep (cfg : Cfg) {a : AS} (inv : PInv cfg a) (h : HInv a.hs)
    (hb : (a.get cfg).1.hs.reqs.length < maxReqs) : Keep a.hs (a.get cfg).1.hs :=
  (get_ok cfg inv h fun hsz => by rw [← get_len cfg a hsz]; exact hb).1

theorem Calls.keep {cfg : Cfg} {a b : AS} {ns : List Notif} {rs : List ResV} (p : Calls cfg a ns rs b)
    (f : Full cfg a) (h : HInv a.hs) (hb : b.hs.reqs.length < maxReqs) : Keep a.hs b.hs := by
  induction p with
  | nil => exact Keep.refl h
  | own m _ ih =>
    have k := m.keep f.inv h
    exact k.trans (ih (f.stable (m.stable f.inv)) k.hinv hb)
  | request p ih =>
    have k := get_keep cfg f.inv h (lt_of_le_of_lt p.reqs_le hb)
    exact k.trans (ih (f.stable (get_spec cfg f.inv).1) k.hinv hb)
  | dropped _ ih => exact ih f h hb
  | notif n _ ih =>
    have k := applyNotif_keep f h n
    exact k.trans (ih (applyNotif_spec f n).1 k.hinv hb)

structure Sim3 (a3 : A3) (s : HS) : Prop where
  heap : a3.heap = s.heap
  known : ∀ id, id ∈ a3.known ↔ id < s.nodes.length
  reqs : a3.reqs = s.reqs
  chan : ∀ id, a3.chanOf id = (chans s).getD id 1

theorem Sim3.init : Sim3 {} HS.init :=
  ⟨rfl, fun _ => ⟨fun h => (nomatch h), fun h => (nomatch h)⟩, rfl, fun _ => rfl⟩

theorem Sim3.isOpen {a3 : A3} {s : HS} (sim : Sim3 a3 s) {m : Nat} (hm : m < s.nodes.length) :
    a3.isOpen m = true ↔ (s.node m).chan = chOpen := by
  unfold A3.isOpen
  rw [sim.chan m, ← node_chan s m hm, beq_iff_eq]

theorem Sim3.mem_heap {a3 : A3} {s : HS} (sim : Sim3 a3 s) {m : Nat} : m ∈ a3.heap ↔ InHeap s m := by
  rw [sim.heap, mem_heap_iff]

theorem Sim3.mem_opens {a3 : A3} {s : HS} (sim : Sim3 a3 s) (hw : WF s) {m : Nat} :
    m ∈ a3.opens ↔ InHeap s m ∧ (s.node m).chan = chOpen := by
  unfold A3.opens
  rw [List.mem_filter, sim.mem_heap]
  exact and_congr_right fun hin => sim.isOpen (inHeap_lt s hw m hin)

theorem outCnt_eq (reqs : List (Nat × Bool)) (id : Nat) : outCnt reqs id = outL reqs id := rfl

/-- the verdict on a dispatch that `_AsyncProcessRequestImpl` made in state `s` -/
theorem c03Dispatch_ok {a3 : A3} {s : HS} (sim : Sim3 a3 s) (h : HInv s) (idx : Nat) (g : GetRes)
    (h0 : g = .noMembers ↔ s.size = 0)
    (h1 : ∀ nid ep r, g = .node nid ep r →
      (InHeap s nid ∨ s.nodes.length ≤ nid) ∧
      ((∃ m, InHeap s m ∧ (s.node m).chan = chOpen) →
        InHeap s nid ∧ (s.node nid).chan = chOpen ∧
        ∀ m, InHeap s m → (s.node m).chan = chOpen → outOf s nid ≤ outOf s m)) :
    c03Dispatch a3 idx (ResV.ofGet g) = .ok := by
  cases g with
  | noMembers =>
    have : a3.heap.isEmpty = true := by
      rw [sim.heap, List.isEmpty_iff, ← List.length_eq_zero_iff]
      exact h0.1 rfl
    simp only [ResV.ofGet, c03Dispatch]
    rw [if_pos this]
  | node nid ep r =>
    obtain ⟨hmem, hch⟩ := h1 nid ep r rfl
    simp only [ResV.ofGet, c03Dispatch]
    have hm1 : ¬ (!a3.heap.contains nid && a3.known.contains nid) = true := by
      rw [Bool.and_eq_true, Bool.not_eq_true', List.contains_iff_mem, sim.known]
      rintro ⟨x, y⟩
      rcases hmem with hin | hnew
      · rw [List.contains_eq_mem, decide_eq_false_iff_not] at x
        exact x (sim.mem_heap.2 hin)
      · omega
    rw [if_neg hm1]
    by_cases he : a3.opens.isEmpty = true
    · rw [if_pos he]
    · rw [if_neg he]
      have hne : a3.opens ≠ [] := fun e => he (by rw [e]; rfl)
      obtain ⟨m, hm⟩ := List.exists_mem_of_ne_nil _ hne
      obtain ⟨hin, hop, hmin⟩ := hch ⟨m, (sim.mem_opens h.wf).1 hm⟩
      have c1 : ¬ (!(a3.heap.contains nid && a3.isOpen nid)) = true := by
        rw [Bool.not_eq_true', Bool.not_eq_false, Bool.and_eq_true, List.contains_iff_mem]
        exact ⟨sim.mem_heap.2 hin, (sim.isOpen (inHeap_lt s h.wf nid hin)).2 hop⟩
      have c2 : a3.opens.all (fun m => decide (outCnt a3.reqs nid ≤ outCnt a3.reqs m)) = true := by
        rw [List.all_eq_true]
        intro m hm
        obtain ⟨hinm, hom⟩ := (sim.mem_opens h.wf).1 hm
        rw [sim.reqs, decide_eq_true_eq, outCnt_eq, outCnt_eq]
        exact hmin m hinm hom
      rw [if_neg c1, if_pos c2]

/-- what an operation does to the channel states, before the hub runs -/
def chansAct (c : List Nat) : Op → List Nat
  | .chan nid st => if nid < c.length ∧ 1 ≤ st ∧ st ≤ 4 then c.set nid st else c
  | _ => c

theorem Keep.of_not_chan {s s' : HS} {op : Op} (k : Keep s s') (hop : ∀ nid st, op ≠ .chan nid st) :
    HInv s' ∧ (∃ k, chans s' = chansAct (chans s) op ++ List.replicate k 1) := by
  refine ⟨k.hinv, ?_⟩
  have e : chansAct (chans s) op = chans s := by
    cases op <;> first | rfl | exact absurd rfl (hop _ _)
  rw [e]
  exact k.ch

theorem step_bound (cfg : Cfg) (lb : St) (op : Op) (hb : (stepSt cfg lb op).1.sub.hs.reqs.length < maxReqs) :
    (act cfg lb op).1.sub.hs.reqs.length < maxReqs :=
  lt_of_le_of_lt (le_trans (finish_calls (cfg := cfg) (act cfg lb op).1).reqs_le
    (congrArg List.length (tapesRead_moves cfg _).calm.reqs).ge) hb

/-- what is the operation's own (`entry`): a completion keeps the heap invariant and the channel states, a
    channel event sets one channel state, `_servers = {}` touches neither -/
theorem entry_keep (cfg : Cfg) (lb : St) (op : Op) (f : Full cfg lb.sub) (h : HInv lb.sub.hs) :
    HInv (entry cfg lb op).hs ∧
    (∃ k, chans (entry cfg lb op).hs = chansAct (chans lb.sub.hs) op ++ List.replicate k 1) := by
  cases op with
  | put r j e => exact Keep.of_not_chan (put_keep cfg (f.feed e).inv h r j) nofun
  | loaded l e => exact Keep.of_not_chan (withServers_keep (a := (feed lb e).sub) h []) nofun
  | chan nid st =>
    refine ⟨setChan_hinv (a := (feed lb ⟨[], []⟩).sub) h nid st, 0, ?_⟩
    rw [List.replicate_zero, List.append_nil]
    show chans ((feed lb ⟨[], []⟩).sub.setChan nid st).hs =
      if nid < (chans lb.sub.hs).length ∧ 1 ≤ st ∧ st ≤ 4 then (chans lb.sub.hs).set nid st else chans lb.sub.hs
    unfold AS.setChan
    rw [chans_len, show (feed lb ⟨[], []⟩).sub.hs = lb.sub.hs from rfl]
    split
    · exact chans_setChan lb.sub.hs nid st
    · rfl
  | _ => exact Keep.of_not_chan (Keep.refl h) nofun

theorem step_keep (cfg : Cfg) (lb : St) (op : Op) (f : Full cfg lb.sub)
    (hload : ∀ l e, op = .loaded l e → lb.sub.hs.servers = []) (h : HInv lb.sub.hs)
    (hb : (stepSt cfg lb op).1.sub.hs.reqs.length < maxReqs) :
    HInv (stepSt cfg lb op).1.sub.hs ∧
    (∃ k, chans (stepSt cfg lb op).1.sub.hs = chansAct (chans lb.sub.hs) op ++ List.replicate k 1) := by
  obtain ⟨i1, k1, c1⟩ := entry_keep cfg lb op f h
  have k2 := (stepSt_calls lb op).keep (entry_full cfg lb op f hload).1 i1 hb
  obtain ⟨k', c2⟩ := k2.ch
  exact ⟨k2.hinv, k1 + k', by rw [c2, c1, List.append_assoc, List.replicate_add]⟩

/-- The dispatch C03 is decided on is the request of a `get`/`getd` that found the open result complete: its answer
    is reported first, and it was given in the state the operation began in. -/
theorem c03Step_ok (cfg : Cfg) (lb : St) (op : Op) (f : Full cfg lb.sub) (h : HInv lb.sub.hs)
    (hb : (stepSt cfg lb op).1.sub.hs.reqs.length < maxReqs) (a3 : A3) (idx : Nat) (sim : Sim3 a3 lb.sub.hs) :
    c03Step a3 idx op (step cfg lb op).2 = .ok := by
  have req : ∀ (e : Env) (evt : Option Bool) (r : ResV),
      act cfg lb op = (((feed lb e).request (sub cfg) evt).1,
        match ((feed lb e).request (sub cfg) evt).2 with | some g => [ResV.ofGet g] | none => [.queued]) →
      (if (step cfg lb op).2.res.contains .queued then none else (step cfg lb op).2.res.head?) = some r →
      c03Dispatch a3 idx r = .ok := by
    intro e evt r hact hj
    have hres : (step cfg lb op).2.res = (act cfg lb op).2.filter (· ≠ .queued) ++
      ((act cfg lb op).1.finish (sub cfg)).2.map ResV.ofFlush ++ (act cfg lb op).2.filter (· = .queued) := rfl
    have hbA := step_bound cfg lb op hb
    split at hj
    · cases hj
    · rename_i hq
      rw [hres, hact] at hj hq
      rw [hact] at hbA
      by_cases hr : (sub cfg).openReady (feed lb e).sub = true
      · rw [request_ready _ hr] at hj hbA
        dsimp only at hj
        rw [List.filter_cons_of_pos (by rw [decide_eq_true_eq]; exact ofGet_ne_queued _)] at hj
        cases hj
        obtain ⟨_, g0, g1⟩ := get_ok cfg (f.feed e).inv (a := (feed lb e).sub) h
          (fun hsz => by rw [← get_len cfg _ hsz]; exact hbA)
        exact c03Dispatch_ok (s := (feed lb e).sub.hs) sim h idx _ g0 g1
      · rw [request_wait _ hr] at hq
        exact absurd (List.elem_eq_true_of_mem (List.mem_append_right _ (List.mem_singleton.2 rfl))) hq
  unfold c03Step judged
  cases op with
  | get e =>
    split
    · rename_i r hj; exact req e none r rfl hj
    · rfl
  | getd e =>
    split
    · rename_i r hj; exact req e (some false) r rfl hj
    · rfl
  | _ => rfl

theorem chanOf_after (a3 : A3) (c : List Nat) (hk : ∀ id, id ∈ a3.known ↔ id < c.length)
    (hc : ∀ id, a3.chanOf id = c.getD id 1) (op : Op) (id : Nat) :
    ({ a3 with chans := chansAfter a3 op } : A3).chanOf id = (chansAct c op).getD id 1 := by
  cases op with
  | chan nid st =>
    show ({ a3 with chans := if a3.known.contains nid && decide (1 ≤ st ∧ st ≤ 4) then (nid, st) :: a3.chans
        else a3.chans } : A3).chanOf id = (if nid < c.length ∧ 1 ≤ st ∧ st ≤ 4 then c.set nid st else c).getD id 1
    have e : (a3.known.contains nid && decide (1 ≤ st ∧ st ≤ 4)) = true ↔ nid < c.length ∧ 1 ≤ st ∧ st ≤ 4 := by
      rw [Bool.and_eq_true, List.contains_iff_mem, hk, decide_eq_true_eq]
    by_cases hv : nid < c.length ∧ 1 ≤ st ∧ st ≤ 4
    · rw [if_pos hv, if_pos (e.2 hv)]
      unfold A3.chanOf
      rw [List.find?_cons, List.getD_eq_getElem?_getD, List.getElem?_set]
      by_cases e' : nid = id
      · subst e'
        rw [beq_self_eq_true, if_pos rfl, if_pos hv.1]
        rfl
      · rw [beq_false_of_ne e', if_neg e', ← List.getD_eq_getElem?_getD]
        exact hc id
    · rw [if_neg hv, if_neg (fun x => hv (e.1 x))]
      exact hc id
  | _ => exact hc id

theorem sim_step (cfg : Cfg) (lb : St) (op : Op) (a3 : A3) (sim : Sim3 a3 lb.sub.hs)
    (hq : a3.q = lb.queued) (hg : GInv lb)
    (hw : WF (stepSt cfg lb op).1.sub.hs)
    (hc : ∃ k, chans (stepSt cfg lb op).1.sub.hs = chansAct (chans lb.sub.hs) op ++ List.replicate k 1) :
    Sim3 (a3.after op (step cfg lb op).2) (stepSt cfg lb op).1.sub.hs := by
  have hreqs := (step_newReqs cfg lb op).symm
  rw [← (step_queue cfg lb op hg).2.1, ← hq, ← sim.reqs] at hreqs
  generalize hst : (stepSt cfg lb op).1.sub = a at hw hc hreqs
  have hheap : (step cfg lb op).2.heap.map (·.id) = a.hs.heap := by
    show ((stepSt cfg lb op).1.sub.hs.heap.map (viewOf (stepSt cfg lb op).1.sub)).map (·.id) = _
    rw [hst, List.map_map]
    exact List.map_id' _
  have hoff : (step cfg lb op).2.off.map (·.id) =
      (List.range a.hs.nodes.length).filter (fun id => !a.hs.heap.contains id) := by
    show (((List.range (stepSt cfg lb op).1.sub.hs.nodes.length).filter
      (fun id => !(stepSt cfg lb op).1.sub.hs.heap.contains id)).map (viewOf (stepSt cfg lb op).1.sub)).map (·.id) = _
    rw [hst, List.map_map]
    exact List.map_id' _
  refine ⟨hheap, ?_, hreqs, ?_⟩
  · intro id
    show id ∈ (step cfg lb op).2.heap.map (·.id) ++ (step cfg lb op).2.off.map (·.id) ↔ _
    rw [hheap, hoff, List.mem_append, List.mem_filter, List.mem_range, mem_heap_iff]
    constructor
    · rintro (hm | ⟨hl, _⟩)
      · exact inHeap_lt _ hw id hm
      · exact hl
    · intro hl
      by_cases hm : InHeap a.hs id
      · exact Or.inl hm
      · refine Or.inr ⟨hl, ?_⟩
        rw [Bool.not_eq_true', List.contains_eq_mem, decide_eq_false_iff_not, mem_heap_iff]
        exact hm
  · intro id
    obtain ⟨k, e⟩ := hc
    rw [e, getD_append_idle]
    exact chanOf_after a3 (chans lb.sub.hs) (fun id => by rw [chans_len]; exact sim.known id) sim.chan op id

theorem after_q (cfg : Cfg) (lb : St) (op : Op) (a3 : A3) (hq : a3.q = lb.queued) (hg : GInv lb) :
    (a3.after op (step cfg lb op).2).q = (stepSt cfg lb op).1.queued := by
  show gateNext (gateArrive a3.q op (step cfg lb op).2) (step cfg lb op).2 = _
  rw [hq]
  exact (step_queue cfg lb op hg).2.2

theorem c04View_ok {a : AS} (h : HInv a.hs) (id : Nat) (hl : id < a.hs.nodes.length)
    (b : Bool) (hb : b = true ↔ InHeap a.hs id) :
    c04View a.hs.reqs b (viewOf a id) = true := by
  obtain ⟨a1, a2, a3, _⟩ := h.book.pen_iff id hl
  have e1 : relLoadNV (viewOf a id) = (outCnt a.hs.reqs id : Int) := by
    show (if (a.hs.node id).load ≥ 0 then (a.hs.node id).load else (a.hs.node id).load - Idle) = _
    by_cases hp : (a.hs.node id).load ≥ 0
    · rw [if_pos hp]; exact a1.mp hp
    · rw [if_neg hp, a2.mp (not_le.1 hp)]
      exact add_sub_cancel_left _ _
  have e3 : ((viewOf a id).closed == if b = true then 0 else
      if outCnt a.hs.reqs (viewOf a id).id = 0 ∨ (viewOf a id).load ≥ 0 then 1 else 0) = true := by
    show ((a.hs.node id).closed == if b = true then 0 else
      if outCnt a.hs.reqs id = 0 ∨ (a.hs.node id).load ≥ 0 then 1 else 0) = true
    rw [beq_iff_eq]
    by_cases hin : InHeap a.hs id
    · rw [if_pos (hb.2 hin)]; exact h.book.closedIn id hin
    · rw [if_neg (fun x => hin (hb.1 x))]; exact h.book.closedOff id hl hin
  unfold c04View
  rw [Bool.and_eq_true, Bool.and_eq_true, decide_eq_true_eq, decide_eq_true_eq]
  exact ⟨⟨e1, a3⟩, by cases b <;> exact e3⟩

theorem c04AAt_ok (lb : St) (res : List ResV) (h : HInv lb.sub.hs) (late : List Nat) (idx : Nat) :
    c04AAt late lb.sub.hs.reqs idx (obsOf lb res) = .ok := by
  have h1 : (obsOf lb res).heap.find? (fun v => !c04View lb.sub.hs.reqs true v) = none := by
    rw [List.find?_eq_none]
    intro v hv
    obtain ⟨id, hid, rfl⟩ := List.mem_map.1 (show v ∈ lb.sub.hs.heap.map (viewOf lb.sub) from hv)
    have hin := (mem_heap_iff _ id).1 hid
    rw [c04View_ok h id (inHeap_lt _ h.wf id hin) true ⟨fun _ => hin, fun _ => rfl⟩]
    exact Bool.false_ne_true
  have h2 : (obsOf lb res).off.find? (fun v => !c04View lb.sub.hs.reqs false v) = none := by
    rw [List.find?_eq_none]
    intro v hv
    obtain ⟨id, hid, rfl⟩ := List.mem_map.1 (show v ∈ ((List.range lb.sub.hs.nodes.length).filter
      (fun id => !lb.sub.hs.heap.contains id)).map (viewOf lb.sub) from hv)
    rw [List.mem_filter, List.mem_range, Bool.not_eq_true', List.contains_eq_mem, decide_eq_false_iff_not,
      mem_heap_iff] at hid
    rw [c04View_ok h id hid.1 false ⟨nofun, fun hc => absurd hc hid.2⟩]
    exact Bool.false_ne_true
  unfold c04AAt
  rw [h1, h2]

/-- what a run carries from operation to operation: the balancer's invariants, the heap invariant, and the
    judge's state being the model's -/
structure JInv (cfg : Cfg) (p : Proto) (lb : St) (a3 : A3) : Prop where
  rinv : RInv cfg p lb
  hinv : HInv lb.sub.hs
  gate : GInv lb
  sim : Sim3 a3 lb.sub.hs
  q : a3.q = lb.queued

theorem JInv.init (cfg : Cfg) : JInv cfg { ref := cfg.initial } (init cfg) {} :=
  ⟨RInv.init cfg, HInv.of_inv Inv_init, GInv.init cfg, Sim3.init, rfl⟩

theorem JInv.step {cfg : Cfg} {p p' : Proto} {lb : St} {a3 : A3} (h : JInv cfg p lb a3) {op : Op}
    (hp : protoStep p op = some p') (hb : (stepSt cfg lb op).1.sub.hs.reqs.length < maxReqs) (idx : Nat) :
    JInv cfg p' (stepSt cfg lb op).1 (a3.after op (step cfg lb op).2) ∧
    c03Step a3 idx op (step cfg lb op).2 = .ok ∧
    c04AAt (lateIds (newReqsQ (gateArrive a3.q op (step cfg lb op).2) (step cfg lb op).2))
      (a3.after op (step cfg lb op).2).reqs idx (step cfg lb op).2 = .ok := by
  obtain ⟨i1, c1⟩ := step_keep cfg lb op h.rinv.full (h.rinv.loaded hp) h.hinv hb
  have s1 := sim_step cfg lb op a3 h.sim h.q h.gate i1.wf c1
  refine ⟨⟨(h.rinv.step op hp).1, i1, (step_queue cfg lb op h.gate).1, s1, after_q cfg lb op a3 h.q h.gate⟩,
    c03Step_ok cfg lb op h.rinv.full h.hinv hb a3 idx h.sim, ?_⟩
  rw [s1.reqs]
  exact c04AAt_ok (stepSt cfg lb op).1 (stepSt cfg lb op).2 i1 _ idx

theorem run_ok (cfg : Cfg) (ops : List Op) : ∀ (p : Proto) (lb : St) (a3 : A3) (idx : Nat),
    JInv cfg p lb a3 → protoOk p ops = true → (runSt cfg lb ops).sub.hs.reqs.length < maxReqs →
    (∃ p' a3', JInv cfg p' (runSt cfg lb ops) a3') ∧
    specC03AGo a3 idx (comp3A.trace cfg lb ops) = .ok ∧
    specC04AGo a3.reqs a3.q idx (comp4A.trace cfg lb ops) = .ok := by
  induction ops with
  | nil => intro p lb a3 idx h _ _; exact ⟨⟨p, a3, h⟩, rfl, rfl⟩
  | cons op ops ih =>
    intro p lb a3 idx h hp hb
    obtain ⟨p', hps, hp'⟩ := protoOk_step hp
    obtain ⟨h', v3, v4⟩ := h.step hps (lt_of_le_of_lt (run_reqs_mono cfg ops _) hb) idx
    obtain ⟨r, t3, t4⟩ := ih p' _ _ (idx + 1) h' hp' hb
    rw [TComp.trace_cons comp3A step, TComp.trace_cons comp4A step]
    exact ⟨r, Verdict.and_ok v3 t3, Verdict.and_ok (f := fun _ => specC04AGo _ _ (idx + 1) _) v4 t4⟩

theorem wfH_iff (cfg : Cfg) (ops : List Op) :
    wfH cfg ops = true ↔ wf cfg ops = true ∧ (runSt cfg (init cfg) ops).sub.hs.reqs.length < maxReqs := by
  unfold wfH maxReqs
  rw [Bool.and_eq_true, decide_eq_true_eq]

theorem wfH_ok {cfg : Cfg} {ops : List Op} (h : wfH cfg ops = true) :
    (∃ p' a3', JInv cfg p' (runSt cfg (init cfg) ops) a3') ∧
    specC03A cfg (comp3A.modelTrace cfg ops) = .ok ∧ specC04A cfg (comp4A.modelTrace cfg ops) = .ok :=
  run_ok cfg ops _ _ {} 0 (JInv.init cfg) (wf_proto ((wfH_iff cfg ops).1 h).1) ((wfH_iff cfg ops).1 h).2

end Scales.LB
