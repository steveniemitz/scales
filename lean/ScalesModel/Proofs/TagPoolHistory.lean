/-
  Proofs/TagPoolHistory.lean — whole histories of the multiplexed transport sink: the model's
  history is accepted by the specification and ends in the invariants (`run_good`); and what the
  accumulator of an accepted history says between two re-opens — a fired deadline stays fired, a
  written frame stays unanswered until the peer answers its tag, a due Tdiscarded stays due
  until one naming its tag is written, and each is written exactly once.
-/
import ScalesModel.Proofs.TagPoolStep
namespace Scales.TagPool

def accAfter (a : Acc) (h : List (Op × Obs)) : Acc := h.foldl (fun a p => a.after p.1 p.2) a

theorem accAfter_cons (a : Acc) (p : Op × Obs) (h : List (Op × Obs)) :
    accAfter a (p :: h) = accAfter (a.after p.1 p.2) h := rfl

theorem accAfter_append (a : Acc) (x y : List (Op × Obs)) : accAfter a (x ++ y) = accAfter (accAfter a x) y :=
  List.foldl_append

def reachFrom (cfg : Cfg) (s : St) (ops : List Op) : St := ops.foldl (fun s op => (stepOp cfg.fl cfg.max s op).1) s

def reach (cfg : Cfg) (ops : List Op) : St := reachFrom cfg (initSt cfg) ops

/-- `spec12` accepts the history `h` from accumulator `a`: every step satisfies the clauses.  The verdict carries the index
    of the step it rejects; whether a history is accepted does not depend on where the count starts (`accepts_iff`). -/
def Accepts (cfg : Cfg) : Acc → List (Op × Obs) → Prop
  | _, [] => True
  | a, p :: h => Clauses cfg a p.1 p.2 ∧ Accepts cfg (a.after p.1 p.2) h

theorem accepts_iff (cfg : Cfg) : ∀ (h : List (Op × Obs)) (a : Acc) (idx : Nat),
    specGo12 cfg a idx h = .ok ↔ Accepts cfg a h
  | [], _, _ => iff_of_true rfl trivial
  | (op, o) :: h, a, idx => by
    rw [Accepts, ← clauses_iff cfg a idx, ← accepts_iff cfg h _ (idx + 1)]
    simp only [specGo12, Verdict.and_eq_ok, and_assoc]

theorem accepts_append (cfg : Cfg) : ∀ (h1 h2 : List (Op × Obs)) (a : Acc),
    Accepts cfg a (h1 ++ h2) ↔ Accepts cfg a h1 ∧ Accepts cfg (accAfter a h1) h2
  | [], _, _ => ⟨fun h => ⟨trivial, h⟩, fun h => h.2⟩
  | _ :: h1, h2, _ => (and_congr_right' (accepts_append cfg h1 h2 _)).trans and_assoc.symm

theorem accepts_at {cfg : Cfg} {a : Acc} {h1 h2 : List (Op × Obs)} {op : Op} {o : Obs}
    (hs : Accepts cfg a (h1 ++ (op, o) :: h2)) :
    Clauses cfg (accAfter a h1) op o ∧ Accepts cfg ((accAfter a h1).after op o) h2 :=
  ((accepts_append ..).mp hs).2

/-- the C11 and C02 clauses are among those of `spec12` -/
theorem specGo_of_accepts (cfg : Cfg) : ∀ (h : List (Op × Obs)) (a : Acc) (idx : Nat),
    Accepts cfg a h → specGo cfg a idx h = .ok
  | [], _, _, _ => rfl
  | (op, o) :: h, a, idx, hs =>
    Verdict.and_eq_ok.mpr ⟨((clauses_iff cfg a idx op o).mpr hs.1).1, specGo_of_accepts cfg h _ _ hs.2⟩

theorem run_good (cfg : Cfg) : ∀ (ops : List Op) (a : Acc) (s : St),
    InvAll cfg a s → opsOk cfg s ops = true →
      Accepts cfg a (comp.trace cfg s ops) ∧ InvAll cfg (accAfter a (comp.trace cfg s ops)) (reachFrom cfg s ops)
  | [], _, _, h, _ => ⟨trivial, h⟩
  | op :: ops, a, s, h, hok => by
    obtain ⟨hen, hrest⟩ := Bool.and_eq_true_iff.mp hok
    obtain ⟨hv, hinv⟩ := step_good op h hen
    obtain ⟨hgo, hend⟩ := run_good cfg ops _ _ hinv hrest
    exact ⟨⟨hv, hgo⟩, hend⟩

theorem InvM_trace (cfg : Cfg) (hmax : 2 ≤ cfg.max) : ∀ (ops : List Op) (a : Acc) (s : St),
    Inv cfg a s → Inv12 cfg a s → InvM cfg a s → opsOk cfg s ops = true →
      InvM cfg (accAfter a (comp.trace cfg s ops)) (reachFrom cfg s ops) :=
  -- `hmax` is implied by `Inv` (`PoolInv.count`, `PoolInv.nlt`: `1 ≤ next < max`)
  fun ops a s h h12 hm hok => have _ := hmax; (run_good cfg ops a s ⟨h, h12, hm⟩ hok).2.invM

theorem model_good (cfg : Cfg) (ops : List Op) (hc : cfgWF cfg = true) (ho : opsOk cfg (initSt cfg) ops = true) :
    Accepts cfg (Acc.init cfg) (comp.modelTrace cfg ops) ∧
      InvAll cfg (accAfter (Acc.init cfg) (comp.modelTrace cfg ops)) (reach cfg ops) :=
  run_good cfg ops _ _ (InvAll_init cfg hc) ho

theorem model_accepts {cfg : Cfg} {ops : List Op} {h : List (Op × Obs)} (hc : cfgWF cfg = true)
    (ho : opsOk cfg (initSt cfg) ops = true) (htr : comp.modelTrace cfg ops = h) :
    Accepts cfg (Acc.init cfg) h :=
  htr ▸ (model_good cfg ops hc ho).1

theorem run_at (cfg : Cfg) : ∀ (ops : List Op) (a : Acc) (s : St) (h1 h2 : List (Op × Obs)),
    InvAll cfg a s → opsOk cfg s ops = true → comp.trace cfg s ops = h1 ++ h2 → ∃ s1, InvAll cfg (accAfter a h1) s1
  | _, _, s, [], _, h, _, _ => ⟨s, h⟩
  | [], _, _, _ :: _, _, _, _, htr => nomatch htr
  | op :: ops, _, _, _ :: h1, h2, h, hok, htr =>
    have ⟨hen, hrest⟩ := Bool.and_eq_true_iff.mp hok
    (List.cons.inj htr).1 ▸ run_at cfg ops _ _ h1 h2 (step_good op h hen).2 hrest (List.cons.inj htr).2

theorem accAfter_keeps {P : Acc → Prop} {Q : Op × Obs → Prop}
    (hstep : ∀ a p, Q p → P a → P (a.after p.1 p.2)) :
    ∀ (h : List (Op × Obs)) (a : Acc), (∀ p ∈ h, Q p) → P a → P (accAfter a h)
  | [], _, _, ha => ha
  | p :: h, a, hq, ha =>
    accAfter_keeps hstep h _ (fun x hx => hq x (List.mem_cons_of_mem _ hx)) (hstep a p (hq p (List.mem_cons_self ..)) ha)

theorem fired_mono {x : Nat} (h : List (Op × Obs)) (a : Acc) (hno : ∀ p ∈ h, p.1 ≠ .reopen) (hx : x ∈ a.fired) :
    x ∈ (accAfter a h).fired :=
  accAfter_keeps (P := fun a => x ∈ a.fired) (fun a p hp hx => by rw [after_eq _ _ _ hp]; exact List.mem_append_right _ hx)
    h a hno hx

theorem unans_persist (p : Nat × Nat) (h : List (Op × Obs)) (a : Acc) (hno : ∀ q ∈ h, q.1 ≠ .reopen)
    (hna : ∀ q ∈ h, ∀ m, q.1 ≠ .process m p.1) (hp : p ∈ a.unans) : p ∈ (accAfter a h).unans :=
  accAfter_keeps (P := fun a => p ∈ a.unans) (Q := fun q => q.1 ≠ .reopen ∧ ∀ m, q.1 ≠ .process m p.1)
    (fun a q hq hp => by rw [after_eq _ _ _ hq.1]; exact List.mem_append_left _ (mem_unansKept.mpr ⟨hp, hq.2⟩))
    h a (fun q hq => ⟨hno q hq, hna q hq⟩) hp

theorem mem_eraseAll {t : Nat} : ∀ (ts l : List Nat), t ∈ l → t ∉ ts → t ∈ eraseAll l ts
  | [], _, h, _ => h
  | _ :: ts, _, h, hn =>
    mem_eraseAll ts _ ((List.mem_erase_of_ne (List.ne_of_not_mem_cons hn)).mpr h) (List.not_mem_of_not_mem_cons hn)

theorem consumed {f : Acc → List Nat} {Q : Op × Obs → Prop} {t : Nat}
    (hstep : ∀ a p, Q p → t ∉ discTags p.2.wrote → t ∈ f a → t ∈ f (a.after p.1 p.2))
    (h : List (Op × Obs)) (a : Acc) (hq : ∀ p ∈ h, Q p) (h1 : t ∈ f a) (h2 : t ∉ f (accAfter a h)) :
    ∃ p ∈ h, t ∈ discTags p.2.wrote :=
  Classical.by_contradiction fun hn => h2 <|
    accAfter_keeps (P := fun a => t ∈ f a) (Q := fun p => Q p ∧ t ∉ discTags p.2.wrote)
      (fun a p hp => hstep a p hp.1 hp.2) h a (fun p hp => ⟨hq p hp, fun hd => hn ⟨p, hp, hd⟩⟩) h1

theorem inprog_persist (h : List (Op × Obs)) (a : Acc) (hb : ∀ p ∈ h, p.1 ≠ .wend) (hno : ∀ p ∈ h, p.1 ≠ .reopen)
    (ha : a.inprog = true) : (accAfter a h).inprog = true :=
  accAfter_keeps (P := fun a => a.inprog = true) (Q := fun p => p.1 ≠ .wend ∧ p.1 ≠ .reopen)
    (fun a p hp ha => by
      obtain ⟨op, o⟩ := p
      cases op with
      | wbegin => rfl
      | wend => exact absurd rfl hp.1
      | reopen => exact absurd rfl hp.2
      | _ => exact ha)
    h a (fun p hp => ⟨hb p hp, hno p hp⟩) ha

theorem no_write_of_fired {cfg : Cfg} {a : Acc} {rid : Nat} {h2 h3 : List (Op × Obs)} {op : Op} {o : Obs}
    (hs : Accepts cfg a (h2 ++ (op, o) :: h3)) (hno : ∀ p ∈ h2, p.1 ≠ .reopen) (hf : rid ∈ a.fired) :
    ∀ f ∈ o.wrote, f.kind = .req → f.arg ≠ rid :=
  fun _ hf' hk e =>
    (accepts_at hs).1.notFired _ (mem_reqPairs hf' hk) (e ▸ fired_mono h2 a hno hf)

theorem discard_written_of_due {cfg : Cfg} {a : Acc} {t : Nat} {p : Op × Obs} {h2 h3 : List (Op × Obs)} {op : Op}
    {o : Obs} (hs : Accepts cfg a (p :: (h2 ++ (op, o) :: h3))) (hfl : cfg.fl = .thriftmux)
    (hp : p.1 ≠ .reopen) (hno : ∀ q ∈ h2, q.1 ≠ .reopen) (hop : op ≠ .reopen) (hq : o.qlen = 0)
    (ht : t ∈ dueNow a p.1) : ∃ q ∈ p :: (h2 ++ [(op, o)]), t ∈ discTags q.2.wrote := by
  by_cases hd : t ∈ discTags p.2.wrote
  · exact ⟨p, List.mem_cons_self .., hd⟩
  · have hend := (accepts_at hs.2).1.drained hfl hq
    -- a due entry stays due, within a connection, until a written Tdiscarded settles it
    obtain ⟨q, hq, hqd⟩ := consumed (t := t) (f := (·.owed)) (Q := fun q => q.1 ≠ .reopen)
      (fun a q hq hd ht => by
        rw [after_eq _ _ _ hq]; exact mem_eraseAll _ _ (dueNow_eq a q.1 ▸ List.mem_append_left _ ht) hd)
      (h2 ++ [(op, o)]) (a.after p.1 p.2)
      (fun q hq => (List.mem_append.mp hq).elim (hno q) fun e => List.mem_singleton.mp e ▸ hop)
      (by rw [after_eq _ _ _ hp]; exact mem_eraseAll _ _ ht hd) (by rw [accAfter_append]; exact hend ▸ List.not_mem_nil)
    exact ⟨q, List.mem_cons_of_mem _ hq, hqd⟩

theorem discard_written_of_must {cfg : Cfg} {a : Acc} {t : Nat} {h3 h4 : List (Op × Obs)} {o : Obs}
    (hs : Accepts cfg a (h3 ++ (.quiet, o) :: h4)) (hfl : cfg.fl = .thriftmux)
    (hno : ∀ q ∈ h3, q.1 ≠ .reopen) (hna : ∀ q ∈ h3, ∀ m, q.1 ≠ .process m t) (hq : o.qlen = 0)
    (hidle : (accAfter a h3).inprog = false) (ht : t ∈ a.must) : ∃ q ∈ h3, t ∈ discTags q.2.wrote :=
  -- a tag stays in `must`, within a connection, until the peer answers it or a written Tdiscarded names it
  consumed (f := (·.must)) (Q := fun q => q.1 ≠ .reopen ∧ ∀ m, q.1 ≠ .process m t)
    (fun a q hq hd ht => by rw [after_eq _ _ _ hq.1]; exact mem_mustAfter.mpr ⟨hq.1, Or.inl ht, hq.2, hd⟩)
    h3 a (fun q hq => ⟨hno q hq, hna q hq⟩) ht
    ((accepts_at hs).1.idle rfl hfl hq hidle ▸ List.not_mem_nil)

theorem discard_written_of_timed_out {cfg : Cfg} {a : Acc} {rid t : Nat} {pw : Op × Obs}
    {h2 h3 h4 : List (Op × Obs)} {o2 o : Obs}
    (hs : Accepts cfg a (pw :: (h2 ++ (.fire rid, o2) :: (h3 ++ (.quiet, o) :: h4))))
    (hfl : cfg.fl = .thriftmux) (hw : (t, rid) ∈ reqPairs pw.2.wrote) (hopw : pw.1 ≠ .reopen)
    (hno : ∀ p ∈ h2 ++ (Op.fire rid, o2) :: h3, p.1 ≠ .reopen)
    (hna : ∀ p ∈ h2 ++ (Op.fire rid, o2) :: h3, ∀ m, p.1 ≠ .process m t) (hq : o.qlen = 0)
    (hidle : (accAfter ((accAfter (a.after pw.1 pw.2) h2).after (.fire rid) o2) h3).inprog = false) :
    ∃ p ∈ (Op.fire rid, o2) :: h3, t ∈ discTags p.2.wrote := by
  have h3' : ∀ p ∈ h3, p ∈ h2 ++ (Op.fire rid, o2) :: h3 := fun p hp =>
    List.mem_append_right h2 (List.mem_cons_of_mem _ hp)
  -- the frame is among the written, unanswered ones when the deadline fires
  have hu := unans_persist (t, rid) h2 (a.after pw.1 pw.2)
    (fun p hp => hno p (List.mem_append_left _ hp)) (fun p hp => hna p (List.mem_append_left _ hp))
    (by rw [after_eq _ _ _ hopw]; exact List.mem_append_right _ hw)
  by_cases hd : t ∈ discTags o2.wrote
  · exact ⟨_, List.mem_cons_self .., hd⟩
  · obtain ⟨p, hp, hpd⟩ := discard_written_of_must (accepts_at hs.2).2 hfl
      (fun p hp => hno p (h3' p hp)) (fun p hp => hna p (h3' p hp)) hq hidle
      (by show t ∈ mustAfter _ (.fire rid) o2; exact mem_mustAfter.mpr ⟨nofun, Or.inr ⟨rid, rfl, hu⟩,
        hna _ (List.mem_append_right _ (List.mem_cons_self ..)), hd⟩)
    exact ⟨p, List.mem_cons_of_mem _ hp, hpd⟩

/-- under the clause `discard-unexpected` the Tdiscardeds written, followed by what stays due, are what was due, up to order -/
theorem eraseAll_perm : ∀ (ts l : List Nat), discOk l ts = true → (ts ++ eraseAll l ts).Perm l
  | [], _, _ => .refl _
  | x :: ts, l, h => by
    simp only [discOk, Bool.and_eq_true, List.contains_eq_mem, decide_eq_true_eq] at h
    exact ((eraseAll_perm ts _ h.2).cons x).trans (List.perm_cons_erase h.1).symm

/-- number of Tdiscarded frames naming `t` written over a history -/
def discardsWritten (t : Nat) : List (Op × Obs) → Nat
  | [] => 0
  | p :: h => (discTags p.2.wrote).count t + discardsWritten t h

/-- number of times `t` became due over a history, from accumulator `a` -/
def madeDue (t : Nat) : Acc → List (Op × Obs) → Nat
  | _, [] => 0
  | a, p :: h => (dueAdded a p.1).count t + madeDue t (a.after p.1 p.2) h

theorem discard_accounting (cfg : Cfg) (hfl : cfg.fl = .thriftmux) (t : Nat) : ∀ (h : List (Op × Obs)) (a : Acc),
    (∀ p ∈ h, p.1 ≠ .reopen) → Accepts cfg a h →
      discardsWritten t h + (accAfter a h).owed.count t = a.owed.count t + madeDue t a h
  | [], _, _, _ => Nat.zero_add _
  | p :: h, a, hno, hs => by
    obtain ⟨hc, hrest⟩ := hs
    have := discard_accounting cfg hfl t h (a.after p.1 p.2) (fun q hq => hno q (List.mem_cons_of_mem _ hq)) hrest
    have hstep := (eraseAll_perm _ _ (hc.due hfl)).count_eq t
    rw [← show (a.after p.1 p.2).owed = eraseAll (dueNow a p.1) (discTags p.2.wrote) from congrArg Acc.owed (after_eq _ _ _ (hno _ (List.mem_cons_self ..))), dueNow_eq,
      List.count_append, List.count_append] at hstep
    simp only [discardsWritten, madeDue, accAfter, List.foldl_cons] at this ⊢
    omega

/-! ### reading the accumulator

  `unanswered h` is the state the property text speaks of — the set of tags carried by request
  frames written on this connection that the peer has not answered since — computed from the
  observations alone (`Acc.after`): a written request frame adds its tag, a processed peer frame
  for tag `t` removes `t`, a new connection empties it.  The accumulator starts from `Acc.init cfg`:
  on an aged connection the free set before the first step, the peak and the number of tags still
  out are those of the starting pool. -/

def unanswered (cfg : Cfg) (h : List (Op × Obs)) : List Nat := (accAfter (Acc.init cfg) h).tags

/-- the same with the request id each such frame carried -/
def unansweredPairs (cfg : Cfg) (h : List (Op × Obs)) : List (Nat × Nat) := (accAfter (Acc.init cfg) h).unans

/-- the free set shown by the last observation of `h` (before the first: the starting pool's) -/
def freeBefore (cfg : Cfg) (h : List (Op × Obs)) : List Nat := (accAfter (Acc.init cfg) h).pfree

/-- peak number of tags awaiting an answer over `h` (since the last re-open; on an aged connection
    counted from `next − 1` of the starting pool) -/
def peakInUse (cfg : Cfg) (h : List (Op × Obs)) : Nat := (accAfter (Acc.init cfg) h).peak

/-- tags of this connection handed out before the script and still awaiting their answer
    (`Cfg.held` until the connection is replaced, 0 afterwards) -/
def heldBefore (cfg : Cfg) (h : List (Op × Obs)) : Nat := (accAfter (Acc.init cfg) h).held

def owedAfter (cfg : Cfg) (h : List (Op × Obs)) : List Nat := (accAfter (Acc.init cfg) h).owed

def firedAfter (cfg : Cfg) (h : List (Op × Obs)) : List Nat := (accAfter (Acc.init cfg) h).fired

/-- the tags for which, according to the observations, a Tdiscarded is still to be seen -/
def mustAfterHist (cfg : Cfg) (h : List (Op × Obs)) : List Nat := (accAfter (Acc.init cfg) h).must

def writeInProgress (cfg : Cfg) (h : List (Op × Obs)) : Bool := (accAfter (Acc.init cfg) h).inprog

theorem heldBefore_fresh (cfg : Cfg) (h : List (Op × Obs)) (hn : cfg.next = 1) : heldBefore cfg h = 0 :=
  accAfter_keeps (P := fun a => a.held = 0) (Q := fun _ => True)
    (fun a p _ ha => by obtain ⟨op, o⟩ := p; cases op with | reopen => rfl | _ => exact ha) h _ (fun _ _ => trivial)
    (by simp [Acc.init, Cfg.held, hn])

end Scales.TagPool
