/-
  Proofs/ResMuxTransport.lean — what the chain model (Model/ResMux.lean) needs to know about a step
  of the ThriftMux transport model (Model/MuxT.lean): an invariant that names the phases of a
  transport (never opened / opening handshake / open / closed) and, for every way the chain steps
  the transport, a summary of the step (`TStep`): the phase is kept, the handshake is answered, or
  the transport is shut down and raises its fault signal.
-/
import ScalesModel.Adapter.ResMux
import ScalesModel.Proofs.MuxTLemmas
namespace Scales.MuxT
open Scales.Transport

theorem shutdown_cstate (t : MuxT.St) (b : Bool) : (t.shutdown b).1.cstate = .closed := by
  unfold MuxT.St.shutdown; split <;> simp [*]

theorem shutdown_conns (t : MuxT.St) (b : Bool) : (t.shutdown b).2.conns = 0 := by
  unfold MuxT.St.shutdown; split <;> rfl

theorem process_phase (t : MuxT.St) (f : Frame) (h : InvO t) :
    (t.process f).1.rl = t.rl ∧ (t.process f).1.sl = t.sl ∧
    (if t.opening = true ∧ f = .rping then
       (t.process f).1.cstate = .opened ∧ (t.process f).1.opening = false ∧ (t.process f).1.openRes = .ok
     else (t.process f).1.cstate = t.cstate ∧ (t.process f).1.opening = t.opening ∧
          (t.process f).1.openRes = t.openRes) := by
  by_cases hc : t.opening = true ∧ f = .rping
  · obtain ⟨ho, rfl⟩ := hc
    simp [MuxT.St.process, ho, (h ho).2.2]
  · rw [if_neg hc]
    fun_cases MuxT.St.process t f with
    | case2 _ ho => exact absurd ⟨ho, rfl⟩ hc
    | _ => exact ⟨rfl, rfl, rfl, rfl, rfl⟩

/-- the ping helper stays armed while the handshake is in progress (`InvO`, kept by `_ProcessReply`:
    `invO_drains`), so the first Rping among the frames answers it -/
theorem dispatchGo_phase : ∀ (fs : List Frame) (t : MuxT.St), InvO t →
    (dispatchGo fs t).1.rl = t.rl ∧ (dispatchGo fs t).1.sl = t.sl ∧
    (if t.opening = true ∧ Frame.rping ∈ fs then
       (dispatchGo fs t).1.cstate = .opened ∧ (dispatchGo fs t).1.opening = false ∧
       (dispatchGo fs t).1.openRes = .ok
     else (dispatchGo fs t).1.cstate = t.cstate ∧ (dispatchGo fs t).1.opening = t.opening ∧
          (dispatchGo fs t).1.openRes = t.openRes) := by
  intro fs
  induction fs with
  | nil => intro t _; simp [dispatchGo]
  | cons f rest ih =>
    intro t hop
    obtain ⟨p1, p2, p3⟩ := process_phase t f hop
    obtain ⟨i1, i2, i3⟩ := ih (t.process f).1 (invO_drains.process t f hop)
    simp only [dispatchGo]
    by_cases hc : t.opening = true ∧ f = .rping
    · -- the handshake is answered here; nothing behind it is in a handshake
      rw [if_pos hc] at p3
      rw [if_neg (by rw [p3.2.1]; exact fun hx => nomatch hx.1)] at i3
      rw [if_pos ⟨hc.1, by rw [hc.2]; exact List.mem_cons_self⟩]
      exact ⟨i1.trans p1, i2.trans p2, i3.1.trans p3.1, i3.2.1.trans p3.2.1, i3.2.2.trans p3.2.2⟩
    · rw [if_neg hc] at p3
      obtain ⟨q1, q2, q3⟩ := p3
      have hiff : (t.opening = true ∧ Frame.rping ∈ rest) ↔ (t.opening = true ∧ Frame.rping ∈ f :: rest) := by
        rw [List.mem_cons]
        exact ⟨fun hx => ⟨hx.1, .inr hx.2⟩, fun hx => ⟨hx.1, hx.2.resolve_left (fun e => hc ⟨hx.1, e.symm⟩)⟩⟩
      rw [q1, q2, q3] at i3
      simp only [hiff] at i3
      exact ⟨i1.trans p1, i2.trans p2, i3⟩

end Scales.MuxT

namespace Scales.ResMux
open Scales.Transport
open Scales.MuxT

/-- phases of a transport: in its opening handshake (`opg`), never opened (`idl`), open (`opn`),
    closed (`cls`); what a pending, a failed, a successful open result says of the phase (`orp`,
    `orf`, `oro`).  Beside the transport's own invariants: `TInv` is `MuxT.Inv` and this; `opg` is
    `MuxT.InvO` and "the receive loop is alive". -/
structure TCore (t : MuxT.St) : Prop where
  opg : t.opening = true → t.cstate = .idle ∧ t.openRes = .pending ∧ t.pingWait = true ∧ t.rl ≠ .dead
  idl : t.cstate = .idle → t.opening = false → t.rl = .dead ∧ t.sl = .dead
  opn : t.cstate = .opened → t.opening = false ∧ t.openRes = .ok ∧ t.rl ≠ .dead
  cls : t.cstate = .closed → t.opening = false ∧ t.openRes ≠ .pending
  orp : t.openRes = .pending → t.opening = true
  orf : t.openRes = .failed → t.cstate = .closed
  oro : t.openRes = .ok → t.cstate ≠ .idle

structure TInv (t : MuxT.St) : Prop where
  i0 : Inv0 t
  pend : t.pending = []
  core : TCore t

variable {t t' : MuxT.St} {o : MuxT.Out}

theorem inv_of (t : MuxT.St) (h : TInv t) : MuxT.Inv t := ⟨h.i0, h.pend⟩

theorem tcore_handshake (hc : t.cstate = .idle) (ho : t.opening = true) (hr : t.openRes = .pending)
    (hp : t.pingWait = true) (hl : t.rl ≠ .dead) : TCore t := by
  constructor <;> simp [hc, ho, hr, hp, hl]

theorem tcore_opened (hc : t.cstate = .opened) (ho : t.opening = false) (hr : t.openRes = .ok)
    (hl : t.rl ≠ .dead) : TCore t := by
  constructor <;> simp [hc, ho, hr, hl]

theorem tcore_closed (hc : t.cstate = .closed) (ho : t.opening = false) (hr : t.openRes ≠ .pending) :
    TCore t := by
  constructor <;> simp [hc, ho, hr]

theorem tcore_init : TCore MuxT.St.init := by
  constructor <;> simp [MuxT.St.init]

theorem tinv_init : TInv MuxT.St.init := ⟨inv0_init, rfl, tcore_init⟩

theorem TInv.not_pending (h : TInv t) (ho : t.opening = false) : t.openRes ≠ .pending :=
  fun hx => by have := h.core.orp hx; rw [ho] at this; cases this

theorem TInv.opening_idle (h : TInv t) (ho : t.opening = true) : t.cstate = .idle := (h.core.opg ho).1

theorem TInv.opening_pending (h : TInv t) (ho : t.opening = true) : t.openRes = .pending := (h.core.opg ho).2.1

theorem TInv.opening_pingWait (h : TInv t) (ho : t.opening = true) : t.pingWait = true := (h.core.opg ho).2.2.1

structure SamePhase (t t' : MuxT.St) : Prop where
  cstate : t'.cstate = t.cstate
  opening : t'.opening = t.opening
  openRes : t'.openRes = t.openRes

structure Keep (t t' : MuxT.St) : Prop extends SamePhase t t' where
  rl : t'.rl = t.rl

theorem SamePhase.trans {t'' : MuxT.St} (a : SamePhase t t') (b : SamePhase t' t'') : SamePhase t t'' :=
  ⟨b.cstate.trans a.cstate, b.opening.trans a.opening, b.openRes.trans a.openRes⟩

theorem Keep.refl (t : MuxT.St) : Keep t t := ⟨⟨rfl, rfl, rfl⟩, rfl⟩

theorem Keep.trans {t'' : MuxT.St} (a : Keep t t') (b : Keep t' t'') : Keep t t'' :=
  ⟨a.toSamePhase.trans b.toSamePhase, b.rl.trans a.rl⟩

theorem Keep.pump (k : Keep t t') : Keep t t'.pump :=
  k.trans ⟨⟨pump_cstate t', pump_opening t', pump_openRes t'⟩, pump_rl t'⟩

theorem tcore_same (h : TCore t) (ph : SamePhase t t') (e4 : t.opening = true → t'.pingWait = true)
    (e5 : t'.rl = .dead ↔ t.rl = .dead) (e6 : t.sl = .dead → t'.sl = .dead) : TCore t' := by
  obtain ⟨e1, e2, e3⟩ := ph
  constructor
  · intro ho
    rw [e2] at ho
    obtain ⟨a, b, _, d⟩ := h.opg ho
    exact ⟨e1.trans a, e3.trans b, e4 ho, fun hx => d (e5.mp hx)⟩
  · intro hcs ho
    obtain ⟨a, b⟩ := h.idl (e1 ▸ hcs) (e2 ▸ ho)
    exact ⟨e5.mpr a, e6 b⟩
  · intro hcs
    obtain ⟨a, b, c⟩ := h.opn (e1 ▸ hcs)
    exact ⟨e2.trans a, e3.trans b, fun hx => c (e5.mp hx)⟩
  · intro hcs
    rw [e2, e3]; exact h.cls (e1 ▸ hcs)
  · rw [e2, e3]; exact h.orp
  · rw [e1, e3]; exact h.orf
  · rw [e1, e3]; exact h.oro

theorem tcore_pump {t : MuxT.St} (h : TCore t) : TCore t.pump :=
  tcore_same h ⟨pump_cstate t, pump_opening t, pump_openRes t⟩ (fun ho => by rw [pump_pingWait]; exact (h.opg ho).2.2.1)
    (by rw [pump_rl]) (pump_sl_dead t)

/-- the connection of a transport, as the peer sees it -/
def connOf (t : MuxT.St) : CP :=
  if t.cstate = .opened then .up else if t.opening = true then .hs else .none

theorem connOf_up : connOf t = .up ↔ t.cstate = .opened := by
  unfold connOf
  split
  · simp [*]
  · split <;> simp [*]

theorem connOf_hs (h : TInv t) : connOf t = .hs ↔ t.opening = true := by
  unfold connOf
  split
  · rename_i hc; simp [(h.core.opn hc).1]
  · split <;> simp [*]

theorem connOf_none : connOf t = .none ↔ t.cstate ≠ .opened ∧ t.opening = false := by
  unfold connOf
  split
  · simp [*]
  · split <;> simp [*]

theorem connOf_closed (h : TInv t) (hc : t.cstate = .closed) : connOf t = .none :=
  connOf_none.mpr ⟨by rw [hc]; simp, (h.core.cls hc).1⟩

theorem SamePhase.conn (ph : SamePhase t t') : connOf t' = connOf t := by
  simp only [connOf, ph.cstate, ph.opening]

theorem live_eq (t : MuxT.St) : live t = if connOf t = .none then 0 else 1 := by
  by_cases h1 : t.cstate = .opened
  · simp [live, connOf, h1]
  · by_cases h2 : t.opening = true <;> simp [live, connOf, h1, h2]

theorem conn_of_alive (h : TInv t) (ha : t.rl ≠ .dead ∨ t.sl ≠ .dead) : connOf t ≠ .none := by
  intro hc
  obtain ⟨h1, h2⟩ := connOf_none.mp hc
  cases hcs : t.cstate with
  | opened => exact h1 hcs
  | closed => exact ha.elim (fun x => x (h.i0.1 hcs).2.1) (fun x => x (h.i0.1 hcs).1)
  | idle => exact ha.elim (fun x => x (h.core.idl hcs h2).1) (fun x => x (h.core.idl hcs h2).2)

/-- what a step does to the phase of a transport: it stays in it, or its handshake is answered, or
    it is shut down — then, and only then, it raises its fault signal, and a pending open result
    has failed -/
inductive StepKind (t t' : MuxT.St) (o : MuxT.Out) : Prop where
  | keep (ph : SamePhase t t') (nf : o.eff.faults = 0)
  | answered (og : t.opening = true) (cs : t'.cstate = .opened) (nf : o.eff.faults = 0)
  | shut (cs : t'.cstate = .closed)
      (fail : t.opening = true → t'.openRes = .failed) (f : 0 < o.eff.faults)

/-- a step of the newest transport other than `Close()` and a connect -/
structure TStep (t t' : MuxT.St) (o : MuxT.Out) : Prop where
  inv : TInv t'
  conns : o.eff.conns = 0
  kind : StepKind t t' o

theorem TStep.of_closed (hs : TStep t t' o) (h : TInv t) (hc : t.cstate = .closed) :
    t'.cstate = .closed := by
  cases hs.kind with
  | keep ph => exact ph.cstate.trans hc
  | answered og => rw [(h.core.cls hc).1] at og; cases og
  | shut cs => exact cs

theorem TStep.of_none (hs : TStep t t' o) (hn : connOf t = .none) :
    connOf t' = .none := by
  cases hs.kind with
  | keep ph => exact ph.conn.trans hn
  | answered og => rw [(connOf_none.mp hn).2] at og; cases og
  | shut cs => exact connOf_closed hs.inv cs

theorem TStep.failed (hs : TStep t t' o) (h : TInv t) (ho : t.opening = true)
    (hc : t'.cstate = .closed) : t'.openRes = .failed := by
  cases hs.kind with
  | keep ph => rw [ph.cstate, h.opening_idle ho] at hc; cases hc
  | answered _ cs => rw [cs] at hc; cases hc
  | shut _ fail => exact fail ho

theorem TStep.of_keep (h : TInv t') (k : Keep t t') (he : o.eff = {}) : TStep t t' o :=
  ⟨h, by rw [he], .keep k.toSamePhase (by rw [he])⟩

theorem tinv_shut (t : MuxT.St) : TInv (t.shut []) :=
  ⟨inv0_drains.shut t [], rfl, tcore_closed rfl rfl (shut_openRes t [])⟩

theorem tinv_shutdown (b : Bool) (hp : t.pending = []) (hne : t.cstate ≠ .closed) :
    TInv (t.shutdown b).1 := by
  rw [shutdown_shut t t b hne rfl, hp]; exact tinv_shut t

/-- what a `_Shutdown` with the fault signal leaves at the end of its drain -/
theorem shut_tstep (h : TInv t) (hf : 0 < o.eff.faults) (hc : o.eff.conns = 0) : TStep t (t.shut []) o :=
  ⟨tinv_shut t, hc, .shut rfl (fun ho => if_pos (h.opening_pending ho)) hf⟩

theorem shutdown_tstep (h : TInv t) (hne : t.cstate ≠ .closed) :
    TStep t (t.shutdown true).1 { eff := (t.shutdown true).2 } := by
  rw [shutdown_shut t t true hne rfl, h.pend]; exact shut_tstep h Nat.one_pos rfl

theorem pump_tstep {t1 : MuxT.St} (h : TInv t) (hi : MuxT.Inv t1.pump) (k : Keep t t1)
    (e4 : t.opening = true → t1.pingWait = true) (e6 : t.sl = .dead → t1.sl = .dead) (he : o.eff = {}) :
    TStep t t1.pump o ∧ Keep t t1.pump :=
  ⟨.of_keep ⟨hi.1, hi.2, tcore_pump (tcore_same h.core k.toSamePhase e4 (by rw [k.rl]) e6)⟩ k.pump he, k.pump⟩

theorem wr_tstep (h : TInv t) (hen : isWriting t.sl = true) (o : IOOut) :
    TStep t (t.wr o).1 (t.wr o).2 ∧ (o = .ok → Keep t (t.wr o).1) ∧ (o ≠ .ok → (t.wr o).1.cstate = .closed) := by
  cases hsl : t.sl with
  | dead => rw [hsl] at hen; cases hen
  | waitQ => rw [hsl] at hen; cases hen
  | writing it =>
    by_cases ho : o = .ok
    · subst ho
      have hi := inv_step t (.wr .ok) (inv_of t h)
      rw [stepOut, wr_ok t it hsl] at hi
      rw [wr_ok t it hsl]
      have tk := pump_tstep (o := { sent := [it] }) h hi ⟨⟨rfl, rfl, rfl⟩, rfl⟩ h.opening_pingWait
        (fun hd => by rw [hsl] at hd; cases hd) rfl
      exact ⟨tk.1, fun _ => tk.2, fun hx => absurd rfl hx⟩
    · have hne : t.cstate ≠ .closed := fun e => by have := (h.i0.1 e).1; rw [hsl] at this; cases this
      rw [wr_fault t it o hsl ho]
      exact ⟨shutdown_tstep h hne, fun hx => absurd hx ho, fun _ => shutdown_cstate t true⟩

theorem request_tstep (h : TInv t) (hno : t.opening = false) (id tag : Nat) :
    TStep t (t.request id tag).1 (t.request id tag).2 ∧ Keep t (t.request id tag).1 ∧
    (t.cstate = .opened → (t.request id tag).2.eff.dels = []) := by
  have hi := inv_step t (.req id tag) (inv_of t h)
  rw [stepOut] at hi
  by_cases hop : t.cstate = .opened
  · rw [request_opened t id tag hop hno] at hi ⊢
    have tk := pump_tstep (o := {}) h hi ⟨⟨rfl, rfl, rfl⟩, rfl⟩ h.opening_pingWait (fun x => x) rfl
    exact ⟨tk.1, tk.2, fun _ => rfl⟩
  · rw [request_rejected t id tag hop hno]
    exact ⟨⟨h, rfl, .keep ⟨rfl, rfl, rfl⟩ rfl⟩, .refl t, fun hx => absurd hx hop⟩

theorem pingDue_tstep (h : TInv t) : TStep t t.pingDue.1 t.pingDue.2 ∧ Keep t t.pingDue.1 := by
  have hi := inv_step t .pingDue (inv_of t h)
  rw [stepOut] at hi
  by_cases hc : t.pingLoop = true ∧ t.pingWait = false ∧ t.cstate = .opened
  · rw [pingDue_eq t hc.1 hc.2.1 hc.2.2] at hi ⊢
    exact pump_tstep h hi ⟨⟨rfl, rfl, rfl⟩, rfl⟩ (fun _ => rfl) id rfl
  · rw [pingDue_noop t hc]
    exact ⟨.of_keep h (.refl t) rfl, .refl t⟩

theorem pingSilence_tstep (h : TInv t) :
    TStep t t.pingSilence.1 t.pingSilence.2 ∧ (t.pingSilence.1.cstate = .closed ∨ Keep t t.pingSilence.1) := by
  cases hpw : t.pingWait with
  | true =>
    have hne : t.cstate ≠ .closed := fun e => by have := (h.i0.1 e).2.2; rw [hpw] at this; cases this
    rw [pingSilence_eq t hpw]
    exact ⟨shutdown_tstep h hne, .inl (shutdown_cstate t true)⟩
  | false =>
    rw [pingSilence_noop t hpw]
    exact ⟨.of_keep h (.refl t) rfl, .inr (.refl t)⟩

theorem close_tinv (h : TInv t) : TInv t.close.1 ∧ t.close.2.eff.conns = 0 :=
  ⟨(Decidable.em (t.cstate = .closed)).elim (fun hc => by rw [MuxT.St.close, shutdown_closed t false hc]; exact h)
    (tinv_shutdown false h.pend), shutdown_conns t false⟩

def rlOf (b : Bool) : RL := if b then .body else .hdr

def isBody : RL → Bool
  | .body => true
  | _ => false

theorem rlOf_isBody (r : RL) (h : r ≠ .dead) : rlOf (isBody r) = r := by
  cases r <;> simp_all [rlOf, isBody]

theorem isBody_rlOf (b : Bool) : isBody (rlOf b) = b := by cases b <;> rfl

theorem rlOf_ne_dead (b : Bool) : rlOf b ≠ .dead := by cases b <;> simp [rlOf]

theorem readsGo_hdr (f : Frame) (rest : List (IOOut × Frame)) (acc : List Frame) :
    readsGo false ((.ok, f) :: rest) acc = readsGo true rest acc := rfl

theorem readsGo_body (f : Frame) (rest : List (IOOut × Frame)) (acc : List Frame) :
    readsGo true ((.ok, f) :: rest) acc = readsGo false rest (acc ++ [f]) := rfl

theorem readsGo_fail (b : Bool) (o : IOOut) (f : Frame) (rest : List (IOOut × Frame)) (acc : List Frame)
    (h : o ≠ .ok) : readsGo b ((o, f) :: rest) acc = (acc, b, true) := by
  rw [readsGo, if_neg h]

theorem readsGo_failed : ∀ (rs : List (IOOut × Frame)) (b : Bool) (acc : List Frame),
    (readsGo b rs acc).2.2 = rs.any (fun r => r.1 ≠ .ok)
  | [], _, _ => rfl
  | (o, f) :: rest, b, acc => by
    by_cases ho : o = .ok
    · subst ho
      cases b
      · rw [readsGo_hdr, readsGo_failed rest]; simp
      · rw [readsGo_body, readsGo_failed rest]; simp
    · rw [readsGo_fail b o f rest acc ho]; simp [ho]

/-- `readsGo` is the specification's account of the same reads (Adapter/ResMux.lean), its accumulator
    the transport's queue of frames awaiting dispatch; the loop's progress is stated through it, here
    and in `burst_tstep_ok`, so that the coupling (`reads_env`) needs no second induction over the reads. -/
theorem rdMany_ok_frames : ∀ (rs : List (IOOut × Frame)) (t : MuxT.St),
    t.rl ≠ .dead → (∀ r ∈ rs, r.1 = IOOut.ok) →
    t.rdMany rs = (({ t with rl := rlOf (readsGo (isBody t.rl) rs t.pending).2.1,
                             pending := (readsGo (isBody t.rl) rs t.pending).1 } : MuxT.St), ({} : Eff)) := by
  intro rs
  induction rs with
  | nil =>
    intro t hrl _
    simp only [readsGo, MuxT.St.rdMany]
    rw [rlOf_isBody t.rl hrl]
  | cons r rest ih =>
    intro t hrl hall
    obtain ⟨o, f⟩ := r
    have ho : o = .ok := hall (o, f) (by simp)
    subst ho
    have hrest : ∀ r ∈ rest, r.1 = IOOut.ok := fun r hr => hall r (List.mem_cons_of_mem _ hr)
    cases hr : t.rl with
    | dead => exact absurd hr hrl
    | hdr =>
      rw [rdMany_cons, rdRaw_hdr_ok t f hr, ih ({ t with rl := .body } : MuxT.St) nofun hrest]
      rfl
    | body =>
      rw [rdMany_cons, rdRaw_body_ok t f hr,
        ih ({ t with rl := .hdr, pending := t.pending ++ [f] } : MuxT.St) nofun hrest]
      rfl

theorem burst_tstep_fail (h : TInv t) (hrl : t.rl ≠ .dead) (rs : List (IOOut × Frame))
    (hany : rs.any (fun r => r.1 ≠ .ok) = true) :
    TStep t (t.burst rs).1 (t.burst rs).2 ∧ (t.burst rs).1.cstate = .closed := by
  rw [burst_fault t rs h.i0 hrl hany]
  exact ⟨shut_tstep h Nat.one_pos rfl, rfl⟩

theorem burst_tstep_ok (h : TInv t) (hrl : t.rl ≠ .dead) (rs : List (IOOut × Frame))
    (hany : rs.any (fun r => r.1 ≠ .ok) = false) :
    TStep t (t.burst rs).1 (t.burst rs).2 ∧
    (t.burst rs).1.rl = rlOf (readsGo (isBody t.rl) rs []).2.1 ∧
    (if t.opening = true ∧ Frame.rping ∈ (readsGo (isBody t.rl) rs []).1 then
       (t.burst rs).1.cstate = .opened
     else SamePhase t (t.burst rs).1) := by
  have hi := inv_step t (.burst rs) (inv_of t h)
  simp only [stepOut] at hi
  have hrm := rdMany_ok_frames rs t hrl (fun r hr => by simpa using List.any_eq_false.mp hany r hr)
  rw [h.pend] at hrm
  generalize readsGo (isBody t.rl) rs [] = x at *
  have hb : t.burst rs =
      ((dispatchGo x.1 ({ t with rl := rlOf x.2.1, pending := [] } : MuxT.St)).1,
       { eff := { dels := (dispatchGo x.1 ({ t with rl := rlOf x.2.1, pending := [] } : MuxT.St)).2 } }) := by
    simp [MuxT.St.burst, hrm, MuxT.St.dispatch]
  rw [hb] at hi ⊢
  have hO : InvO ({ t with rl := rlOf x.2.1, pending := [] } : MuxT.St) := fun ho =>
    ⟨h.opening_pending ho, h.opening_idle ho, h.opening_pingWait ho⟩
  obtain ⟨d1, d2, d3⟩ := dispatchGo_phase x.1 _ hO
  have hl : (dispatchGo x.1 ({ t with rl := rlOf x.2.1, pending := [] } : MuxT.St)).1.rl ≠ .dead := by
    rw [d1]; exact rlOf_ne_dead x.2.1
  split at d3
  · rename_i hc
    rw [if_pos hc]
    exact ⟨⟨⟨hi.1, hi.2, tcore_opened d3.1 d3.2.1 d3.2.2 hl⟩, rfl, .answered hc.1 d3.1 rfl⟩, d1, d3.1⟩
  · rename_i hc
    rw [if_neg hc]
    have ph : SamePhase t _ := ⟨d3.1, d3.2.1, d3.2.2⟩
    exact ⟨⟨⟨hi.1, hi.2, tcore_same h.core ph (fun ho => (invO_drains.dispatchGo x.1 _ hO (d3.2.1.trans ho)).2.2)
      ⟨fun x => absurd x hl, fun x => absurd x hrl⟩ (fun x => d2.trans x)⟩, rfl, .keep ph rfl⟩, d1, ph⟩

theorem burst_tstep (h : TInv t) (hrl : t.rl ≠ .dead) (rs : List (IOOut × Frame)) :
    TStep t (t.burst rs).1 (t.burst rs).2 := by
  cases hany : rs.any (fun r => r.1 ≠ .ok)
  · exact (burst_tstep_ok h hrl rs hany).1
  · exact (burst_tstep_fail h hrl rs hany).1

theorem race_tstep (h : TInv t) (hrl : t.rl = .body) (f : Frame) (o : IOOut) (ho : o ≠ .ok) :
    TStep t (raceT t f o).1 (raceT t f o).2 ∧ (raceT t f o).1.cstate = .closed := by
  have hrl' : t.rl ≠ .dead := by rw [hrl]; simp
  unfold raceT
  split
  · exact burst_tstep_fail h hrl' [(.ok, f), (o, .junk)] (by simp [ho])
  · rename_i hc
    -- the frame: a successful body read that does not complete the handshake; the failing read then shuts a
    -- transport with the open result of `t`, and that is all a shut transport remembers
    obtain ⟨s1, r1, c1⟩ := burst_tstep_ok h hrl' [(.ok, f)] (by simp)
    have hfs : readsGo (isBody t.rl) [(IOOut.ok, f)] [] = ([f], false, false) := by rw [hrl]; rfl
    rw [hfs, if_neg (fun hx => hc ⟨hx.1, (List.mem_singleton.mp hx.2).symm⟩)] at c1
    rw [show t.rd .ok f = t.burst [(.ok, f)] from rfl]
    generalize t.burst [(IOOut.ok, f)] = r at *
    simp only []
    rw [show r.1.rd o .junk = r.1.burst [(o, .junk)] from rfl,
      burst_fault r.1 [(o, .junk)] s1.inv.i0 (by rw [r1]; exact rlOf_ne_dead _) (by simp [ho]),
      show r.1.shut [] = t.shut [] by simp only [MuxT.St.shut, c1.openRes]]
    exact ⟨shut_tstep h (Nat.succ_pos _) rfl, rfl⟩

end Scales.ResMux
