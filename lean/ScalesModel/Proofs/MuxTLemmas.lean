/-
  Proofs/MuxTLemmas.lean — the ThriftMux transport model by itself.  Invariants are proved once per
  building block of a drain (`Drains`) and once per state change of an operation (`Stable`).  A
  `_Shutdown` of a transport that is not closed leaves the record `St.shut` (a closed one is left as it is),
  on which the rest of a drain is idle; so a drain that reads (`burst`, `race`) and a connection failure come
  down to replies handed out (`DispFacts`) and at most one `_Shutdown`, and `Shape` tables what one enabled
  operation other than a request does.
-/
import ScalesModel.Adapter.MuxT
import ScalesModel.Proofs.TransportLemmas
namespace Scales.MuxT
open Scales.Transport

def Inv0 (s : St) : Prop :=
  (s.cstate = .closed → s.sl = .dead ∧ s.rl = .dead ∧ s.pingWait = false) ∧
  (s.cstate ≠ .opened → s.tagMap = [])

def InvO (s : St) : Prop :=
  s.opening = true → s.openRes = .pending ∧ s.cstate = .idle ∧ s.pingWait = true

/-- between two operations: every operation ends with a drain, so no `_ProcessReply` greenlet is pending -/
def Inv (s : St) : Prop := Inv0 s ∧ s.pending = []

theorem inv0_init : Inv0 St.init := by simp [Inv0, St.init]

theorem invO_init : InvO St.init := by intro h; cases h

theorem inv_init : Inv St.init := ⟨inv0_init, rfl⟩

theorem invO_of_not_opening (s : St) (h : s.opening = false) : InvO s := by
  intro e; rw [h] at e; cases e

abbrev St.recv (s : St) (r : RL) (p : List Frame) : St := { s with rl := r, pending := p }

theorem not_closed_of_rl {s : St} (h : Inv0 s) (hrl : s.rl ≠ .dead) : s.cstate ≠ .closed :=
  fun e => hrl (h.1 e).2.1

theorem shutdown_eq (s : St) (b : Bool) (h : s.cstate ≠ .closed) :
    s.shutdown b =
      ({ cstate := .closed, hasOpenResult := false, opening := false,
         openRes := if s.openRes = .pending then .failed else s.openRes,
         tagMap := [], sendQ := [], sl := .dead, rl := .dead, pingLoop := false, pingWait := false,
         pending := s.pending },
       { faults := if b then 1 else 0, dels := s.tagMap.map (fun p => (p.2, Resp.cerr)) }) := by
  simp [St.shutdown, h]

theorem shutdown_closed (s : St) (b : Bool) (h : s.cstate = .closed) : s.shutdown b = (s, {}) := by
  simp [St.shutdown, h]

/-- What a `_Shutdown` leaves of a transport `s` that was not closed, `p` the frames whose `_ProcessReply`
    greenlets have not run.  Of `s` only the open result survives, and the fault flag decides the signal,
    not the state: wherever in a drain the `_Shutdown` happens the state is this record (`shutdown_shut`),
    its fields read off by `rfl`.  The rest of that drain is idle on it (`shut_dispatch` … `shut_rdMany`);
    `_OpenImpl`, if it resumes, leaves the transport closed (DESIGN.md §9.3, F16). -/
def St.shut (s : St) (p : List Frame) : St :=
  { cstate := .closed, hasOpenResult := false, opening := false,
    openRes := if s.openRes = .pending then .failed else s.openRes, tagMap := [], sendQ := [],
    sl := .dead, rl := .dead, pingLoop := false, pingWait := false, pending := p }

theorem shutdown_shut (s u : St) (b : Bool) (hu : u.cstate ≠ .closed) (hor : u.openRes = s.openRes) :
    u.shutdown b =
      (s.shut u.pending, { faults := if b then 1 else 0, dels := u.tagMap.map (fun p => (p.2, Resp.cerr)) }) := by
  rw [shutdown_eq u b hu, hor]; rfl

@[simp] theorem shutdown_pending (s : St) (b : Bool) : (s.shutdown b).1.pending = s.pending := by
  unfold St.shutdown; split <;> rfl

theorem shutdown_pending_nil (s : St) (b : Bool) (p : List Frame) :
    ({ (({ s with pending := p } : St).shutdown b).1 with pending := [] } : St) =
      (({ s with pending := [] } : St).shutdown b).1 := by
  by_cases hc : s.cstate = .closed <;> simp [St.shutdown, hc]

theorem shutdown_pending_eff (s : St) (b : Bool) (p : List Frame) :
    (({ s with pending := p } : St).shutdown b).2 = (({ s with pending := [] } : St).shutdown b).2 := by
  by_cases hc : s.cstate = .closed <;> simp [St.shutdown, hc]

@[simp] theorem pump_cstate (s : St) : s.pump.cstate = s.cstate := by
  unfold St.pump; split <;> rfl
@[simp] theorem pump_tagMap (s : St) : s.pump.tagMap = s.tagMap := by
  unfold St.pump; split <;> rfl
@[simp] theorem pump_rl (s : St) : s.pump.rl = s.rl := by
  unfold St.pump; split <;> rfl
@[simp] theorem pump_pingWait (s : St) : s.pump.pingWait = s.pingWait := by
  unfold St.pump; split <;> rfl
@[simp] theorem pump_openRes (s : St) : s.pump.openRes = s.openRes := by
  unfold St.pump; split <;> rfl
@[simp] theorem pump_opening (s : St) : s.pump.opening = s.opening := by
  unfold St.pump; split <;> rfl
@[simp] theorem pump_pending (s : St) : s.pump.pending = s.pending := by
  unfold St.pump; split <;> rfl

theorem pump_sl_dead (s : St) (h : s.sl = .dead) : s.pump.sl = .dead := by
  unfold St.pump; split <;> simp_all

theorem openT_eq (s : St) (r : Conn) (hidle : s.cstate = .idle) (hnor : s.hasOpenResult = false) :
    s.openT r =
      match r with
      | .refuse =>
        ((({ s with hasOpenResult := true, openRes := .pending } : St).shutdown true).1,
         { eff := { (({ s with hasOpenResult := true, openRes := .pending } : St).shutdown true).2 with
                    conns := 1 } })
      | .ok =>
        (({ s with hasOpenResult := true, openRes := .pending, opening := true, tagMap := [],
                   sendQ := [.ping], sl := .waitQ, rl := .hdr, pingWait := true } : St).pump,
         { eff := { conns := 1 } }) := by
  cases r <;> simp [St.openT, hidle, hnor]

theorem openT_noop (s : St) (r : Conn) (h : s.hasOpenResult = true ∨ s.cstate ≠ .idle) :
    s.openT r = (s, {}) := by
  rcases h with h | h <;> simp [St.openT, h]

theorem request_opened (s : St) (id tag : Nat) (hc : s.cstate = .opened) (ho : s.opening = false) :
    s.request id tag =
      (({ s with tagMap := s.tagMap ++ [(tag, id)], sendQ := s.sendQ ++ [.req tag id] } : St).pump, {}) := by
  simp [St.request, ho, hc]

theorem request_rejected (s : St) (id tag : Nat) (hc : s.cstate ≠ .opened) (ho : s.opening = false) :
    s.request id tag = (s, { eff := { dels := [(id, .other)] } }) := by
  simp [St.request, ho, hc]

theorem request_blocked (s : St) (id tag : Nat) (ho : s.opening = true) : s.request id tag = (s, {}) := by
  simp [St.request, ho]

theorem wr_ok (s : St) (it : Item) (h : s.sl = .writing it) :
    s.wr .ok = (({ s with sl := .waitQ } : St).pump, { sent := [it] }) := by
  simp [St.wr, h]

theorem wr_fault (s : St) (it : Item) (o : IOOut) (h : s.sl = .writing it) (ho : o ≠ .ok) :
    s.wr o = ((s.shutdown true).1, { eff := (s.shutdown true).2 }) := by
  cases o <;> simp_all [St.wr]

theorem wr_idle (s : St) (o : IOOut) (h : ∀ it, s.sl ≠ .writing it) : s.wr o = (s, {}) := by
  unfold St.wr
  split
  · rename_i it hsl; exact absurd hsl (h it)
  · rfl

theorem pingSilence_eq (s : St) (h : s.pingWait = true) :
    s.pingSilence = ((s.shutdown true).1, { eff := (s.shutdown true).2 }) := by
  simp [St.pingSilence, h]

theorem pingSilence_noop (s : St) (h : s.pingWait = false) : s.pingSilence = (s, {}) := by
  simp [St.pingSilence, h]

theorem pingDue_eq (s : St) (hl : s.pingLoop = true) (hw : s.pingWait = false) (hc : s.cstate = .opened) :
    s.pingDue = (({ s with pingWait := true, sendQ := s.sendQ ++ [.ping] } : St).pump, {}) := by
  simp [St.pingDue, hl, hw, hc]

theorem pingDue_noop (s : St) (h : ¬ (s.pingLoop = true ∧ s.pingWait = false ∧ s.cstate = .opened)) :
    s.pingDue = (s, {}) := by
  unfold St.pingDue
  split
  · rename_i hc
    simp only [Bool.and_eq_true, Bool.not_eq_true', decide_eq_true_eq] at hc
    exact absurd ⟨hc.1.1, hc.1.2, hc.2⟩ h
  · rfl

theorem rdRaw_dead (s : St) (o : IOOut) (f : Frame) (h : s.rl = .dead) : s.rdRaw o f = (s, {}) := by
  simp [St.rdRaw, h]

theorem rdRaw_hdr_ok (s : St) (f : Frame) (h : s.rl = .hdr) :
    s.rdRaw .ok f = ({ s with rl := .body }, {}) := by
  simp [St.rdRaw, h]

theorem rdRaw_body_ok (s : St) (f : Frame) (h : s.rl = .body) :
    s.rdRaw .ok f = ({ s with rl := .hdr, pending := s.pending ++ [f] }, {}) := by
  simp [St.rdRaw, h]

theorem rdRaw_fault (s : St) (o : IOOut) (f : Frame) (h : s.rl ≠ .dead) (ho : o ≠ .ok) :
    s.rdRaw o f = s.shutdown true := by
  cases hr : s.rl with
  | dead => exact absurd hr h
  | hdr => cases o <;> simp_all [St.rdRaw]
  | body => cases o <;> simp_all [St.rdRaw]

theorem rdRaw_ok (s : St) (f : Frame) (h : s.rl ≠ .dead) :
    ∃ r1 p1, r1 ≠ RL.dead ∧ s.rdRaw .ok f = (s.recv r1 p1, {}) := by
  cases hr : s.rl with
  | dead => exact absurd hr h
  | hdr => exact ⟨.body, s.pending, by simp, rdRaw_hdr_ok s f hr⟩
  | body => exact ⟨.hdr, s.pending ++ [f], by simp, rdRaw_body_ok s f hr⟩

theorem effApp_nil_right (e : Eff) : effApp e {} = e := by
  cases e; simp [effApp]

theorem effApp_nil_left (e : Eff) : effApp {} e = e := by
  cases e; simp [effApp]

theorem rdMany_cons (s : St) (o : IOOut) (f : Frame) (rest : List (IOOut × Frame)) :
    s.rdMany ((o, f) :: rest) =
      (((s.rdRaw o f).1.rdMany rest).1, effApp (s.rdRaw o f).2 ((s.rdRaw o f).1.rdMany rest).2) := rfl

theorem rdMany_dead : ∀ (rs : List (IOOut × Frame)) (s : St), s.rl = .dead → s.rdMany rs = (s, {})
  | [], _, _ => rfl
  | (o, f) :: rest, s, h => by
    rw [rdMany_cons, rdRaw_dead s o f h, rdMany_dead rest s h]; rfl

theorem hit_or (s : St) (x : Hit) : s.hit x = (s, {}) ∨ s.hit x = s.shutdown x.isFault := by
  cases x with
  | rdRaise => by_cases h : s.rl = .dead <;> simp [St.hit, h, Hit.isFault]
  | rdEof => by_cases h : s.rl = .dead <;> simp [St.hit, h, Hit.isFault]
  | wr => cases h : s.sl <;> simp [St.hit, h, Hit.isFault]
  | close => exact Or.inr rfl

/-- `hitOk` is asked of `s`, where the race begins; the event lands on `u`, the transport later in that drain -/
theorem hit_eq (s u : St) {rs : List (IOOut × Frame)} {pos : Pos} {x : Hit} (hok : hitOk s rs pos x = true)
    (hrl : u.rl ≠ .dead) (hsl : u.sl = s.sl) : u.hit x = u.shutdown x.isFault := by
  cases x with
  | rdRaise => simp [St.hit, hrl, Hit.isFault]
  | rdEof => simp [St.hit, hrl, Hit.isFault]
  | wr =>
    cases h : s.sl with
    | writing it => simp [St.hit, hsl, h, Hit.isFault]
    | dead => simp [hitOk, h] at hok
    | waitQ => simp [hitOk, h] at hok
  | close => rfl

/-- `P` holds of whatever a `_Shutdown` leaves and survives the rest a drain is made of: a
    `_ProcessReply` greenlet (one that wakes `_OpenImpl` included), the receive loop reading on,
    `_OpenImpl` resuming -/
structure Drains (P : St → Prop) : Prop where
  shut : ∀ (s : St) p, P (s.shut p)
  process : ∀ s f, P s → P (s.process f).1
  wake : ∀ s, P s → P { s with pingWait := false, opening := false }
  reads : ∀ s r p, P s → (s.rl = .dead → r = .dead) → P (s.recv r p)
  resumeOpen : ∀ s, P s → P s.resumeOpen

namespace Drains
variable {P : St → Prop} (h : Drains P)
include h

theorem shutdown (s : St) (b : Bool) (hp : P s) : P (s.shutdown b).1 := by
  by_cases hc : s.cstate = .closed
  · rw [shutdown_closed s b hc]; exact hp
  · rw [shutdown_shut s s b hc rfl]; exact h.shut s _

theorem processQ (s : St) (f : Frame) (hp : P s) : P (s.processQ f).1 := by
  unfold St.processQ
  split
  · exact h.wake s hp
  · exact h.process s f hp

theorem rdRaw (s : St) (o : IOOut) (f : Frame) (hp : P s) : P (s.rdRaw o f).1 := by
  by_cases hrl : s.rl = .dead
  · rw [rdRaw_dead s o f hrl]; exact hp
  · by_cases ho : o = .ok
    · obtain ⟨r, p, _, e⟩ := rdRaw_ok s f hrl
      rw [ho, e]; exact h.reads s r p hp (fun e => absurd e hrl)
    · rw [rdRaw_fault s o f hrl ho]; exact h.shutdown s true hp

theorem rdMany : ∀ (rs : List (IOOut × Frame)) (s : St), P s → P (s.rdMany rs).1
  | [], _, hp => hp
  | (o, f) :: rest, s, hp => rdMany rest _ (h.rdRaw s o f hp)

theorem dispatchGo : ∀ (fs : List Frame) (s : St), P s → P (dispatchGo fs s).1
  | [], _, hp => hp
  | f :: fs, s, hp => dispatchGo fs _ (h.process s f hp)

theorem dispatchQGo : ∀ (fs : List Frame) (s : St) (w : Bool), P s → P (dispatchQGo fs s w).1
  | [], _, _, hp => hp
  | f :: fs, s, _, hp => dispatchQGo fs _ _ (h.processQ s f hp)

theorem dispatch (s : St) (hp : P s) : P s.dispatch.1 :=
  h.dispatchGo _ _ (h.reads s s.rl [] hp id)

theorem burst (s : St) (rs : List (IOOut × Frame)) (hp : P s) : P (s.burst rs).1 :=
  h.dispatch _ (h.rdMany rs s hp)

theorem hit (s : St) (x : Hit) (hp : P s) : P (s.hit x).1 := by
  rcases hit_or s x with e | e <;> rw [e]
  · exact hp
  · exact h.shutdown s _ hp

theorem resumeIf (s : St) (w : Bool) (hp : P s) : P (s.resumeIf w) := by
  cases w
  · exact hp
  · exact h.resumeOpen s hp

theorem race (s : St) (rs : List (IOOut × Frame)) (pos : Pos) (x : Hit) (hp : P s) :
    P (s.race rs pos x).1 := by
  cases pos with
  | first => exact h.burst _ rs (h.hit s x hp)
  | pre => exact h.dispatch _ (h.hit _ x (h.rdMany rs s hp))
  | mid =>
    have hq : P (s.rdMany rs).1.dispatchQ.1 :=
      h.dispatchQGo _ _ false (h.reads _ _ [] (h.rdMany rs s hp) id)
    exact h.resumeIf _ _ (h.hit _ x hq)

end Drains

/-- `P` survives every operation: the drains that read, and the state changes of `Open()`,
    `AsyncProcessRequest`, a successful write, the ping loop, `_Shutdown` -/
structure Stable (P : St → Prop) : Prop where
  burst : ∀ s rs, P s → P (s.burst rs).1
  race : ∀ s rs pos x, P s → P (s.race rs pos x).1
  shutdown : ∀ s b, P s → P (s.shutdown b).1
  pump : ∀ s, P s → P s.pump
  openOk : ∀ s, P s → s.cstate = .idle → s.hasOpenResult = false →
    P { s with hasOpenResult := true, openRes := .pending, opening := true, tagMap := [],
               sendQ := [.ping], sl := .waitQ, rl := .hdr, pingWait := true }
  openRefuse : ∀ s, P s → s.cstate = .idle → s.hasOpenResult = false →
    P { s with hasOpenResult := true, openRes := .pending }
  request : ∀ s id tag, P s → s.opening = false → s.cstate = .opened →
    P { s with tagMap := s.tagMap ++ [(tag, id)], sendQ := s.sendQ ++ [.req tag id] }
  wrOk : ∀ s it, P s → s.sl = .writing it → P { s with sl := .waitQ }
  pingDue : ∀ s, P s → s.cstate = .opened → P { s with pingWait := true, sendQ := s.sendQ ++ [.ping] }

namespace Stable
variable {P : St → Prop} (h : Stable P)
include h

theorem openT (s : St) (r : Conn) (hp : P s) : P (s.openT r).1 := by
  by_cases hg : s.hasOpenResult = true ∨ s.cstate ≠ .idle
  · rw [openT_noop s r hg]; exact hp
  · have hidle : s.cstate = .idle := Decidable.byContradiction (fun e => hg (Or.inr e))
    have hnor : s.hasOpenResult = false := by simpa using fun e => hg (Or.inl e)
    rw [openT_eq s r hidle hnor]
    cases r with
    | refuse => exact h.shutdown _ true (h.openRefuse s hp hidle hnor)
    | ok => exact h.pump _ (h.openOk s hp hidle hnor)

theorem step (s : St) (op : Op) (hp : P s) : P (stepOut s op).1 := by
  cases op with
  | look => exact hp
  | openT r => exact h.openT s r hp
  | openBurst rs => exact h.burst _ rs (h.openT s .ok hp)
  | req id tag =>
    show P (s.request id tag).1
    by_cases ho : s.opening = true
    · rw [request_blocked s id tag ho]; exact hp
    · by_cases hc : s.cstate = .opened
      · rw [request_opened s id tag hc (by simpa using ho)]
        exact h.pump _ (h.request s id tag hp (by simpa using ho) hc)
      · rw [request_rejected s id tag hc (by simpa using ho)]; exact hp
  | wr o =>
    show P (s.wr o).1
    cases hsl : s.sl with
    | writing it =>
      by_cases ho : o = .ok
      · rw [ho, wr_ok s it hsl]; exact h.pump _ (h.wrOk s it hp hsl)
      · rw [wr_fault s it o hsl ho]; exact h.shutdown s true hp
    | dead => rw [wr_idle s o (by simp [hsl])]; exact hp
    | waitQ => rw [wr_idle s o (by simp [hsl])]; exact hp
  | rd o f => exact h.burst s _ hp
  | burst rs => exact h.burst s rs hp
  | race rs pos x => exact h.race s rs pos x hp
  | pingDue =>
    show P s.pingDue.1
    by_cases hg : s.pingLoop = true ∧ s.pingWait = false ∧ s.cstate = .opened
    · rw [pingDue_eq s hg.1 hg.2.1 hg.2.2]; exact h.pump _ (h.pingDue s hp hg.2.2)
    · rw [pingDue_noop s hg]; exact hp
  | pingSilence =>
    show P s.pingSilence.1
    by_cases hw : s.pingWait = true
    · rw [pingSilence_eq s hw]; exact h.shutdown s true hp
    · rw [pingSilence_noop s (by simpa using hw)]; exact hp
  | close => exact h.shutdown s false hp

theorem runOps (ops : List Op) : ∀ s, P s → P (runOps s ops) := by
  induction ops with
  | nil => exact fun _ hp => hp
  | cons op ops ih => exact fun s hp => ih _ (h.step s op hp)

end Stable

theorem inv0_drains : Drains Inv0 where
  shut _ _ := by simp [Inv0, St.shut]
  process s f h := by
    -- the branches of `St.process`, in its order: junk; the Rping `_OpenImpl` waits for; an Rping only the helper
    -- waits for; an Rping nobody waits for; a reply to a request in the tag map; a reply to none
    fun_cases St.process s f
    · exact h
    · simp [Inv0]
    · exact ⟨fun e => ⟨(h.1 e).1, (h.1 e).2.1, rfl⟩, h.2⟩
    · exact h
    · exact ⟨h.1, fun e => by simp only [h.2 e, List.filter_nil]⟩
    · exact h
  wake s h := ⟨fun e => ⟨(h.1 e).1, (h.1 e).2.1, rfl⟩, h.2⟩
  reads s r p h hr := ⟨fun e => ⟨(h.1 e).1, hr (h.1 e).2.1, (h.1 e).2.2⟩, h.2⟩
  resumeOpen s h := by
    unfold St.resumeOpen
    split
    · exact h
    · simp [Inv0]

theorem inv0_stable : Stable Inv0 where
  burst := inv0_drains.burst
  race := inv0_drains.race
  shutdown := inv0_drains.shutdown
  pump s h := ⟨fun e => ⟨pump_sl_dead s (h.1 (by simpa using e)).1, by simpa using (h.1 (by simpa using e)).2⟩,
    by simpa using h.2⟩
  openOk s _ hc _ := by simp [Inv0, hc]
  openRefuse s h hc _ := ⟨fun e => by simp [hc] at e, h.2⟩
  request s id tag _ _ hc := by simp [Inv0, hc]
  wrOk s it h hsl := ⟨fun e => by have := (h.1 e).1; simp [hsl] at this, h.2⟩
  pingDue s _ hc := by simp [Inv0, hc]

theorem invO_drains : Drains InvO where
  shut _ _ := invO_of_not_opening _ rfl
  process s f h := by
    fun_cases St.process s f with
    | case1 => exact h
    | case2 => exact invO_of_not_opening _ rfl
    | case3 _ ho => exact invO_of_not_opening _ (by simpa using ho)
    | case4 => exact h
    | case5 => exact h
    | case6 => exact h
  wake s _ := invO_of_not_opening _ rfl
  reads s r p h _ := h
  resumeOpen s h := by
    unfold St.resumeOpen
    split
    · exact h
    · exact invO_of_not_opening _ rfl

theorem invO_stable : Stable InvO where
  burst := invO_drains.burst
  race := invO_drains.race
  shutdown := invO_drains.shutdown
  pump s h := by simpa [InvO] using h
  openOk s _ hc _ := fun _ => ⟨rfl, hc, rfl⟩
  openRefuse s h hc _ := fun e => ⟨rfl, hc, (h e).2.2⟩
  request s id tag _ ho _ := invO_of_not_opening _ ho
  wrOk s it h _ := h
  pingDue s h hc := fun e => by have := (h e).2.1; rw [hc] at this; cases this

theorem invO_step (s : St) (op : Op) (h : InvO s) : InvO (stepOut s op).1 := invO_stable.step s op h

/-- no ping outstanding, or `_OpenImpl` not waiting for one: no `_ProcessReply` greenlet can wake it -/
theorem no_wake_drains : Drains (fun s => (s.pingWait && s.opening) = false) where
  shut _ _ := rfl
  process s f h := by
    fun_cases St.process s f
    · exact h
    · rfl
    · rfl
    · exact h
    · exact h
    · exact h
  wake _ _ := rfl
  reads _ _ _ h _ := h
  resumeOpen s h := by unfold St.resumeOpen; split <;> first | exact h | exact Bool.and_false _

theorem process_pending (s : St) (f : Frame) : (s.process f).1.pending = s.pending := by
  fun_cases St.process s f <;> rfl

theorem dispatchGo_pending : ∀ (fs : List Frame) (s : St), (dispatchGo fs s).1.pending = s.pending
  | [], _ => rfl
  | f :: fs, s => (dispatchGo_pending fs _).trans (process_pending s f)

theorem burst_pending (s : St) (rs : List (IOOut × Frame)) : (s.burst rs).1.pending = [] :=
  dispatchGo_pending _ _

theorem processQ_keeps (s : St) (f : Frame) :
    (s.processQ f).1.cstate = s.cstate ∧ (s.processQ f).1.rl = s.rl ∧ (s.processQ f).1.sl = s.sl ∧
    (s.processQ f).1.openRes = s.openRes ∧ (s.processQ f).1.pending = s.pending := by
  unfold St.processQ
  split
  · exact ⟨rfl, rfl, rfl, rfl, rfl⟩
  · rename_i hw
    fun_cases St.process s f with
    | case2 hp ho => exact absurd (by simp [St.wakes, hp, ho]) hw
    | _ => exact ⟨rfl, rfl, rfl, rfl, rfl⟩

theorem dispatchQGo_keeps : ∀ (fs : List Frame) (s : St) (w : Bool),
    (dispatchQGo fs s w).1.cstate = s.cstate ∧ (dispatchQGo fs s w).1.rl = s.rl ∧
    (dispatchQGo fs s w).1.sl = s.sl ∧ (dispatchQGo fs s w).1.openRes = s.openRes ∧
    (dispatchQGo fs s w).1.pending = s.pending
  | [], _, _ => ⟨rfl, rfl, rfl, rfl, rfl⟩
  | f :: fs, s, _ => by
    obtain ⟨a, b, c, d, e⟩ := dispatchQGo_keeps fs (s.processQ f).1 (_ || s.wakes f)
    obtain ⟨a', b', c', d', e'⟩ := processQ_keeps s f
    exact ⟨a.trans a', b.trans b', c.trans c', d.trans d', e.trans e'⟩

@[simp] theorem hit_pending (s : St) (x : Hit) : (s.hit x).1.pending = s.pending := by
  rcases hit_or s x with e | e <;> rw [e]
  exact shutdown_pending s _

@[simp] theorem resumeIf_pending (s : St) (w : Bool) : (s.resumeIf w).pending = s.pending := by
  cases w
  · rfl
  · simp only [St.resumeIf, St.resumeOpen]; split <;> rfl

theorem race_pending (s : St) (rs : List (IOOut × Frame)) (pos : Pos) (x : Hit) :
    (s.race rs pos x).1.pending = [] := by
  cases pos with
  | first => exact burst_pending _ rs
  | pre => exact dispatchGo_pending _ _
  | mid =>
    simp only [St.race, resumeIf_pending, hit_pending]
    exact (dispatchQGo_keeps _ _ false).2.2.2.2

theorem pending_stable : Stable (fun s => s.pending = []) where
  burst s rs _ := burst_pending s rs
  race s rs pos x _ := race_pending s rs pos x
  shutdown s b h := by simpa using h
  pump s h := by simpa using h
  openOk _ h _ _ := h
  openRefuse _ h _ _ := h
  request _ _ _ h _ _ := h
  wrOk _ _ h _ := h
  pingDue _ h _ := h

theorem inv_step (s : St) (op : Op) (h : Inv s) : Inv (stepOut s op).1 :=
  ⟨inv0_stable.step s op h.1, pending_stable.step s op h.2⟩

theorem process_closed (s : St) (f : Frame) (h : Inv0 s) (hc : s.cstate = .closed) :
    s.process f = (s, {}) := by
  have hpw := (h.1 hc).2.2
  have htm := h.2 (by rw [hc]; simp)
  cases f <;> simp [St.process, hpw, htm]

theorem dispatchGo_closed : ∀ (fs : List Frame) (s : St), Inv0 s → s.cstate = .closed →
    dispatchGo fs s = (s, [])
  | [], _, _, _ => rfl
  | f :: fs, s, h, hc => by
    simp [dispatchGo, process_closed s f h hc, dispatchGo_closed fs s h hc]

theorem dispatchQGo_eq_dispatchGo : ∀ (fs : List Frame) (s : St) (w : Bool), (s.pingWait && s.opening) = false →
    dispatchQGo fs s w = ((dispatchGo fs s).1, (dispatchGo fs s).2, w)
  | [], _, _, _ => rfl
  | f :: fs, s, w, h => by
    have hw : s.wakes f = false := by rw [St.wakes, Bool.and_assoc, h, Bool.and_false]
    simp only [dispatchQGo, dispatchGo, St.processQ, hw, Bool.or_false, Bool.false_eq_true, if_false]
    rw [dispatchQGo_eq_dispatchGo fs _ w (no_wake_drains.process s f h)]

theorem dispatchQGo_closed (fs : List Frame) (s : St) (w : Bool) (h : Inv0 s) (hc : s.cstate = .closed) :
    dispatchQGo fs s w = (s, [], w) := by
  rw [dispatchQGo_eq_dispatchGo fs s w (by rw [(h.1 hc).2.2]; rfl), dispatchGo_closed fs s h hc]

theorem rdRaw_pending_closed (s : St) (o : IOOut) (f : Frame) (h : Inv0 s) (hc : s.cstate = .closed) :
    s.rdRaw o f = (s, {}) := rdRaw_dead s o f (h.1 hc).2.1

theorem hit_closed (s : St) (x : Hit) (hc : s.cstate = .closed) : s.hit x = (s, {}) := by
  rcases hit_or s x with e | e
  · exact e
  · rw [e, shutdown_closed s _ hc]

theorem shut_openRes (s : St) (p : List Frame) : (s.shut p).openRes ≠ .pending := by
  simp only [St.shut]; split <;> simp_all

theorem shut_dispatch (s : St) (p : List Frame) : (s.shut p).dispatch = (s.shut [], []) :=
  dispatchGo_closed _ _ (inv0_drains.shut s []) rfl

theorem shut_dispatchQ (s : St) (p : List Frame) : (s.shut p).dispatchQ = (s.shut [], [], false) :=
  dispatchQGo_closed _ _ _ (inv0_drains.shut s []) rfl

theorem shut_hit (s : St) (p : List Frame) (x : Hit) : (s.shut p).hit x = (s.shut p, {}) := hit_closed _ x rfl

theorem shut_resumeIf (s : St) (p : List Frame) (w : Bool) : (s.shut p).resumeIf w = s.shut p := by
  cases w <;> rfl

theorem shut_rdMany (s : St) (p : List Frame) (rs : List (IOOut × Frame)) : (s.shut p).rdMany rs = (s.shut p, {}) :=
  rdMany_dead rs _ rfl

/-- The reads `rs` of a live receive loop: successful reads only move the loop between header and
    body and complete frames; the first failing read is a `_Shutdown` of the transport as the
    reads before it left it, and the reads behind it do not happen. -/
theorem rdMany_shape : ∀ (rs : List (IOOut × Frame)) (s : St), s.rl ≠ .dead → s.cstate ≠ .closed →
    ∃ r' p', r' ≠ RL.dead ∧
      (rs.any (fun r => r.1 ≠ .ok) = false ∧ s.rdMany rs = (s.recv r' p', {}) ∨
       rs.any (fun r => r.1 ≠ .ok) = true ∧
         s.rdMany rs = (s.shut p', { faults := 1, dels := s.tagMap.map (fun p => (p.2, Resp.cerr)) }))
  | [], s, h, _ => ⟨s.rl, s.pending, h, Or.inl ⟨rfl, rfl⟩⟩
  | (o, f) :: rest, s, h, hc => by
    by_cases ho : o = .ok
    · subst ho
      obtain ⟨r1, p1, h1, e⟩ := rdRaw_ok s f h
      have ha : ((IOOut.ok, f) :: rest).any (fun r => r.1 ≠ .ok) = rest.any (fun r => r.1 ≠ .ok) := by simp
      rw [rdMany_cons, e, effApp_nil_left, ha]
      exact rdMany_shape rest (s.recv r1 p1) h1 hc
    · refine ⟨s.rl, s.pending, h, Or.inr ⟨by simp [ho], ?_⟩⟩
      rw [rdMany_cons, rdRaw_fault s o f h ho, shutdown_shut s s true hc rfl, shut_rdMany, effApp_nil_right]; rfl

/-- a burst with a failing read is one `_Shutdown`: the `_ProcessReply` greenlets of the frames
    read before it run afterwards and are dropped -/
theorem burst_fault (s : St) (rs : List (IOOut × Frame)) (hinv : Inv0 s) (hrl : s.rl ≠ .dead)
    (hany : rs.any (fun r => r.1 ≠ .ok) = true) :
    s.burst rs = (s.shut [], { eff := { faults := 1, dels := s.tagMap.map (fun p => (p.2, Resp.cerr)) } }) := by
  obtain ⟨r', p', _, ⟨h2, _⟩ | ⟨_, h2⟩⟩ := rdMany_shape rs s hrl (not_closed_of_rl hinv hrl)
  · rw [hany] at h2; cases h2
  · simp only [St.burst, h2, shut_dispatch, List.append_nil]

def qItems (s : St) : List Item :=
  (match s.sl with
   | .writing it => [it]
   | _ => []) ++ s.sendQ

def qIds (s : St) : List Nat := (qItems s).filterMap itemId

@[simp] theorem itemId_ping : itemId .ping = none := rfl
@[simp] theorem itemId_req (t i : Nat) : itemId (.req t i) = some i := rfl

theorem qItems_pump (s : St) : qItems s.pump = qItems s := by
  unfold St.pump
  split
  · rename_i it rest hsl hq; simp [qItems, hsl, hq]
  · rfl

theorem qIds_pump (s : St) : qIds s.pump = qIds s := by simp [qIds, qItems_pump]

theorem lookup_mem (l : List (Nat × Nat)) (tag id : Nat) (h : l.lookup tag = some id) :
    (tag, id) ∈ l := by
  obtain ⟨l₁, l₂, rfl, _⟩ := List.lookup_eq_some_iff.mp h
  exact List.mem_append_right _ List.mem_cons_self

theorem erase_lookup (l : List (Nat × Nat)) (tag id : Nat) (ht : (l.map (·.1)).Nodup)
    (hi : (l.map (·.2)).Nodup) (h : l.lookup tag = some id) :
    (l.map (·.2)).erase id = (l.filter (fun p => p.1 ≠ tag)).map (·.2) := by
  -- `l = l₁ ++ (tag, id) :: l₂`, no entry of `l₁` under `tag`
  obtain ⟨l₁, l₂, rfl, h1⟩ := List.lookup_eq_some_iff.mp h
  simp only [List.map_append, List.map_cons, List.nodup_append, List.nodup_cons] at ht hi
  have e1 : l₁.filter (fun p => p.1 ≠ tag) = l₁ :=
    List.filter_eq_self.mpr fun p hp => decide_eq_true (Ne.symm (bne_iff_ne.mp (h1 p hp)))
  have e2 : l₂.filter (fun p => p.1 ≠ tag) = l₂ :=
    List.filter_eq_self.mpr fun p hp => by
      simpa using fun e : p.1 = tag => ht.2.1.1 (e ▸ List.mem_map_of_mem (f := (·.1)) hp)
  have hn : id ∉ l₁.map (·.2) := fun hm => hi.2.2 id hm id List.mem_cons_self rfl
  simp only [ne_eq, decide_not] at e1 e2
  simp [List.filter_append, e1, e2, List.erase_append_right _ hn]

/-- `_ProcessReply` greenlets take the transport from `s` to `t` and hand out `d`: every response is
    a reply, goes to a request in the tag map and removes it (`settle`: the form `specStep` consumes;
    membership is read off it by `settle_covers` of Proofs/MuxTSpecLemmas); nothing is entered or queued -/
structure DispFacts (s t : St) (d : List (Nat × Resp)) : Prop where
  settle : (s.tagMap.map (·.1)).Nodup → (s.tagMap.map (·.2)).Nodup →
    ∀ ab, settle (s.tagMap.map (·.2)) ab d = .ok (t.tagMap.map (·.2), ab)
  tmSub : t.tagMap.Sublist s.tagMap
  qSub : (qIds t).Sublist (qIds s)
  stream : ∀ p ∈ d, p.2 = Resp.stream

theorem DispFacts.of_eq {s t : St} (ht : t.tagMap = s.tagMap) (hq : qIds t = qIds s) : DispFacts s t [] :=
  ⟨fun _ _ ab => by rw [ht]; rfl, ht ▸ .refl _, hq ▸ .refl _, nofun⟩

theorem DispFacts.trans {s t u : St} {d1 d2 : List (Nat × Resp)} (F1 : DispFacts s t d1)
    (F2 : DispFacts t u d2) : DispFacts s u (d1 ++ d2) where
  settle ht hi ab := by
    rw [settle_append _ _ _ _ _ _ (F1.settle ht hi ab)]
    exact F2.settle (ht.sublist (F1.tmSub.map _)) (hi.sublist (F1.tmSub.map _)) ab
  tmSub := F2.tmSub.trans F1.tmSub
  qSub := F2.qSub.trans F1.qSub
  stream p hp := (List.mem_append.mp hp).elim (F1.stream p) (F2.stream p)

theorem process_facts (s : St) (f : Frame) : DispFacts s (s.process f).1 (s.process f).2.dels := by
  fun_cases St.process s f with
  | case5 tag id hl =>
    refine ⟨fun ht hi ab => ?_, List.filter_sublist, ?_, by simp⟩
    · have hmem : id ∈ s.tagMap.map (·.2) := List.mem_map_of_mem (f := (·.2)) (lookup_mem _ _ _ hl)
      rw [settle_cons_owed _ _ _ _ _ hmem, erase_lookup s.tagMap tag id ht hi hl, Transport.settle]
    · exact List.Sublist.filterMap _ (List.Sublist.append (List.Sublist.refl _) List.filter_sublist)
  | _ => exact .of_eq rfl rfl

theorem processQ_facts (s : St) (f : Frame) : DispFacts s (s.processQ f).1 (s.processQ f).2.dels := by
  unfold St.processQ
  split
  · exact .of_eq rfl rfl
  · exact process_facts s f

theorem dispatchGo_facts : ∀ (fs : List Frame) (s : St), DispFacts s (dispatchGo fs s).1 (dispatchGo fs s).2
  | [], _ => .of_eq rfl rfl
  | f :: fs, s => (process_facts s f).trans (dispatchGo_facts fs _)

theorem dispatchQGo_facts : ∀ (fs : List Frame) (s : St) (w : Bool),
    DispFacts s (dispatchQGo fs s w).1 (dispatchQGo fs s w).2.1
  | [], _, _ => .of_eq rfl rfl
  | f :: fs, s, _ => (processQ_facts s f).trans (dispatchQGo_facts fs _ _)

theorem burst_ok (s : St) (rs : List (IOOut × Frame)) (hinv : Inv0 s) (hrl : s.rl ≠ .dead)
    (hall : rs.any (fun r => r.1 ≠ .ok) = false) :
    ∃ t d, s.burst rs = (t, { eff := { dels := d } }) ∧ DispFacts s t d := by
  obtain ⟨r', p', _, ⟨_, h2⟩ | ⟨h2, _⟩⟩ := rdMany_shape rs s hrl (not_closed_of_rl hinv hrl)
  · exact ⟨(dispatchGo p' (s.recv r' [])).1, (dispatchGo p' (s.recv r' [])).2,
      by simp [St.burst, h2, St.dispatch],
      (DispFacts.of_eq (s := s) (t := s.recv r' []) rfl rfl).trans (dispatchGo_facts p' _)⟩
  · rw [hall] at h2; cases h2

theorem DispFacts.of_nil {s t : St} {d : List (Nat × Resp)} (F : DispFacts s t d) (h : s.tagMap = []) :
    d = [] ∧ t.tagMap = [] := by
  refine ⟨?_, List.sublist_nil.mp (h ▸ F.tmSub)⟩
  have := F.settle (by simp [h]) (by simp [h]) []
  rw [h] at this
  cases d with
  | nil => rfl
  | cons p rest => obtain ⟨i, r⟩ := p; rw [Transport.settle] at this; simp at this

theorem with_pending_nil (t : St) (h : t.pending = []) : ({ t with pending := [] } : St) = t := by
  cases t; simp_all

theorem raceFails_eq (rs : List (IOOut × Frame)) (pos : Pos) (x : Hit) :
    raceFails rs pos x = (x.isFault || (decide (pos ≠ .first) && rs.any (fun r => r.1 ≠ .ok))) := by
  cases x <;> simp [raceFails, Hit.isFault]

/-- An enabled race ends in what a `_Shutdown` of `s` leaves, no frame pending (`_OpenImpl`, if it resumes
    afterwards, leaves that closed transport alone).  `s1` is the transport after the `_ProcessReply`
    greenlets that ran before the `_Shutdown` (at position `mid` when all reads succeed, otherwise none),
    `d` what they delivered; a race that is a connection failure hands out nothing first. -/
theorem race_shape (s : St) (rs : List (IOOut × Frame)) (pos : Pos) (x : Hit) (hinv : Inv0 s)
    (hrl : s.rl ≠ .dead) (hok : hitOk s rs pos x = true) :
    ∃ (s1 : St) (d : List (Nat × Resp)),
      s.race rs pos x = (s.shut [],
        { eff := { faults := if raceFails rs pos x then 1 else 0,
                   dels := d ++ s1.tagMap.map (fun p => (p.2, Resp.cerr)) } }) ∧
      DispFacts s s1 d ∧
      (connFailure s (.race rs pos x) = true → d = [] ∧ s1.tagMap = s.tagMap ∧ raceFails rs pos x = true) := by
  have hc := not_closed_of_rl hinv hrl
  cases pos with
  | first =>
    have hb : raceFails rs .first x = x.isFault := by simp [raceFails_eq]
    refine ⟨s, [], ?_, .of_eq rfl rfl, fun hf => ⟨rfl, rfl, hb.trans ((Bool.and_eq_true _ _).mp hf).2⟩⟩
    simp only [St.race, hit_eq s s hok hrl rfl, shutdown_shut s s x.isFault hc rfl, St.burst, shut_rdMany, shut_dispatch,
      List.append_nil, effApp_nil_right, hb]
    rfl
  | pre =>
    obtain ⟨r', p', hr', ⟨hall, eR⟩ | ⟨hany, eR⟩⟩ := rdMany_shape rs s hrl hc
    · have hb : raceFails rs .pre x = x.isFault := by rw [raceFails_eq, hall]; simp
      -- the reads succeed: a race at `pre` that is a connection failure is one by its event
      refine ⟨s, [], ?_, .of_eq rfl rfl, fun hf => ⟨rfl, rfl,
        hb.trans (by simpa only [hall, Bool.false_or] using ((Bool.and_eq_true _ _).mp hf).2)⟩⟩
      simp only [St.race, eR, hit_eq s (s.recv r' p') hok hr' rfl, shutdown_shut s (s.recv r' p') x.isFault hc rfl,
        shut_dispatch, effApp_nil_left, effApp_nil_right, hb]
      rfl
    · have hb : raceFails rs .pre x = true := by rw [raceFails_eq, hany]; simp
      refine ⟨s, [], ?_, .of_eq rfl rfl, fun _ => ⟨rfl, rfl, hb⟩⟩
      simp only [St.race, eR, shut_hit, shut_dispatch, effApp_nil_right, hb]
      rfl
  | mid =>
    obtain ⟨r', p', hr', ⟨hall, eR⟩ | ⟨hany, eR⟩⟩ := rdMany_shape rs s hrl hc
    · -- the reads succeed and their frames are dispatched, to `s2`; that leaves state, loops and
      -- open result alone (`dispatchQGo_keeps`), so the event still finds its greenlet and is a
      -- `_Shutdown` of `s2`, leaving `s.shut []`; `_OpenImpl`, if the handshake's Rping was among the
      -- frames, resumes on that closed transport
      have hdq : (s.recv r' p').dispatchQ = dispatchQGo p' (s.recv r' []) false := rfl
      obtain ⟨k1, k2, k3, k4, k5⟩ := dispatchQGo_keeps p' (s.recv r' []) false
      have F := dispatchQGo_facts p' (s.recv r' []) false
      generalize dispatchQGo p' (s.recv r' []) false = q at hdq k1 k2 k3 k4 k5 F
      obtain ⟨s2, d2, w⟩ := q
      refine ⟨s2, d2, ?_, ⟨F.settle, F.tmSub, F.qSub, F.stream⟩, fun hf => ?_⟩
      · have hb : raceFails rs .mid x = x.isFault := by rw [raceFails_eq, hall]; simp
        simp only [St.race, eR, hdq, hit_eq s s2 hok (k2 ▸ hr') k3,
          shutdown_shut s s2 x.isFault (k1 ▸ hc) k4, shut_resumeIf, effApp_nil_left, hb]
        simp [effApp, show s2.pending = [] from k5]
      · simp only [connFailure, hall, Bool.and_false, Bool.false_eq_true] at hf
    · have hb : raceFails rs .mid x = true := by rw [raceFails_eq, hany]; simp
      refine ⟨s, [], ?_, .of_eq rfl rfl, fun _ => ⟨rfl, rfl, hb⟩⟩
      simp only [St.race, eR, shut_dispatchQ, shut_hit, St.resumeIf, effApp_nil_right, hb]
      rfl

theorem race_idle (s : St) (rs : List (IOOut × Frame)) (pos : Pos) (x : Hit) (hinv : Inv0 s)
    (hrl : s.rl ≠ .dead) (hok : hitOk s rs pos x = true) (htm : s.tagMap = []) :
    s.race rs pos x = (s.shut [], { eff := { faults := if raceFails rs pos x then 1 else 0 } }) := by
  obtain ⟨s1, d, e, F, _⟩ := race_shape s rs pos x hinv hrl hok
  obtain ⟨hd, h1⟩ := F.of_nil htm
  rw [e, hd, h1]; rfl

theorem openT_ok_facts (s : St) (hinv : Inv0 s) (hidle : s.cstate = .idle) (hnor : s.hasOpenResult = false) :
    ∃ s1 : St, s.openT .ok = (s1, { eff := { conns := 1 } }) ∧ DispFacts s s1 [] ∧ s1.rl ≠ .dead ∧ Inv0 s1 := by
  have hq : qIds ({ s with hasOpenResult := true, openRes := .pending, opening := true, tagMap := [],
                           sendQ := [.ping], sl := .waitQ, rl := .hdr, pingWait := true } : St).pump = [] := by
    rw [qIds_pump]; rfl
  refine ⟨_, openT_eq s .ok hidle hnor, ⟨fun _ _ ab => ?_, ?_, hq ▸ List.nil_sublist _, nofun⟩,
    by simp, inv0_stable.pump _ (inv0_stable.openOk s hinv hidle hnor)⟩
  · rw [pump_tagMap, hinv.2 (by simp [hidle])]; rfl
  · rw [pump_tagMap]; exact List.nil_sublist _

theorem failure_is_shutdown (s : St) (op : Op) (hinv : Inv0 s) (hf : connFailure s op = true) :
    ∃ (u : St) (p : List Frame) (c : Nat), stepOut s op =
      (u.shut p, { eff := { faults := 1, dels := s.tagMap.map (fun p => (p.2, Resp.cerr)), conns := c } }) := by
  -- the branches of `connFailure`, in its order; the last one is every other operation
  unfold connFailure at hf
  split at hf
  · simp only [Bool.and_eq_true, decide_eq_true_eq, Bool.not_eq_true'] at hf
    refine ⟨{ s with hasOpenResult := true, openRes := .pending }, s.pending, 1, ?_⟩
    rw [stepOut, openT_eq s .refuse hf.1 hf.2, shutdown_eq _ true (by simp [hf.1])]; rfl
  · rename_i rs
    simp only [Bool.and_eq_true, decide_eq_true_eq, Bool.not_eq_true'] at hf
    obtain ⟨⟨hidle, hnor⟩, hany⟩ := hf
    obtain ⟨s0, hop, F0, hrl0, hi0⟩ := openT_ok_facts s hinv hidle hnor
    have htm := hinv.2 (by simp [hidle])
    refine ⟨s0, [], 1, ?_⟩
    simp only [stepOut, St.openBurst, hop, burst_fault s0 rs hi0 hrl0 hany, (F0.of_nil htm).2, htm]
  · cases hsl : s.sl with
    | writing it =>
      refine ⟨s, s.pending, 0, ?_⟩
      rw [stepOut, wr_fault s it .raise hsl nofun, shutdown_eq s true fun e => by simp [(hinv.1 e).1] at hsl]; rfl
    | dead => simp [hsl] at hf
    | waitQ => simp [hsl] at hf
  · rename_i f; exact ⟨s, [], 0, burst_fault s [(.raise, f)] hinv (by simpa using hf) rfl⟩
  · rename_i f; exact ⟨s, [], 0, burst_fault s [(.eof, f)] hinv (by simpa using hf) rfl⟩
  · simp only [Bool.and_eq_true, decide_eq_true_eq] at hf
    exact ⟨s, [], 0, burst_fault s _ hinv hf.1 hf.2⟩
  · rename_i rs pos x
    have hf' : connFailure s (.race rs pos x) = true := hf
    simp only [Bool.and_eq_true, decide_eq_true_eq] at hf
    obtain ⟨s1, d, heq, _, hcf⟩ := race_shape s rs pos x hinv hf.1.1 hf.1.2
    obtain ⟨hd, htm, hfl⟩ := hcf hf'
    refine ⟨s, [], 0, ?_⟩
    rw [stepOut, heq, hfl, hd, htm]; rfl
  · refine ⟨s, s.pending, 0, ?_⟩
    rw [stepOut, pingSilence_eq s hf, shutdown_eq s true fun e => by simp [(hinv.1 e).2.2] at hf]; rfl
  · cases hf

/-- What an enabled operation `op` other than a request does to the transport `s`; `r` is its result. -/
inductive Shape (s : St) (op : Op) (r : St × Out) : Prop
  /-- `_ProcessReply` greenlets hand out the replies `d`; whatever else happens enters nothing in the tag
      map and queues no request -/
  | quiet (t : St) (d : List (Nat × Resp)) (c : Nat) (e : r = (t, { eff := { dels := d, conns := c } }))
      (F : DispFacts s t d) (hcl : isClose op = true → t.cstate = .closed)
      (hnf : ∀ o, isFailure op o = false) (hw : op ≠ .wr .ok)
  /-- the write of the send loop succeeds: its item is on the wire, the loop takes the next one -/
  | wrote (t : St) (it : Item) (e : r = (t, { sent := [it] })) (hop : op = .wr .ok) (hsl : s.sl = .writing it)
      (hq : qIds s = (itemId it).toList ++ qIds t) (htm : t.tagMap = s.tagMap)
  /-- `_ProcessReply` greenlets hand out `d` (only in a race) and leave the tag map of `s1`; then a
      `_Shutdown` fails that -/
  | shut (s1 u : St) (p : List Frame) (d : List (Nat × Resp)) (fl c : Nat)
      (e : r = (u.shut p,
        { eff := { faults := fl, dels := d ++ s1.tagMap.map (fun p => (p.2, Resp.cerr)), conns := c } }))
      (F : DispFacts s s1 d) (hd : d = [] ∨ ∃ rs pos x, op = .race rs pos x)
      (hfa : ∀ o, isFailure op o = true → fl ≠ 0) (hw : op ≠ .wr .ok)

theorem Shape.of_failure (s : St) (op : Op) (hinv : Inv0 s) (hf : connFailure s op = true) :
    Shape s op (stepOut s op) := by
  obtain ⟨u, p, c, e⟩ := failure_is_shutdown s op hinv hf
  exact .shut s u p [] 1 c e (.of_eq rfl rfl) (Or.inl rfl) (fun _ _ => by simp)
    (by intro e; subst e; simp [connFailure] at hf)

theorem step_shape (s : St) (seen : List Nat) (op : Op) (hinv : Inv0 s) (hreq : isReq op = none)
    (hen : enabled s seen op = true) : Shape s op (stepOut s op) := by
  -- reads that all succeed, on a transport `s0` that `s` led to with nothing handed out
  have reads : ∀ (s0 : St) (rs : List (IOOut × Frame)) (c : Nat), DispFacts s s0 [] → Inv0 s0 →
      s0.rl ≠ .dead → rs.any (fun r => r.1 ≠ .ok) = false → isClose op = false →
      (∀ o, isFailure op o = false) → op ≠ .wr .ok →
      Shape s op ((s0.burst rs).1, { eff := { (s0.burst rs).2.eff with conns := c } }) := by
    intro s0 rs c F0 hi0 hrl hall hcl hnf hw
    obtain ⟨t, d, e, F⟩ := burst_ok s0 rs hi0 hrl hall
    rw [e]
    exact .quiet t d c rfl (F0.trans F) (fun e => by rw [hcl] at e; cases e) hnf hw
  have noop : stepOut s op = (s, {}) → (isClose op = true → s.cstate = .closed) →
      (∀ o, isFailure op o = false) → op ≠ .wr .ok → Shape s op (stepOut s op) :=
    fun e hcl hnf hw => .quiet s [] 0 e (.of_eq rfl rfl) hcl hnf hw
  cases op with
  | look => exact noop rfl nofun (fun _ => rfl) nofun
  | req id tag => cases hreq
  | openT r =>
    cases r with
    | refuse => exact .of_failure s _ hinv hen
    | ok =>
      simp only [enabled, Bool.and_eq_true, decide_eq_true_eq, Bool.not_eq_true'] at hen
      obtain ⟨s1, e, F1, _⟩ := openT_ok_facts s hinv hen.1 hen.2
      exact .quiet s1 [] 1 e F1 nofun (fun _ => rfl) nofun
  | openBurst rs =>
    cases hany : rs.any (fun r => r.1 ≠ .ok) with
    | true => exact .of_failure s _ hinv (by rw [connFailure, hany, Bool.and_true]; exact hen)
    | false =>
      simp only [enabled, Bool.and_eq_true, decide_eq_true_eq, Bool.not_eq_true'] at hen
      obtain ⟨s1, e, F1, hrl1, hi1⟩ := openT_ok_facts s hinv hen.1 hen.2
      have := reads s1 rs 1 F1 hi1 hrl1 hany rfl (fun _ => hany) nofun
      simp only [stepOut, St.openBurst, e]
      exact this
  | wr o =>
    simp only [enabled, Bool.and_eq_true] at hen
    cases hsl : s.sl with
    | dead => simp [hsl] at hen
    | waitQ => simp [hsl] at hen
    | writing it =>
      cases o with
      | eof => simp at hen
      | raise => exact .of_failure s _ hinv (by simp [connFailure, hsl])
      | ok =>
        refine .wrote _ it (wr_ok s it hsl) rfl hsl ?_ (pump_tagMap _)
        rw [qIds_pump]
        simp only [qIds, qItems, hsl, List.filterMap_append, List.filterMap_cons, List.filterMap_nil]
        cases itemId it <;> rfl
  | rd o f =>
    have hrl : s.rl ≠ .dead := by simpa [enabled] using hen
    cases o with
    | ok => exact reads s [(.ok, f)] _ (.of_eq rfl rfl) hinv hrl rfl rfl (fun _ => rfl) nofun
    | raise => exact .of_failure s _ hinv hen
    | eof => exact .of_failure s _ hinv hen
  | burst rs =>
    have hrl : s.rl ≠ .dead := by simpa [enabled] using hen
    cases hany : rs.any (fun r => r.1 ≠ .ok) with
    | true => exact .of_failure s _ hinv (by rw [connFailure, hany, Bool.and_true]; exact hen)
    | false => exact reads s rs _ (.of_eq rfl rfl) hinv hrl hany rfl (fun _ => hany) nofun
  | race rs pos x =>
    simp only [enabled, Bool.and_eq_true, decide_eq_true_eq] at hen
    obtain ⟨s1, d, e, F, _⟩ := race_shape s rs pos x hinv hen.1 hen.2
    exact .shut s1 s [] d _ 0 e F (Or.inr ⟨rs, pos, x, rfl⟩) (fun _ hf => by simpa [isFailure] using hf) nofun
  | pingDue =>
    by_cases hg : s.pingLoop = true ∧ s.pingWait = false ∧ s.cstate = .opened
    · exact .quiet _ [] 0 (pingDue_eq s hg.1 hg.2.1 hg.2.2)
        (.of_eq (by simp) (by rw [qIds_pump]; simp [qIds, qItems, List.filterMap_append])) nofun (fun _ => rfl) nofun
    · exact noop (pingDue_noop s hg) nofun (fun _ => rfl) nofun
  | pingSilence => exact .of_failure s _ hinv hen
  | close =>
    by_cases hc : s.cstate = .closed
    · exact noop (by simp only [stepOut, St.close, shutdown_closed s false hc]) (fun _ => hc) (fun _ => rfl) nofun
    · exact .shut s s s.pending [] 0 0 (by simp only [stepOut, St.close, shutdown_eq s false hc]; rfl) (.of_eq rfl rfl)
        (Or.inl rfl) nofun nofun

/-- `step_shape` with the cases of `Shape` folded into four facts that hold in each: no id enters the queue, an
    empty tag map stays empty and nothing is handed out, at most the item under write is sent, a close closes -/
theorem step_facts (t : St) (seen : List Nat) (op : Op) (hinv : Inv0 t) (hreq : isReq op = none)
    (hen : enabled t seen op = true) :
    (∀ id ∈ qIds (stepOut t op).1, id ∈ qIds t) ∧
    (t.tagMap = [] → (stepOut t op).2.eff.dels = [] ∧ (stepOut t op).1.tagMap = []) ∧
    ((stepOut t op).2.sent = [] ∨ ∃ it, t.sl = .writing it ∧ (stepOut t op).2.sent = [it]) ∧
    (isClose op = true → (stepOut t op).1.cstate = .closed) := by
  rcases step_shape t seen op hinv hreq hen with
    ⟨_, _, _, e, F, hcl, _⟩ | ⟨_, it, e, hop, hsl, hq, htm⟩ | ⟨_, _, _, _, _, _, e, F, _⟩ <;> rw [e]
  · exact ⟨fun id hid => F.qSub.subset hid, F.of_nil, Or.inl rfl, hcl⟩
  · exact ⟨fun id hid => hq ▸ List.mem_append_right _ hid, fun h => ⟨rfl, htm.trans h⟩, Or.inr ⟨it, hsl, rfl⟩,
      fun h => by subst hop; cases h⟩
  · exact ⟨nofun, fun h => ⟨by simp [F.of_nil h], rfl⟩, Or.inl rfl, fun _ => rfl⟩

end Scales.MuxT
