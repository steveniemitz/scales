/-
  Proofs/WatermarkLemmas.lean — C07: what single operations do in a state between two operations
  that satisfies the invariant (`Reached`); Props/C07.lean instantiates these at the states reached
  by operation lists.
-/
import ScalesModel.Proofs.WatermarkStep

namespace Scales.Watermark

section facts
variable {cfg : Cfg} {s : St}

theorem opened_hands_over {sid : Nat} {ok : Bool} (hr : Reached cfg s)
    (ho : sid ∈ openingIds s.base) :
    ∃ c, (step cfg s (.opened sid ok)).2.evs = [.sent sid c] ∧
      ((s.base.calls[c]? = some (.connecting sid) ∧
        (step cfg s (.opened sid ok)).1.base.calls[c]? = some (.started sid)) ∨
       (s.base.calls[c]? = some (.orphan sid) ∧
        (step cfg s (.opened sid ok)).1.base.calls[c]? = some (.zombie sid))) ∧
      sid ∉ openingIds (step cfg s (.opened sid ok)).1.base ∧
      sid ∈ busyIds (step cfg s (.opened sid ok)).1.base ∧
      (step cfg s (.opened sid ok)).1.size = s.size := by
  have hop := mem_openingIds.1 ho
  let s' : St := { s with base := preOp s.base (.opened sid ok) }
  have hv' : s'.view = preOp s.base (.opened sid ok) := view_of_nil (s := s') hr.evs
  obtain ⟨c, hl, hres⟩ := openedSt_of_opening (s := s') (by rw [hv', isOpening_preOp]; exact hop)
  have hstep : stepSt cfg s (.opened sid ok) = s'.emit (.sent sid c) := hres
  have hS := sinkSet_sent s'.view c (holderOf_lt hl)
  rw [hv', holderOf_preOp] at hl
  rw [isOpening_eq, Bool.and_eq_true] at hop
  have hconn := hr.link.openConn sid c hop.1 hl
  rw [step_evs, step_fst, finish_base, hstep, view_emit]
  refine ⟨c, emit_evs_of_nil (s := s') hr.evs _, ?_, fun hm => ?_, mem_busyIds.2 ?_, rfl⟩
  · rw [calls_sent, hv', if_pos ⟨rfl, hconn.elim getElem?_lt getElem?_lt⟩, sentStat]
    rcases hconn with h1 | h1 <;> rw [show (preOp s.base (.opened sid ok)).calls[c]? = _ from h1]
    · exact .inl ⟨h1, rfl⟩
    · exact .inr ⟨h1, rfl⟩
  · have := mem_openingIds.1 hm
    rw [isOpening_eq, hS.flag, if_pos rfl] at this; cases this
  · rw [isBusy_eq, hS.flag, hS.holder, if_pos rfl, if_pos rfl]; rfl

theorem zombie_answer {c sid : Nat} (hr : Reached cfg s)
    (hz : s.base.calls[c]? = some (.zombie sid)) :
    (∃ tail, (step cfg s (.respond c)).2.evs = .rel sid :: tail) ∧
    (step cfg s (.respond c)).1.base.calls[c]? = some .done := by
  rw [← hr.view] at hz
  obtain ⟨_, a2, a3, _⟩ := release_lent (cfg := cfg) (hf := false) (gate := false) hr hz rfl
  rw [relStat, hz] at a3
  rw [step_evs, step_fst, finish_base, stepSt_respond_zombie cfg hz]
  exact ⟨a2, a3⟩

theorem request_no_overtake (ok lat : Bool) {sid : Nat} {st : CStat}
    (hr : Reached cfg s) (hnc : s.everClosed = false)
    (hstarted : (step cfg s (.request ok lat)).1.base.calls[s.base.calls.length]? = some st)
    (hholds : st.holds = some sid) :
    pendingIds s.base = [] := by
  have hstarted' : (stepSt cfg s (.request ok lat)).view.calls[s.base.calls.length]? = some st := hstarted
  rw [stepSt_request] at hstarted'
  cases hg : get cfg { s with base := preOp s.base (.request ok lat) } (lat || ok) with | mk s1 res
  obtain ⟨g1, g2⟩ := get_spec (cfg := cfg) (lat || ok) rfl
    ((inv_preOp_request hr ok lat).minv false false) s1 res hg
  rw [hg] at hstarted'
  have hcarr := (arriving_after_get hr.evs g1).1
  have hclt := getElem?_lt hcarr
  cases res with
  | sink sid' fresh =>
    rw [← hr.view]
    exact pendingIds_nil_of_waiters_nil hr.inv (g1.waiters ▸ g2.2 (g1.everClosed ▸ hnc))
  | queue =>
    simp only at hstarted'
    rw [view_emit] at hstarted'
    change (s1.view.apply _).calls[_]? = _ at hstarted'
    rw [calls_queued, if_pos ⟨rfl, hclt⟩] at hstarted'
    cases hstarted'; cases hholds
  | fail =>
    simp only at hstarted'
    rw [view_emit, calls_done, if_pos ⟨rfl, hclt⟩, doneStat, hcarr] at hstarted'
    cases hstarted'; cases hholds

/-- whatever the state: no invariant is needed -/
theorem request_full (ok lat : Bool) (he : s.evs = []) (hcache : s.cache = []) (hfull : cfg.max ≤ s.size) :
    (step cfg s (.request ok lat)).2.evs =
      if s.waiters.length + 1 > cfg.maxq then [.done s.base.calls.length .maxWaiters]
      else [.queued s.base.calls.length] := by
  rw [step_evs, stepSt_request]
  by_cases hq : s.waiters.length + 1 > cfg.maxq <;>
    simp [get, hcache, dequeue, Nat.not_lt.2 hfull, hq, St.emit, he]

/-- the hand-off `run_skips` computes at the oldest waiting call (`Reached.waiters_split`) -/
theorem run_handoff {sid c : Nat} {rest : List Nat} (hr : Reached cfg s) (ht : s.tasks = sid :: rest) (hold : oldestPending s.base = some c) :
    (step cfg s .run).2.evs = [.sent sid c] ∧ (step cfg s .run).1.tasks = rest ∧
    (step cfg s .run).1.base.calls[c]? = some (.started sid) := by
  obtain ⟨hcp, w1, w2, hw, hgone⟩ := hr.waiters_split hold
  rw [step_evs, step_fst, finish_base, run_skips ht hw hgone hcp]
  refine ⟨emit_evs_of_nil (s := { s with tasks := rest, waiters := w2 }) hr.evs _, rfl, ?_⟩
  rw [view_emit]
  show (s.view.apply (.sent sid c)).calls[c]? = _
  rw [calls_sent, if_pos ⟨rfl, getElem?_lt hcp⟩, sentStat, hcp]

theorem release_defers_handoff {c sid : Nat} (hr : Reached cfg s)
    (hst : s.base.calls[c]? = some (.started sid)) (hp : s.pstate ≠ .closed)
    (halive : isAlive s.base sid = true) (hwait : pendingIds s.base ≠ []) :
    (step cfg s (.respond c)).1.tasks = s.tasks ++ [sid] := by
  rw [← hr.view] at hst halive hwait
  obtain ⟨c', hc'⟩ := List.exists_mem_of_ne_nil _ hwait
  have hw : s.waiters.isEmpty = false :=
    List.isEmpty_eq_false_iff.2 (List.ne_nil_of_mem (hr.inv.pendW c' (mem_pendingIds.1 hc')))
  rw [step_fst, stepSt_respond_started cfg hst]
  unfold release; dsimp only
  rw [if_neg (show ¬ (s.emit (.rel sid)).pstate = .closed from hp),
    if_neg (by rw [St.alive_eq, view_emit, isAlive_rel, halive]; nofun),
    if_pos (show (s.emit (.rel sid)).waiters.isEmpty = false from hw)]
  rfl

/-- a call that was waiting at the start of the operation, has been answered in `r`, and whose
    potential has not grown, has been answered exactly once and waits no longer -/
theorem doneCount_eq_one {r : St} {c : Nat} {out : Outcome} (hp : pot r c ≤ pot s c) (he : s.evs = [])
    (hc : s.view.calls[c]? = some .pending) (hmem : Ev.done c out ∈ r.evs) :
    doneCount c r.evs = 1 ∧ r.view.calls[c]? ≠ some .pending := by
  have h1 := doneCount_pos_of_mem hmem
  have h0 : pot s c = 1 := by unfold pot doneCount; rw [he, hc]; rfl
  rw [h0] at hp
  unfold pot at hp
  split at hp
  · omega
  · next h => exact ⟨by omega, h⟩

theorem close_once (hr : Reached cfg s) {c : Nat} (hc : s.base.calls[c]? = some .pending) :
    (step cfg s .close).1.pstate = .closed ∧
    Ev.done c .serviceClosed ∈ (step cfg s .close).2.evs ∧
    doneCount c (step cfg s .close).2.evs = 1 ∧
    (step cfg s .close).1.base.calls[c]? = some .done := by
  rw [← hr.view] at hc
  obtain ⟨a1, a2, a3, a4, a5⟩ := closePool_spec (set_closed hr.inv) (hr.minv false false).ev
  obtain ⟨b1, b2⟩ := doneCount_eq_one (a2.pot c) hr.evs hc (a5 c hc)
  exact ⟨a4, a5 c hc, b1, (a1.inv.wStat c (a3 ▸ hr.inv.pendW c hc)).resolve_left b2⟩

theorem dead_release_once (hr : Reached cfg s) {c0 sid c : Nat}
    (hst : s.base.calls[c0]? = some (.started sid)) (hp : s.pstate ≠ .closed)
    (hdead : isAlive s.base sid = false) (hc : s.base.calls[c]? = some .pending) :
    (step cfg s (.respond c0)).1.pstate = .closed ∧
    Ev.done c .serviceClosed ∈ (step cfg s (.respond c0)).2.evs ∧
    doneCount c (step cfg s (.respond c0)).2.evs = 1 := by
  rw [← hr.view] at hst hdead hc
  have hne : c ≠ c0 := by rintro rfl; rw [hst] at hc; cases hc
  obtain ⟨a1, ⟨tail, a2⟩, _, a4⟩ := release_lent (cfg := cfg) (hf := false) (gate := false) hr hst rfl
  obtain ⟨b1, b2⟩ := a1.dead sid tail a2 hp hdead
  rw [step_evs, step_fst, stepSt_respond_started cfg hst]
  have hmem : Ev.done c .serviceClosed ∈ ((release cfg s sid).emit (.done c0 .reply)).evs :=
    List.mem_append_left _ (b2 c hc)
  refine ⟨b1, hmem, (doneCount_eq_one ?_ hr.evs hc hmem).1⟩
  rw [pot_emit_other _ _ _ (by simp [isDoneEv, Ne.symm hne]) (by rw [calls_done, if_neg fun h => hne h.1])]
  exact a4 c hne

theorem openEnd_result {x : St} (hnr : NR x.evs) :
    ((openEnd x).pstate = .closed ∧ Ev.raised "ServiceClosedError" ∈ (openEnd x).evs) ∨
    ((openEnd x).pstate = .opened ∧ NR (openEnd x).evs) := by
  unfold openEnd
  split
  · next hp => exact .inl ⟨hp, List.mem_append_right _ (List.mem_singleton_self _)⟩
  · exact .inr ⟨rfl, hnr⟩

theorem open_result (ok : Bool) (hr : Reached cfg s) :
    ((step cfg s (.openPool ok)).1.pstate = .closed ∧
      Ev.raised "ServiceClosedError" ∈ (step cfg s (.openPool ok)).2.evs) ∨
    ((step cfg s (.openPool ok)).1.pstate = .opened ∧
      ∀ e ∈ (step cfg s (.openPool ok)).2.evs, isRaised e = false) := by
  obtain ⟨x, hx, a⟩ := openPool_pre (cfg := cfg) (hf := false) (gate := false) ok hr
  rw [step_evs, step_fst, hx]
  exact openEnd_result a.nr

end facts

end Scales.Watermark
