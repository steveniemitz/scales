/-
  Proofs/ResBackoff.lean — arithmetic of the back-off  wait' = min (f wait) maxW.
-/
import ScalesModel.Adapter.Resurrector
namespace Scales.Res

theorem nextWait_le_max (p : Par) (w : Nat) : nextWait p w ≤ p.maxW := by
  unfold nextWait; exact Nat.min_le_right _ _

theorem le_nextWait_of_le (p : Par) (w : Nat) (h : w ≤ p.f w) (hw : w ≤ p.maxW) : w ≤ nextWait p w :=
  Nat.le_min.mpr ⟨h, hw⟩

theorem le_nextWait (p : Par) (hf : Grows p) (w : Nat) (hw : w ≤ p.maxW) : w ≤ nextWait p w :=
  le_nextWait_of_le p w (hf w hw).1 hw

theorem nextWait_strict (p : Par) (hf : Grows p) (w : Nat) (hw : w ≤ p.maxW) :
    w < nextWait p w ∨ nextWait p w = p.maxW := by
  unfold nextWait
  by_cases h : p.f w ≤ p.maxW
  · rw [Nat.min_eq_left h]
    by_cases hlt : w < p.maxW
    · exact Or.inl ((hf w hw).2 hlt)
    · right
      have := (hf w hw).1
      omega
  · right; exact Nat.min_eq_right (by omega)

/-- the specification's test of a reconnection delay (not shorter than the previous one, and longer unless that was
    the maximum) passes a delay `w` that was obtained from the previous one by backing off -/
theorem delay_ok (ld : Option Nat) (w m : Nat) :
    (∀ d, ld = some d → d ≤ w ∧ (d < w ∨ w = m)) →
    (match ld with
     | some p => decide (w < p) || (decide (w = p) && decide (p < m))
     | none => false) = false := by
  intro h
  cases ld with
  | none => rfl
  | some p =>
    obtain ⟨h1, h2⟩ := h p rfl
    simp only [Bool.or_eq_false_iff, Bool.and_eq_false_iff, decide_eq_false_iff_not]
    omega

theorem waits_le_max (p : Par) (hi : p.init ≤ p.maxW) (k : Nat) : waits p k ≤ p.maxW := by
  cases k with
  | zero => exact hi
  | succ k => exact nextWait_le_max p _

theorem waits_mono (p : Par) (hf : Grows p) (hi : p.init ≤ p.maxW) (k : Nat) :
    waits p k ≤ waits p (k + 1) :=
  le_nextWait p hf _ (waits_le_max p hi k)

theorem waits_strict (p : Par) (hf : Grows p) (hi : p.init ≤ p.maxW) (k : Nat) :
    waits p k < waits p (k + 1) ∨ waits p (k + 1) = p.maxW :=
  nextWait_strict p hf _ (waits_le_max p hi k)

theorem tableNext_grows (m : Nat) (t : List Nat) (h : tableGrows m t = true) (w : Nat) (hw : w ≤ m) :
    w ≤ tableNext m t w ∧ (w < m → w < tableNext m t w) := by
  fun_induction tableNext m t w with
  | case1 b rest w =>
    simp only [tableGrows, Bool.and_eq_true, Bool.or_eq_true, decide_eq_true_eq] at h
    exact ⟨h.1.1, fun hlt => h.1.2.resolve_right (Nat.not_le.mpr hlt)⟩
  | case2 a b rest w _ ih =>
    simp only [tableGrows, Bool.and_eq_true] at h
    exact ih h.2 hw
  | case3 => exact ⟨hw, id⟩

structure Par.Ok (p : Par) : Prop where
  grows : Grows p
  init_pos : 0 < p.init
  init_le : p.init ≤ p.maxW

theorem cfg_ok (c : Cfg) (h : cfgWF c = true) : c.par.Ok := by
  simp only [cfgWF, Bool.and_eq_true, decide_eq_true_eq] at h
  exact ⟨tableNext_grows c.maxW c.table h.2, h.1.1, h.1.2⟩

end Scales.Res
