/-
  Proofs/ResMuxInv.lean — invariant of the chain model (Model/ResMux.lean) between two operations
  and its preservation by every operation.  The invariant leaves the resurrector four modes
  (`Mode`); what the drain `absorb` does is stated once per mode.  `Drained`: the ping helper and
  the ping loop in a clock tick; `GInv` and `step_res`: every operation once, for the invariant and
  for the phases in which nobody listens and nothing connects (before `Open()`, after `Close()`).
-/
import ScalesModel.Proofs.ResMuxTransport
import ScalesModel.Proofs.ResBackoff
namespace Scales.ResMux
open Scales.Transport
open Scales.MuxT
open Scales.Res (Par nextWait Grows)

/-- what `cfgWF` gives of the parameters (`ph_of_cfg`) -/
structure PH (p : P) : Prop where
  pos : 0 < p.r.init
  le : p.r.init ≤ p.r.maxW
  grows : Grows p.r

theorem nextWait_pos {p : P} (hp : PH p) {w : Nat} (h0 : 0 < w) (hw : w ≤ p.r.maxW) :
    0 < nextWait p.r w :=
  Nat.lt_of_lt_of_le h0 (Res.le_nextWait p.r hp.grows w hw)

/-- the chain between two operations (`strict = true`; inside a clock tick the retry greenlet's
    wake instant may have been reached and not yet acted upon: `strict = false`): in fail-fast mode
    (`dn`), out of it (`up`), subscribed (`sb`), retry greenlet asleep (`sl`), opening (`og`) -/
structure CInv (p : P) (strict : Bool) (s : St) : Prop where
  tr : TInv s.tr
  dn : s.down = true → s.inst = false ∧ s.sub = false ∧ s.rg ≠ .none
  up : s.down = false → s.rg = .none
  sb : s.sub = true → s.inst = true ∧ connOf s.tr ≠ .none
  sl : ∀ wk w, s.rg = .sleep wk w →
    s.now ≤ wk ∧ (strict = true → s.now < wk) ∧ wk ≤ s.now + p.r.maxW ∧ 0 < w ∧ w ≤ p.r.maxW ∧
    s.tr.cstate = .closed
  og : ∀ w, s.rg = .opening w → s.tr.opening = true ∧ 0 < w ∧ w ≤ p.r.maxW

/-- what `CInv` leaves of the resurrector: subscribed to the installed transport; nobody listens
    (before `Open()`, after `Close()`); fail-fast with the retry greenlet asleep, its last transport
    closed; fail-fast with the retry greenlet opening the newest transport -/
inductive Mode (p : P) (strict : Bool) (s : St) : Prop where
  | on (hd : s.down = false) (hr : s.rg = .none) (hs : s.sub = true) (hi : s.inst = true)
      (hc : connOf s.tr ≠ .none)
  | off (hd : s.down = false) (hr : s.rg = .none) (hs : s.sub = false)
  | asleep (wk w : Nat) (hd : s.down = true) (hi : s.inst = false) (hs : s.sub = false) (hr : s.rg = .sleep wk w)
      (h1 : s.now ≤ wk) (h2 : strict = true → s.now < wk) (h3 : wk ≤ s.now + p.r.maxW) (h4 : 0 < w)
      (h5 : w ≤ p.r.maxW) (hc : s.tr.cstate = .closed)
  | opening (w : Nat) (hd : s.down = true) (hi : s.inst = false) (hs : s.sub = false) (hr : s.rg = .opening w)
      (ho : s.tr.opening = true) (h4 : 0 < w) (h5 : w ≤ p.r.maxW)

variable {p : P} {b : Bool} {s : St} {t' : MuxT.St} {o : MuxT.Out}

theorem CInv.mode (h : CInv p b s) : Mode p b s := by
  cases hd : s.down with
  | false =>
    cases hs : s.sub with
    | false => exact .off hd (h.up hd) hs
    | true => exact .on hd (h.up hd) hs (h.sb hs).1 (h.sb hs).2
  | true =>
    obtain ⟨hi, hs, hn⟩ := h.dn hd
    cases hr : s.rg with
    | none => exact absurd hr hn
    | sleep wk w =>
      obtain ⟨h1, h2, h3, h4, h5, hc⟩ := h.sl wk w hr
      exact .asleep wk w hd hi hs hr h1 h2 h3 h4 h5 hc
    | opening w =>
      obtain ⟨ho, h4, h5⟩ := h.og w hr
      exact .opening w hd hi hs hr ho h4 h5

theorem Mode.cinv (ht : TInv s.tr) (m : Mode p b s) : CInv p b s := by
  cases s
  cases m with
  | on hd hr hs hi hc =>
    cases hd; cases hr; cases hs; cases hi
    exact ⟨ht, nofun, fun _ => rfl, fun _ => ⟨rfl, hc⟩, nofun, nofun⟩
  | off hd hr hs =>
    cases hd; cases hr; cases hs
    exact ⟨ht, nofun, fun _ => rfl, nofun, nofun, nofun⟩
  | asleep wk w hd hi hs hr h1 h2 h3 h4 h5 hc =>
    cases hd; cases hi; cases hs; cases hr
    exact ⟨ht, fun _ => ⟨rfl, rfl, nofun⟩, nofun, nofun, fun _ _ hx => by cases hx; exact ⟨h1, h2, h3, h4, h5, hc⟩, nofun⟩
  | opening w hd hi hs hr ho h4 h5 =>
    cases hd; cases hi; cases hs; cases hr
    exact ⟨ht, fun _ => ⟨rfl, rfl, nofun⟩, nofun, nofun, nofun, fun _ hx => by cases hx; exact ⟨ho, h4, h5⟩⟩

theorem Mode.slept (w : Nat) (hd : s.down = true) (hi : s.inst = false) (hs : s.sub = false)
    (hr : s.rg = .sleep (s.now + w) w) (h4 : 0 < w) (h5 : w ≤ p.r.maxW) (hc : s.tr.cstate = .closed) : Mode p b s :=
  .asleep _ w hd hi hs hr (Nat.le_add_right ..) (fun _ => Nat.lt_add_of_pos_right h4) (Nat.add_le_add_left h5 _) h4 h5 hc

theorem cinv_init (p : P) : CInv p true {} := Mode.cinv tinv_init (.off rfl rfl rfl)

theorem CInv.clock {b' : Bool} {n : Nat} (h : CInv p b s) (hn : s.now ≤ n)
    (hs : ∀ wk w, s.rg = .sleep wk w → n ≤ wk ∧ (b' = true → n < wk)) : CInv p b' { s with now := n } := by
  refine ⟨h.tr, h.dn, h.up, h.sb, ?_, h.og⟩
  intro wk w hx
  obtain ⟨_, _, c, e⟩ := h.sl wk w hx
  exact ⟨(hs wk w hx).1, (hs wk w hx).2, Nat.le_trans c (Nat.add_le_add_right hn _), e⟩

theorem cinv_weaken {p : P} {s : St} (h : CInv p true s) : CInv p false s :=
  h.clock (Nat.le_refl _) fun wk w hx => ⟨(h.sl wk w hx).1, nofun⟩

theorem CInv.fail_fast (h : CInv p b s) (hr : s.rg ≠ .none) :
    s.down = true ∧ s.inst = false ∧ s.sub = false := by
  have hd : s.down = true := Decidable.byContradiction fun hd => hr (h.up (Bool.eq_false_iff.mpr hd))
  exact ⟨hd, (h.dn hd).1, (h.dn hd).2.1⟩

theorem CInv.not_down (h : CInv p b s) (hi : s.inst = true) : s.down = false :=
  Bool.eq_false_iff.mpr fun hd => by rw [(h.dn hd).1] at hi; cases hi

theorem cinv_congr (h : CInv p b s) (r : Bool) (ws : List Nat) (d : Option Nat) :
    CInv p b { s with reach := r, waiters := ws, pingDue := d } :=
  ⟨h.tr, h.dn, h.up, h.sb, h.sl, h.og⟩

theorem wakeGo_keep : ∀ (ids : List Nat) (t : MuxT.St), TInv t → t.opening = false →
    TInv (wakeGo ids t).1 ∧ Keep t (wakeGo ids t).1 := by
  intro ids
  induction ids with
  | nil => intro t h _; exact ⟨h, .refl t⟩
  | cons id rest ih =>
    intro t h ho
    obtain ⟨a, k, _⟩ := request_tstep h ho id (tagOf id)
    obtain ⟨i1, i2⟩ := ih (t.request id (tagOf id)).1 a.inv (k.opening.trans ho)
    exact ⟨i1, k.trans i2⟩

/-- the transport `settle` installs is `t'`, up to the requests of the callers that were blocked on its open
    result -/
theorem settle_keep (p : P) (s : St) (ht : TInv t') :
    TInv (settle p s t').1.tr ∧ Keep t' (settle p s t').1.tr := by
  show TInv (if s.tr.openRes = .pending ∧ t'.openRes ≠ .pending then wakeGo s.waiters t' else (t', [])).1 ∧
    Keep t' (if s.tr.openRes = .pending ∧ t'.openRes ≠ .pending then wakeGo s.waiters t' else (t', [])).1
  split
  · rename_i hw
    exact wakeGo_keep s.waiters t' ht (Bool.eq_false_iff.mpr fun ho => hw.2 (ht.opening_pending ho))
  · exact ⟨ht, .refl t'⟩

theorem settle_form (p : P) (s : St) (ht : TInv t') :
    ∃ T W D1 D2, (settle p s t').1 = { s with tr := T, waiters := W, pingDl := D1, pingDue := D2 } ∧
      TInv T ∧ Keep t' T :=
  ⟨_, _, _, _, rfl, settle_keep p s ht⟩

theorem settle_nopend (p : P) (s : St) (t' : MuxT.St) (h : s.tr.openRes = .pending → t'.openRes = .pending) :
    settle p s t' =
      ({ s with tr := t'
                pingDl := if t'.pingWait then (if s.tr.pingWait then s.pingDl else some (s.now + pingTimeout)) else none
                pingDue := if t'.pingLoop then (if s.tr.pingLoop then s.pingDue else some (s.now + p.period)) else none },
       []) := by
  have hn : ¬(s.tr.openRes = .pending ∧ t'.openRes ≠ .pending) := fun hx => hx.2 (h hx.1)
  simp [settle, hn]

theorem react_quiet (p : P) (s : St) (f : Nat) (h : f = 0 ∨ s.sub = false) : react p s f = s := by
  unfold react
  rw [if_neg]
  intro hx
  rcases h with h | h <;> rw [h] at hx
  · exact Nat.lt_irrefl 0 hx.1
  · exact nomatch hx.2

theorem resume_quiet (p : P) (s : St) (r : MuxT.ORes) (h : ∀ w, s.rg = .opening w → r = .pending) :
    resume p s r = s := by
  unfold resume
  split
  · rename_i w hw
    rw [h w hw, if_neg nofun, if_neg nofun]
  · rfl

theorem react_env (p : P) (s : St) (f : Nat) :
    (react p s f).tr = s.tr ∧ (react p s f).now = s.now ∧ (react p s f).reach = s.reach := by
  unfold react onFault
  split
  · split <;> exact ⟨rfl, rfl, rfl⟩
  · exact ⟨rfl, rfl, rfl⟩

theorem resume_env (p : P) (s : St) (r : MuxT.ORes) :
    (resume p s r).tr = s.tr ∧ (resume p s r).now = s.now ∧ (resume p s r).reach = s.reach := by
  unfold resume resSuccess resFailure
  split
  · split
    · split <;> exact ⟨rfl, rfl, rfl⟩
    · split <;> exact ⟨rfl, rfl, rfl⟩
  · exact ⟨rfl, rfl, rfl⟩

theorem absorb_env (p : P) (s : St) (t' : MuxT.St) (o : MuxT.Out) :
    (absorb p s t' o).1.tr = (settle p s t').1.tr ∧ (absorb p s t' o).1.now = s.now ∧
    (absorb p s t' o).1.reach = s.reach := by
  obtain ⟨a1, a2, a3⟩ := resume_env p (react p (settle p s t').1 o.eff.faults) t'.openRes
  obtain ⟨b1, b2, b3⟩ := react_env p (settle p s t').1 o.eff.faults
  exact ⟨a1.trans b1, a2.trans b2, a3.trans b3⟩

theorem absorb_conns (p : P) (s : St) (t' : MuxT.St) (o : MuxT.Out) :
    (absorb p s t' o).2.conns = o.eff.conns := rfl

theorem absorb_quiet (hf : o.eff.faults = 0 ∨ s.sub = false)
    (hr : ∀ w, s.rg = .opening w → t'.openRes = .pending) : (absorb p s t' o).1 = (settle p s t').1 := by
  show resume p (react p (settle p s t').1 o.eff.faults) t'.openRes = _
  rw [react_quiet p (settle p s t').1 _ hf, resume_quiet p (settle p s t').1 _ hr]

theorem absorb_deaf (hs : s.sub = false) (hr : ∀ w, s.rg ≠ .opening w) : (absorb p s t' o).1 = (settle p s t').1 :=
  absorb_quiet (.inr hs) fun w e => absurd e (hr w)

/-- the fault signal of the installed, subscribed transport: `_OnSinkFaulted` -/
theorem absorb_fault (hf : 0 < o.eff.faults) (hs : s.sub = true)
    (hd : s.down = false) :
    (absorb p s t' o).1 =
      { (settle p s t').1 with down := true, inst := false, sub := false,
                               rg := .sleep (s.now + p.r.init) p.r.init, ups := s.ups + 1 } := by
  show resume p (react p (settle p s t').1 o.eff.faults) t'.openRes = _
  have e : react p (settle p s t').1 o.eff.faults = onFault p (settle p s t').1 := if_pos ⟨hf, hs⟩
  rw [e]
  unfold onFault
  rw [if_neg (by rw [show (settle p s t').1.down = false from hd]; nofun)]
  rfl

/-- the handshake of the transport a retry greenlet is opening was answered: `_TryResurrect`
    installs it -/
theorem absorb_opened {w : Nat} (hs : s.sub = false) (hr : s.rg = .opening w) (hd : s.down = true) (hok : t'.openRes = .ok) :
    (absorb p s t' o).1 = { (settle p s t').1 with inst := true, sub := true, down := false, rg := .none } := by
  show resume p (react p (settle p s t').1 o.eff.faults) t'.openRes = _
  rw [react_quiet p (settle p s t').1 _ (.inr hs)]
  unfold resume
  rw [show (settle p s t').1.rg = .opening w from hr]
  simp only [hok, if_true, resSuccess]
  exact if_pos hd

/-- it failed: `_TryResurrect` backs off -/
theorem absorb_failed {w : Nat} (hs : s.sub = false) (hr : s.rg = .opening w) (hfl : t'.openRes = .failed) :
    (absorb p s t' o).1 = { (settle p s t').1 with rg := .sleep (s.now + nextWait p.r w) (nextWait p.r w) } := by
  show resume p (react p (settle p s t').1 o.eff.faults) t'.openRes = _
  rw [react_quiet p (settle p s t').1 _ (.inr hs)]
  unfold resume
  rw [show (settle p s t').1.rg = .opening w from hr]
  simp only [hfl, if_neg (nofun : ORes.failed ≠ .ok), if_true]
  rfl

theorem absorb_inv (hp : PH p) (h : CInv p b s) (hs : TStep s.tr t' o) : CInv p b (absorb p s t' o).1 := by
  obtain ⟨T, W, D1, D2, e, hx, k⟩ := settle_form p s hs.inv
  have hcl : t'.cstate = .closed → T.cstate = .closed := fun e => k.cstate.trans e
  cases h.mode with
  | on hd hr hss hi hc =>
    cases hs.kind with
    | keep ph nf =>
      rw [absorb_quiet (.inl nf) (by rw [hr]; nofun), e]
      exact Mode.cinv hx (.on hd hr hss hi (by rw [k.conn, ph.conn]; exact hc))
    | answered _ cs nf =>
      rw [absorb_quiet (.inl nf) (by rw [hr]; nofun), e]
      exact Mode.cinv hx (.on hd hr hss hi (by rw [k.conn, connOf_up.mpr cs]; nofun))
    | shut cs _ f =>
      rw [absorb_fault f hss hd, e]
      exact Mode.cinv hx (.slept _ rfl rfl rfl rfl hp.pos hp.le (hcl cs))
  | off hd hr hss =>
    rw [absorb_deaf hss (by rw [hr]; nofun), e]
    exact Mode.cinv hx (.off hd hr hss)
  | asleep wk w hd hi hss hr h1 h2 h3 h4 h5 hc =>
    rw [absorb_deaf hss (by rw [hr]; nofun), e]
    exact Mode.cinv hx (.asleep wk w hd hi hss hr h1 h2 h3 h4 h5 (hcl (hs.of_closed h.tr hc)))
  | opening w hd hi hss hr ho h4 h5 =>
    cases hs.kind with
    | keep ph =>
      rw [absorb_quiet (.inr hss) (fun _ _ => ph.openRes.trans (h.tr.opening_pending ho)), e]
      exact Mode.cinv hx (.opening w hd hi hss hr (k.opening.trans (ph.opening.trans ho)) h4 h5)
    | answered _ cs =>
      rw [absorb_opened hss hr hd (hs.inv.core.opn cs).2.1, e]
      exact Mode.cinv hx (.on rfl rfl rfl rfl (by rw [k.conn, connOf_up.mpr cs]; nofun))
    | shut cs fail =>
      rw [absorb_failed hss hr (fail ho), e]
      exact Mode.cinv hx (.slept _ hd hi hss rfl (nextWait_pos hp h4 h5) (Res.nextWait_le_max p.r w) (hcl cs))

/-- a transport whose connect was accepted: Tping queued and being written, both loops alive -/
def tOk : MuxT.St :=
  { cstate := .idle, hasOpenResult := true, opening := true, openRes := .pending, tagMap := [], sendQ := [],
    sl := .writing .ping, rl := .hdr, pingLoop := false, pingWait := true, pending := [] }

/-- a transport whose connect was refused -/
def tRef : MuxT.St :=
  { cstate := .closed, hasOpenResult := false, opening := false, openRes := .failed, tagMap := [], sendQ := [],
    sl := .dead, rl := .dead, pingLoop := false, pingWait := false, pending := [] }

theorem connect_up (s : St) (h : s.reach = true) : connect s = (tOk, { eff := { conns := 1 } }) := by
  simp only [connect, h, if_true]; rfl

theorem connect_down (s : St) (h : s.reach = false) :
    connect s = (tRef, { eff := { faults := 1, dels := [], conns := 1 } }) := by
  simp only [connect, h]; rfl

theorem tinv_tOk : TInv tOk := ⟨by simp [Inv0, tOk], rfl, tcore_handshake rfl rfl rfl rfl nofun⟩

theorem tinv_tRef : TInv tRef := ⟨by simp [Inv0, tRef], rfl, tcore_closed rfl rfl nofun⟩

theorem init_nopend {t' : MuxT.St} : MuxT.St.init.openRes = .pending → t'.openRes = .pending := nofun

theorem absorb_snd_nopend (p : P) (s : St) (t' : MuxT.St) (o : MuxT.Out)
    (h : s.tr.openRes = .pending → t'.openRes = .pending) :
    (absorb p s t' o).2 = { conns := o.eff.conns, dels := cvtDels o.eff.dels, sent := o.sent } := by
  show Out.mk _ (cvtDels (o.eff.dels ++ (settle p s t').2)) _ = _
  rw [settle_nopend p s t' h, List.append_nil]

theorem doOpen_up (p : P) (hi : s.inst = false) (hr : s.reach = true) :
    doOpen p s = ({ s with tr := tOk, made := s.made + 1, inst := true, sub := true, waiters := [],
                           pingDl := some (s.now + pingTimeout), pingDue := none }, { conns := 1 }) := by
  rw [doOpen, hi, if_neg Bool.false_ne_true, connect_up s hr]
  refine Prod.ext ?_ (absorb_snd_nopend _ _ _ _ init_nopend)
  simp only []
  rw [absorb_quiet (.inl rfl) (fun _ _ => rfl), settle_nopend _ _ _ init_nopend]
  rfl

theorem doOpen_down (p : P) (hi : s.inst = false) (hd : s.down = false) (hr : s.reach = false) :
    doOpen p s = ({ s with tr := tRef, made := s.made + 1, inst := false, sub := false, down := true,
                           rg := .sleep (s.now + p.r.init) p.r.init, waiters := [], pingDl := none,
                           pingDue := none, ups := s.ups + 1 }, { conns := 1 }) := by
  rw [doOpen, hi, if_neg Bool.false_ne_true, connect_down s hr]
  refine Prod.ext ?_ (absorb_snd_nopend _ _ _ _ init_nopend)
  simp only []
  rw [absorb_fault Nat.one_pos (by rfl) (by exact hd), settle_nopend _ _ _ init_nopend]
  rfl

theorem resWake_up (p : P) (w : Nat) (hr : s.reach = true) :
    resWake p s w = ({ s with tr := tOk, made := s.made + 1, rg := .opening w,
                              pingDl := some (s.now + pingTimeout), pingDue := none }, { conns := 1 }) := by
  rw [resWake, connect_up s hr]
  refine Prod.ext ?_ (absorb_snd_nopend _ _ _ _ init_nopend)
  simp only []
  rw [absorb_quiet (.inl rfl) (fun _ _ => rfl), settle_nopend _ _ _ init_nopend]
  rfl

theorem resWake_down (p : P) (w : Nat) (hr : s.reach = false) (hsub : s.sub = false) :
    resWake p s w = ({ s with tr := tRef, made := s.made + 1,
                              rg := .sleep (s.now + nextWait p.r w) (nextWait p.r w),
                              pingDl := none, pingDue := none }, { conns := 1 }) := by
  rw [resWake, connect_down s hr]
  refine Prod.ext ?_ (absorb_snd_nopend _ _ _ _ init_nopend)
  simp only []
  rw [absorb_failed (w := w) (by exact hsub) (by rfl) (by rfl), settle_nopend _ _ _ init_nopend]
  rfl

theorem doOpen_inv (hp : PH p) (h : CInv p true s) (hd : s.down = false) :
    CInv p true (doOpen p s).1 := by
  cases hi : s.inst with
  | true => rw [doOpen, hi, if_pos rfl]; exact h
  | false =>
  cases hr : s.reach with
  | true =>
    rw [doOpen_up p hi hr]
    exact Mode.cinv tinv_tOk (.on hd (h.up hd) rfl rfl nofun)
  | false =>
    rw [doOpen_down p hi hd hr]
    exact Mode.cinv tinv_tRef (.slept _ rfl rfl rfl rfl hp.pos hp.le rfl)

theorem resWake_inv (hp : PH p) {wk w : Nat} (h : CInv p false s) (hrg : s.rg = .sleep wk w) :
    CInv p true (resWake p s w).1 := by
  obtain ⟨_, _, _, w0, wm, _⟩ := h.sl wk w hrg
  obtain ⟨hdn, hin, hsub⟩ := h.fail_fast (by rw [hrg]; nofun)
  cases hr : s.reach with
  | true =>
    rw [resWake_up p w hr]
    exact Mode.cinv tinv_tOk (.opening w hdn hin hsub rfl rfl w0 wm)
  | false =>
    rw [resWake_down p w hr hsub]
    exact Mode.cinv tinv_tRef (.slept _ hdn hin hsub rfl (nextWait_pos hp w0 wm) (Res.nextWait_le_max p.r w) rfl)

theorem optMin_some_le (a : Option Nat) (x : Nat) : ∃ m, optMin a (some x) = some m ∧ m ≤ x := by
  cases a with
  | none => exact ⟨x, rfl, Nat.le_refl _⟩
  | some y => exact ⟨min y x, rfl, Nat.min_le_right _ _⟩

theorem nextTimer_sleep {wk w : Nat} (h : s.rg = .sleep wk w) :
    ∃ m, nextTimer s = some m ∧ m ≤ wk := by
  unfold nextTimer
  rw [h]
  exact optMin_some_le _ wk

variable {opened closed : Bool} {seen : List Nat}

theorem opOk_opn (hok : opOk s opened closed seen .opn = true) : opened = false ∧ closed = false := by
  simpa [opOk] using hok

theorem opOk_wr {o : IOOut} (hok : opOk s opened closed seen (.wr o) = true) : isWriting s.tr.sl = true := by
  simp only [opOk, Bool.and_eq_true] at hok; exact hok.1

theorem opOk_burst {rs : List (IOOut × Fr)} (hok : opOk s opened closed seen (.burst rs) = true) : s.tr.rl ≠ .dead := by
  simpa [opOk] using hok

theorem opOk_rd {o : IOOut} {f : Fr} (hok : opOk s opened closed seen (.rd o f) = true) : s.tr.rl ≠ .dead := by
  simpa [opOk] using hok

theorem opOk_race {f : Fr} {o : IOOut} (hok : opOk s opened closed seen (.race f o) = true) :
    s.tr.rl = .body ∧ o ≠ .ok := by
  simpa [opOk] using hok

theorem tick_le_wake {opened closed : Bool} {seen : List Nat} {d : Nat}
    (hok : opOk s opened closed seen (.tick d) = true) (wk w : Nat) (hx : s.rg = .sleep wk w) : s.now + d ≤ wk := by
  obtain ⟨m, hm, hle⟩ := nextTimer_sleep hx
  simp only [opOk, hm, Bool.and_eq_true, decide_eq_true_eq] at hok
  exact Nat.le_trans hok.2 hle

/-- What the ping helper and the ping loop make of the chain within a clock tick, before the retry
    greenlet looks at the clock: nothing, or drains after steps of the newest transport that shut it
    (ping silence) or leave its phase and its receive loop alone (a ping is queued); the ping loop
    re-arms its timer (`x`).  The parts of a tick are read off this relation, not off `tickPing`
    and `tickLoop`. -/
inductive Drained (p : P) : St → St → Out → Prop where
  | refl (s : St) : Drained p s s {}
  | step {s : St} {t' : MuxT.St} {o : MuxT.Out} (ts : TStep s.tr t' o)
      (hk : t'.cstate = .closed ∨ Keep s.tr t') (x : Option Nat) :
      Drained p s { (absorb p s t' o).1 with pingDue := x } (absorb p s t' o).2
  | trans {s s1 s2 : St} {o1 o2 : Out} : Drained p s s1 o1 → Drained p s1 s2 o2 → Drained p s s2 (o1.app o2)

theorem tickPing_drained (h : TInv s.tr) : Drained p s (tickPing p s).1 (tickPing p s).2 := by
  unfold tickPing
  split
  · exact .step (pingSilence_tstep h).1 (pingSilence_tstep h).2 _
  · exact .refl s

theorem tickLoop_drained (h : TInv s.tr) : Drained p s (tickLoop p s).1 (tickLoop p s).2 := by
  unfold tickLoop
  split
  · exact .step (pingDue_tstep h).1 (.inr (pingDue_tstep h).2) _
  · exact .refl s

theorem Drained.inv {s2 : St} {o2 : Out} (hp : PH p) (hd : Drained p s s2 o2) (h : CInv p false s) :
    CInv p false s2 ∧ o2.conns = 0 := by
  induction hd with
  | refl s => exact ⟨h, rfl⟩
  | step ts _ x => exact ⟨cinv_congr (absorb_inv hp h ts) _ _ x, ts.conns⟩
  | trans _ _ ih1 ih2 =>
    obtain ⟨c1, z1⟩ := ih1 h
    obtain ⟨c2, z2⟩ := ih2 c1
    exact ⟨c2, by show _ + _ = 0; rw [z1, z2]⟩

theorem Drained.deaf {s2 : St} {o2 : Out} (hd : Drained p s s2 o2) (hs : s.sub = false) (hr : ∀ w, s.rg ≠ .opening w) :
    ∃ T W D1 D2, s2 = { s with tr := T, waiters := W, pingDl := D1, pingDue := D2 } := by
  induction hd with
  | refl s => exact ⟨_, _, _, _, rfl⟩
  | step _ _ x => rw [absorb_deaf hs hr]; exact ⟨_, _, _, _, rfl⟩
  | trans _ _ ih1 ih2 =>
    obtain ⟨_, _, _, _, rfl⟩ := ih1 hs hr
    exact ih2 hs hr

theorem tickWake_cases (p : P) (h : CInv p false s) :
    (∃ wk w, s.rg = .sleep wk w ∧ wk ≤ s.now ∧ tickWake p s = resWake p s w) ∨
    (CInv p true s ∧ tickWake p s = (s, {})) := by
  unfold tickWake
  split
  · rename_i wk w hr
    by_cases hle : wk ≤ s.now
    · exact .inl ⟨wk, w, hr, hle, if_pos hle⟩
    · exact .inr ⟨h.clock (Nat.le_refl _) fun wk' w' hx => by
        rw [hr] at hx; injection hx with e1; subst e1
        exact ⟨(h.sl wk w hr).1, fun _ => Nat.lt_of_not_le hle⟩, if_neg hle⟩
  · rename_i hn
    exact .inr ⟨h.clock (Nat.le_refl _) fun wk w hx => absurd hx (hn wk w), rfl⟩

theorem cinv_tick {d : Nat} (h : CInv p true s) (hw : ∀ wk w, s.rg = .sleep wk w → s.now + d ≤ wk) :
    CInv p false { s with now := s.now + d } :=
  h.clock (Nat.le_add_right ..) fun wk w hx => ⟨hw wk w hx, nofun⟩

/-- a tick up to the point where the retry greenlet looks at the clock (`tickWake`) -/
theorem doTick_front (hp : PH p) {d : Nat} (h : CInv p true s)
    (hw : ∀ wk w, s.rg = .sleep wk w → s.now + d ≤ wk) :
    ∃ (s2 : St) (o2 : Out), Drained p { s with now := s.now + d } s2 o2 ∧
      doTick p s d = ((tickWake p s2).1, o2.app (tickWake p s2).2) ∧
      CInv p false s2 ∧ o2.conns = 0 := by
  have d1 := tickPing_drained (p := p) (cinv_tick h hw).tr
  have d2 := d1.trans (tickLoop_drained (d1.inv hp (cinv_tick h hw)).1.tr)
  exact ⟨_, _, d2, rfl, d2.inv hp (cinv_tick h hw)⟩

/-- the operations that let a blocked I/O call of the newest transport return -/
def isIO : Op → Bool
  | .wr _ | .rd _ _ | .burst _ | .race _ _ => true
  | _ => false

theorem io_step (p : P) {opened closed : Bool} {seen : List Nat} {op : Op} (ht : TInv s.tr)
    (hok : opOk s opened closed seen op = true) (hio : isIO op = true) :
    ∃ t' o, stepSt p s op = absorb p s t' o ∧ TStep s.tr t' o := by
  cases op with
  | wr o => exact ⟨_, _, rfl, (wr_tstep ht (opOk_wr hok) o).1⟩
  | rd o f => exact ⟨_, _, rfl, burst_tstep ht (opOk_rd hok) (toReads [(o, f)])⟩
  | burst rs => exact ⟨_, _, rfl, burst_tstep ht (opOk_burst hok) (toReads rs)⟩
  | race f o => exact ⟨_, _, rfl, (race_tstep ht (opOk_race hok).1 f.toFrame o (opOk_race hok).2).1⟩
  | _ => cases hio

theorem doClose_inv (h : CInv p true s) :
    CInv p true (doClose p s).1 ∧ ((doClose p s).1.sub = false ∧ (doClose p s).1.down = false) ∧
    (doClose p s).2.conns = 0 := by
  unfold doClose
  simp only
  split
  · obtain ⟨ht, hc⟩ := close_tinv h.tr
    rw [absorb_deaf rfl fun _ h => RG.noConfusion h]
    exact ⟨Mode.cinv (settle_keep p _ ht).1 (.off rfl rfl rfl), ⟨rfl, rfl⟩, hc⟩
  · rename_i hin
    have hs : s.sub = false := Bool.eq_false_iff.mpr fun hx => hin (h.sb hx).1
    exact ⟨Mode.cinv h.tr (.off rfl rfl hs), ⟨hs, rfl⟩, rfl⟩

def runOps (p : P) (s : St) (ops : List Op) : St := ops.foldl (fun s op => (stepSt p s op).1) s

/-- the chain along a history: neither before `Open()` nor after `Close()` does anybody listen to the
    transport -/
structure GInv (p : P) (s : St) (opened closed : Bool) : Prop where
  inv : CInv p true s
  off : opened = false ∨ closed = true → s.sub = false ∧ s.down = false

theorem ginv_init (p : P) : GInv p {} false false := ⟨cinv_init p, fun _ => ⟨rfl, rfl⟩⟩

theorem step_res (hp : PH p) {opened closed : Bool} {seen : List Nat} {op : Op} (h : GInv p s opened closed)
    (hok : opOk s opened closed seen op = true) :
    CInv p true (stepSt p s op).1 ∧
    ((opened || isOpn op) = false ∨ (closed || isClose op) = true →
      ((stepSt p s op).1.sub = false ∧ (stepSt p s op).1.down = false) ∧ (stepSt p s op).2.conns = 0) := by
  have hc := h.inv
  have ht := hc.tr
  have off : (opened || isOpn op) = false ∨ (closed || isClose op) = true → isClose op = false →
      (s.sub = false ∧ s.down = false) ∧ s.rg = .none ∧ ∀ w, s.rg ≠ .opening w := fun hx hn =>
    have h0 := h.off (hx.imp (fun e => (Bool.or_eq_false_iff.mp e).1) fun e => by rwa [hn, Bool.or_false] at e)
    ⟨h0, hc.up h0.2, by rw [hc.up h0.2]; nofun⟩
  cases op with
  | opn =>
    refine ⟨doOpen_inv hp hc (h.off (.inl (opOk_opn hok).1)).2, ?_⟩
    rintro (hx | hx)
    · cases (Bool.or_eq_false_iff.mp hx).2
    · rw [(opOk_opn hok).2] at hx; cases hx
  | close => exact ⟨(doClose_inv hc).1, fun _ => (doClose_inv hc).2⟩
  | req id =>
    show CInv p true (doReq p s id).1 ∧
      (_ → ((doReq p s id).1.sub = false ∧ (doReq p s id).1.down = false) ∧ (doReq p s id).2.conns = 0)
    fun_cases doReq p s id with
    | case1 => exact ⟨hc, fun hx => ⟨(off hx rfl).1, rfl⟩⟩
    | case2 => exact ⟨cinv_congr hc _ _ _, fun hx => ⟨(off hx rfl).1, rfl⟩⟩
    | case3 _ ho =>
      have ts := (request_tstep ht (Bool.eq_false_iff.mpr ho) id (tagOf id)).1
      exact ⟨absorb_inv hp hc ts, fun hx => by
        rw [absorb_deaf (off hx rfl).1.1 (off hx rfl).2.2]; exact ⟨(off hx rfl).1, ts.conns⟩⟩
  | wr _ | rd _ _ | burst _ | race _ _ =>
    obtain ⟨t', o, e, ts⟩ := io_step p ht hok rfl
    rw [e]
    exact ⟨absorb_inv hp hc ts, fun hx => by
      rw [absorb_deaf (off hx rfl).1.1 (off hx rfl).2.2]; exact ⟨(off hx rfl).1, ts.conns⟩⟩
  | tick d =>
    obtain ⟨s2, c, dr, e, c2, z⟩ := doTick_front hp hc (tick_le_wake hok)
    show CInv p true (doTick p s d).1 ∧
      (_ → ((doTick p s d).1.sub = false ∧ (doTick p s d).1.down = false) ∧ (doTick p s d).2.conns = 0)
    rw [e]
    rcases tickWake_cases p c2 with ⟨wk, w, hr, _, e'⟩ | ⟨c3, e'⟩ <;> rw [e']
    · refine ⟨(resWake_inv hp c2 hr :), fun hx => ?_⟩
      obtain ⟨_, _, _, _, rfl⟩ := dr.deaf (off hx rfl).1.1 (off hx rfl).2.2
      cases (off hx rfl).2.1.symm.trans hr
    · refine ⟨c3, fun hx => ?_⟩
      obtain ⟨_, _, _, _, rfl⟩ := dr.deaf (off hx rfl).1.1 (off hx rfl).2.2
      exact ⟨(off hx rfl).1, by show c.conns + 0 = 0; rw [z]⟩
  | reach up => exact ⟨cinv_congr hc up _ _, fun hx => ⟨(off hx rfl).1, rfl⟩⟩

theorem step_ginv (hp : PH p) {opened closed : Bool} {seen : List Nat} {op : Op} (h : GInv p s opened closed)
    (hok : opOk s opened closed seen op = true) :
    GInv p (stepSt p s op).1 (opened || isOpn op) (closed || isClose op) :=
  ⟨(step_res hp h hok).1, fun hx => ((step_res hp h hok).2 hx).1⟩

end Scales.ResMux
