import ScalesModel.Proofs.HeapBasic

/-! Heap order on valuations `f : position → load`, positions 1-based, parent of `k` at `k / 2`.
    The sift loops keep "ordered except around one slot `x`" (`OrdExUp`/`OrdExDown` together with
    `GP`); one round of either loop is `up_step`/`down_step` (a swap `fsw` with the parent, or with the
    child `pick` names), its exit `up_done`/`down_done`.  `OrdHole` is what is left of the order when slot `x`
    is about to be overwritten; `Function.update` overwrites one key, and `upd_shrink`/`upd_grow` say which sift repairs it. -/
namespace Scales.Heap

def Ord (f : Nat → Int) (n : Nat) : Prop := ∀ k, 2 ≤ k → k ≤ n → f (k / 2) ≤ f k

def OrdExUp (f : Nat → Int) (n x : Nat) : Prop := ∀ k, 2 ≤ k → k ≤ n → k ≠ x → f (k / 2) ≤ f k

def OrdExDown (f : Nat → Int) (n x : Nat) : Prop := ∀ k, 2 ≤ k → k ≤ n → k / 2 ≠ x → f (k / 2) ≤ f k

/-- the children of x are not smaller than the parent of x -/
def GP (f : Nat → Int) (n x : Nat) : Prop := ∀ c, c ≤ n → c / 2 = x → 2 ≤ x → f (x / 2) ≤ f c

def OrdHole (f : Nat → Int) (n x : Nat) : Prop :=
  ∀ k, 2 ≤ k → k ≤ n → k ≠ x → k / 2 ≠ x → f (k / 2) ≤ f k

theorem half_lt {k : Nat} (h : 2 ≤ k) : k / 2 < k := Nat.div_lt_self (Nat.lt_of_lt_of_le (by decide) h) (by decide)

theorem half_pos {k : Nat} (h : 2 ≤ k) : 1 ≤ k / 2 := Nat.div_pos h (by decide)

theorem half_eq {k i : Nat} (h : k / 2 = i) : k = 2 * i ∨ k = 2 * i + 1 := by
  have := Nat.div_add_mod k 2
  rw [h] at this
  rcases Nat.mod_two_eq_zero_or_one k with e | e
  · rw [e] at this; exact Or.inl this.symm
  · rw [e] at this; exact Or.inr this.symm

theorem child_facts {c x : Nat} (h : c / 2 = x) (hx : 1 ≤ x) : 2 ≤ c ∧ x < c := by
  have hc2 : 2 ≤ c := Nat.le_trans (Nat.mul_le_mul_left 2 hx) (h ▸ Nat.mul_div_le c 2)
  exact ⟨hc2, h ▸ half_lt hc2⟩

theorem Ord.congr {f g : Nat → Int} {n : Nat} (e : ∀ k, 1 ≤ k → k ≤ n → g k = f k) (h : Ord f n) : Ord g n := by
  intro k hk2 hkn
  rw [e k (Nat.le_of_succ_le hk2) hkn, e _ (half_pos hk2) (Nat.le_trans (Nat.le_of_lt (half_lt hk2)) hkn)]
  exact h k hk2 hkn

theorem OrdExUp.congr {f g : Nat → Int} {n x : Nat} (e : ∀ k, 1 ≤ k → k ≤ n → g k = f k) (h : OrdExUp f n x) :
    OrdExUp g n x := by
  intro k hk2 hkn hkx
  rw [e k (Nat.le_of_succ_le hk2) hkn, e _ (half_pos hk2) (Nat.le_trans (Nat.le_of_lt (half_lt hk2)) hkn)]
  exact h k hk2 hkn hkx

theorem OrdHole.congr {f g : Nat → Int} {n x : Nat} (e : ∀ k, 1 ≤ k → k ≤ n → k ≠ x → g k = f k)
    (h : OrdHole f n x) : OrdHole g n x := by
  intro k hk2 hkn hkx hpx
  rw [e k (Nat.le_of_succ_le hk2) hkn hkx, e _ (half_pos hk2) (Nat.le_trans (Nat.le_of_lt (half_lt hk2)) hkn) hpx]
  exact h k hk2 hkn hkx hpx

theorem GP.congr {f g : Nat → Int} {n x : Nat} (e : ∀ k, 1 ≤ k → k ≤ n → k ≠ x → g k = f k) (h : GP f n x) :
    GP g n x := by
  intro c hcn hc hx2
  obtain ⟨hc2, hxc⟩ := child_facts hc (Nat.le_of_succ_le hx2)
  rw [e c (Nat.le_of_succ_le hc2) hcn (Nat.ne_of_gt hxc),
    e _ (half_pos hx2) (Nat.le_trans (Nat.le_of_lt (half_lt hx2)) (Nat.le_trans (Nat.le_of_lt hxc) hcn))
      (Nat.ne_of_lt (half_lt hx2))]
  exact h c hcn hc hx2

theorem Ord_to_up (f : Nat → Int) (n x : Nat) (h : Ord f n) : OrdExUp f n x ∧ GP f n x := by
  refine ⟨fun k h1 h2 _ => h k h1 h2, ?_⟩
  intro c hcn hc hx
  obtain ⟨hc2, hxc⟩ := child_facts hc (Nat.le_of_succ_le hx)
  have a := h c hc2 hcn
  rw [hc] at a
  exact Int.le_trans (h x hx (Nat.le_trans (Nat.le_of_lt hxc) hcn)) a

theorem Ord_to_down (f : Nat → Int) (n x : Nat) (h : Ord f n) : OrdExDown f n x ∧ GP f n x :=
  ⟨fun k h1 h2 _ => h k h1 h2, (Ord_to_up f n x h).2⟩

theorem Ord_mono (f : Nat → Int) (n m : Nat) (h : Ord f n) (hm : m ≤ n) : Ord f m :=
  fun k h1 h2 => h k h1 (Nat.le_trans h2 hm)

theorem GP_mono (f : Nat → Int) (n m x : Nat) (h : GP f n x) (hm : m ≤ n) : GP f m x :=
  fun c hc hcx hx => h c (Nat.le_trans hc hm) hcx hx

theorem OrdExUp_hole (f : Nat → Int) (n m x : Nat) (h : OrdExUp f n x) (hm : m ≤ n) : OrdHole f m x :=
  fun k a b c _ => h k a (Nat.le_trans b hm) c

theorem Ord_hole (f : Nat → Int) (n m x : Nat) (h : Ord f n) (hm : m ≤ n) : OrdHole f m x :=
  fun k a b _ _ => h k a (Nat.le_trans b hm)

theorem GP_top (f : Nat → Int) (n : Nat) (hn : 1 ≤ n) : GP f n n := by
  intro c hcn hc _
  exact absurd (child_facts hc hn).2 (Nat.not_lt.2 hcn)

theorem Ord_up_top (f : Nat → Int) (n : Nat) (h : Ord f (n - 1)) : OrdExUp f n n :=
  fun k hk2 hkn hk => h k hk2 (Nat.le_sub_one_of_lt (Nat.lt_of_le_of_ne hkn hk))

theorem Ord_root (f : Nat → Int) (n : Nat) (h : Ord f n) : ∀ p, 1 ≤ p → p ≤ n → f 1 ≤ f p := by
  intro p
  induction p using Nat.strong_induction_on with
  | _ p ih =>
    intro h1 h2
    by_cases hp : p = 1
    · subst hp; exact Int.le_refl _
    · have hp2 : 2 ≤ p := Nat.lt_of_le_of_ne h1 (Ne.symm hp)
      exact Int.le_trans (ih (p / 2) (half_lt hp2) (half_pos hp2) (Nat.le_trans (Nat.le_of_lt (half_lt hp2)) h2))
        (h p hp2 h2)

def fsw (f : Nat → Int) (i j : Nat) : Nat → Int :=
  fun k => if k = j then f i else if k = i then f j else f k

theorem fsw_snd (f : Nat → Int) (i j : Nat) : fsw f i j j = f i := if_pos rfl

theorem fsw_fst (f : Nat → Int) {i j : Nat} (h : i ≠ j) : fsw f i j i = f j := by
  unfold fsw; rw [if_neg h, if_pos rfl]

theorem fsw_ne (f : Nat → Int) {i j k : Nat} (hi : k ≠ i) (hj : k ≠ j) : fsw f i j k = f k := by
  unfold fsw; rw [if_neg hj, if_neg hi]

theorem up_done (f : Nat → Int) (n i : Nat) (h : ¬ (1 < i ∧ f i < f (i / 2))) (hO : OrdExUp f n i) :
    Ord f n := by
  intro k hk2 hkn
  by_cases hk : k = i
  · subst hk
    exact Int.not_lt.1 fun hc => h ⟨hk2, hc⟩
  · exact hO k hk2 hkn hk

theorem up_step (f : Nat → Int) (n i : Nat) (hi : 1 < i) (hlt : f i < f (i / 2)) (hin : i ≤ n)
    (hO : OrdExUp f n i) (hG : GP f n i) :
    OrdExUp (fsw f i (i / 2)) n (i / 2) ∧ GP (fsw f i (i / 2)) n (i / 2) := by
  have hpi : i / 2 < i := half_lt hi
  have hip : i ≠ i / 2 := Nat.ne_of_gt hpi
  constructor
  · intro k hk2 hkn hkp
    by_cases h1 : k = i
    · subst h1
      rw [fsw_snd, fsw_fst f hip]
      exact Int.le_of_lt hlt
    · rw [fsw_ne f h1 hkp]
      by_cases h2 : k / 2 = i
      · rw [h2, fsw_fst f hip]
        exact hG k hkn h2 hi
      · have := hO k hk2 hkn h1
        by_cases h3 : k / 2 = i / 2
        · rw [h3, fsw_snd]
          rw [h3] at this
          exact Int.le_trans (Int.le_of_lt hlt) this
        · rw [fsw_ne f h2 h3]
          exact this
  · intro c hcn hc hp2
    have hgp : f (i / 2 / 2) ≤ f (i / 2) :=
      hO _ hp2 (Nat.le_trans (Nat.le_of_lt hpi) hin) (Nat.ne_of_lt hpi)
    have hq : i / 2 / 2 < i / 2 := half_lt hp2
    rw [fsw_ne f (Nat.ne_of_lt (Nat.lt_trans hq hpi)) (Nat.ne_of_lt hq)]
    by_cases h1 : c = i
    · subst h1
      rw [fsw_fst f hip]
      exact hgp
    · obtain ⟨hc2, hcp⟩ := child_facts hc (Nat.le_of_succ_le hp2)
      rw [fsw_ne f h1 (Nat.ne_of_gt hcp)]
      have := hO c hc2 hcn h1
      rw [hc] at this
      exact Int.le_trans hgp this

/-- the smaller child as `FixDown` picks it -/
def pick (f : Nat → Int) (i j : Nat) : Nat := if j = 2 * i ∨ f (2 * i) ≤ f (2 * i + 1) then 2 * i else 2 * i + 1

theorem pick_spec (f : Nat → Int) {n i : Nat} (h2 : 2 * i ≤ n) :
    pick f i n / 2 = i ∧ pick f i n ≤ n ∧ ∀ c, c ≤ n → c / 2 = i → f (pick f i n) ≤ f c := by
  unfold pick
  split
  · rename_i hc
    refine ⟨Nat.mul_div_cancel_left i (by decide), h2, ?_⟩
    intro c hcn hci
    rcases half_eq hci with e | e
    · rw [e]
    · rcases hc with hc | hc
      · exact absurd hcn (by rw [e, hc]; exact Nat.not_succ_le_self _)
      · rw [e]; exact hc
  · rename_i hc
    refine ⟨Nat.mul_add_div (by decide) i 1, Nat.lt_of_le_of_ne h2 fun x => hc (Or.inl x.symm), ?_⟩
    intro c hcn hci
    rcases half_eq hci with e | e
    · rw [e]; exact Int.le_of_lt (Int.not_le.1 fun x => hc (Or.inr x))
    · rw [e]

theorem down_done (f : Nat → Int) (n i : Nat)
    (h : ¬ (2 * i ≤ n) ∨ ¬ (f (pick f i n) < f i)) (hO : OrdExDown f n i) : Ord f n := by
  intro k hk2 hkn
  by_cases hk : k / 2 = i
  · have h2 : 2 * i ≤ n := hk ▸ Nat.le_trans (Nat.mul_div_le k 2) hkn
    rcases h with h | h
    · exact absurd h2 h
    · rw [hk]
      exact Int.le_trans (Int.not_lt.1 h) ((pick_spec f h2).2.2 k hkn hk)
  · exact hO k hk2 hkn hk

theorem down_step (f : Nat → Int) (n i : Nat) (hi : 1 ≤ i) (h2 : 2 * i ≤ n)
    (hlt : f (pick f i n) < f i) (hO : OrdExDown f n i) (hG : GP f n i) :
    OrdExDown (fsw f i (pick f i n)) n (pick f i n) ∧ GP (fsw f i (pick f i n)) n (pick f i n) := by
  obtain ⟨hm2, hmn, hmin⟩ := pick_spec f h2
  generalize pick f i n = m at *
  obtain ⟨hm1, hmi⟩ := child_facts hm2 hi
  have him : i ≠ m := Nat.ne_of_lt hmi
  constructor
  · intro k hk2 hkn hkm
    by_cases h1 : k / 2 = i
    · have hki : k ≠ i := Nat.ne_of_gt (child_facts h1 hi).2
      rw [h1, fsw_fst f him]
      by_cases h3 : k = m
      · rw [h3, fsw_snd]; exact Int.le_of_lt hlt
      · rw [fsw_ne f hki h3]; exact hmin k hkn h1
    · rw [fsw_ne f h1 hkm]
      by_cases h3 : k = i
      · subst h3
        rw [fsw_fst f him]
        exact hG m hmn hm2 hk2
      · have h4 : k ≠ m := fun e => h1 (e ▸ hm2)
        rw [fsw_ne f h3 h4]
        exact hO k hk2 hkn h1
  · intro c hcn hc _
    obtain ⟨hc2, hcm⟩ := child_facts hc (Nat.le_of_succ_le hm1)
    rw [hm2, fsw_fst f him, fsw_ne f (Nat.ne_of_gt (Nat.lt_trans hmi hcm)) (Nat.ne_of_gt hcm)]
    have := hO c hc2 hcn (by rw [hc]; exact Nat.ne_of_gt hmi)
    rw [hc] at this
    exact this

theorem upd_GP (f : Nat → Int) (n p : Nat) (v : Int) (h : Ord f n) : GP (Function.update f p v) n p :=
  GP.congr (fun _ _ _ hk => Function.update_of_ne hk v f) (Ord_to_up f n p h).2

theorem upd_shrink (f : Nat → Int) (n p : Nat) (v : Int) (h : Ord f n) (hv : v ≤ f p) :
    OrdExUp (Function.update f p v) n p ∧ GP (Function.update f p v) n p := by
  refine ⟨?_, upd_GP f n p v h⟩
  intro k hk2 hkn hkp
  rw [Function.update_of_ne hkp v f]
  by_cases e : k / 2 = p
  · rw [e, Function.update_self]
    exact Int.le_trans hv (e ▸ h k hk2 hkn)
  · rw [Function.update_of_ne e v f]
    exact h k hk2 hkn

theorem upd_grow (f : Nat → Int) (n p : Nat) (v : Int) (h : Ord f n) (hv : f p ≤ v) :
    OrdExDown (Function.update f p v) n p ∧ GP (Function.update f p v) n p := by
  refine ⟨?_, upd_GP f n p v h⟩
  intro k hk2 hkn hkp
  rw [Function.update_of_ne hkp v f]
  by_cases e : k = p
  · rw [e, Function.update_self]
    exact Int.le_trans (e ▸ h k hk2 hkn) hv
  · rw [Function.update_of_ne e v f]
    exact h k hk2 hkn

end Scales.Heap
