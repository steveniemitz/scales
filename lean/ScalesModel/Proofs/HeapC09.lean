import ScalesModel.Proofs.HeapSpec
import ScalesModel.Adapter.HeapC09

/-! C09 at the balancer hop: after every dispatch the down list holds no node whose channel is
    Open, hence (with `Inv`: a heap node is marked down exactly when it is listed) no Open member
    carries the penalty; the executable specification `specC09` answers `ok` on the model's
    history of every legal operation list. -/
namespace Scales.Heap

/-- **recovery at the balancer.**  Right after a dispatch, a heap node whose channel is Open is not marked down. -/
theorem GetFacts.recovered {s s' : HS} {nid : Nat} (gf : GetFacts s s' nid) (hi : Inv s')
    (id : Nat) (hin : InHeap s' id) (hop : (s'.node id).chan = chOpen) : (s'.node id).load < 0 ∧ id ∉ s'.down :=
  have hnd : id ∉ s'.down := fun hd => gf.scanned id hd hop
  ⟨Int.not_le.1 fun hge => hnd (hi.down.all id hin hge), hnd⟩

theorem stillDown_nil {a : A0} {s s' : HS} {nid : Nat} (gf : GetFacts s s' nid) (h : Inv s)
    (hi : Inv s') (hs : Sim0 a s) (res : Option GetRes) : stillDown a (obsOf s' res) = [] := by
  unfold stillDown
  rw [List.filter_eq_nil_iff]
  intro id hm
  simp only [List.mem_map] at hm
  obtain ⟨⟨i, e⟩, hme, rfl⟩ := hm
  have hin : InHeap s i := ((hs.mem i e).mp hme).1
  have hl : i < s.nodes.length := inHeap_lt s h.wf i hin
  show ¬ ((a.chanOf i == chOpen && penalisedIn (obsOf s' res) i) = true)
  rw [penalisedIn_obsOf _ _ i (by rw [gf.len]; exact hl)]
  rw [hs.chanOf_eq hl, ← (gf.fields i).2.1, Bool.and_eq_true, beq_iff_eq, decide_eq_true_eq]
  exact fun hc => absurd hc.2 (Int.not_le.2 (gf.recovered hi i ((gf.inHeap i).mpr hin) hc.1).1)

theorem c09_ok {a : A0} {s s' : HS} {res : Option GetRes} (e : Eff s .get s' res) (h : Inv s) (hi : Inv s')
    (hs : Sim0 a s) (idx : Nat) : c09Get a idx (obsOf s' res) = .ok := by
  cases e with
  | getNone _ => rfl
  | getNode gf =>
    unfold c09Get
    rw [stillDown_nil gf h hi hs]
    rfl

theorem spec9_ok (ops : List Op) : ∀ (s : HS) (a : A0) (idx : Nat), Sim a s →
    opsOk s ops = true → s.reqs.length + getCount ops < maxReqs →
    specGo9 a idx (comp9.trace () s ops) = .ok := by
  induction ops with
  | nil => intro s a idx _ _ _; rfl
  | cons op ops ih =>
    intro s a idx h hok hb
    obtain ⟨res, hobs, e, i1, hok', hb'⟩ := run_cons h.inv hok hb
    have h1 := h.eff e i1
    rw [TComp.trace_cons comp9 step, hobs]
    unfold specGo9
    refine Verdict.and_ok ?_ (ih _ _ (idx + 1) h1 hok' hb')
    cases op with
    | get => exact c09_ok e h.inv h1.inv h.sim idx
    | _ => rfl

/-- `GetFacts.recovered` from the pre-state's point of view -/
theorem Eff.recovers_open {s s' : HS} {res : Option GetRes} (e : Eff s .get s' res) (hi : Inv s')
    (id : Nat) (hin : InHeap s id) (hop : (s.node id).chan = chOpen) :
    InHeap s' id ∧ (s'.node id).chan = chOpen ∧ (s'.node id).load < 0 ∧ id ∉ s'.down := by
  cases e with
  | getNone hsz => exact absurd hsz (Nat.ne_of_gt hin.size_pos)
  | getNode gf =>
    have hin' := (gf.inHeap id).mpr hin
    have hop' : (s'.node id).chan = chOpen := by rw [(gf.fields id).2.1]; exact hop
    exact ⟨hin', hop', gf.recovered hi id hin' hop'⟩

/-- an Open member with strictly fewer outstanding requests than every other Open member is the
    one the dispatch goes to — whether or not it was marked down before -/
theorem Eff.uses_recovered {s s' : HS} {res : Option GetRes} (e : Eff s .get s' res) (m : Nat) (hin : InHeap s m)
    (hop : (s.node m).chan = chOpen)
    (hleast : ∀ m', InHeap s m' → (s.node m').chan = chOpen → m' ≠ m → outOf s m < outOf s m') :
    res = some (GetRes.node m (s.node m).ep s.reqs.length) := by
  cases e with
  | getNone hsz => exact absurd hsz (Nat.ne_of_gt hin.size_pos)
  | getNode gf =>
    rename_i nid
    obtain ⟨c1, c2⟩ := gf.least ⟨m, hin, hop⟩
    have : nid = m := by
      by_contra hne
      exact Nat.lt_irrefl _ (Nat.lt_of_lt_of_le (hleast nid gf.member c1 hne) (c2 m hin hop))
    rw [this]

end Scales.Heap
