/-
  Proofs/VarzLemmas.lean — C18 (Model/Varz.lean, Adapter/Varz.lean): the model's trace passes the
  executable specification (`specGo_model`). What the store holds for one metric is read off the
  history by following the entry point of the metric's type alone (`stepAt`, `replay_at`); a
  percentile is `pctCore`, between two of the samples and monotone, by cross-multiplication.
-/
import ScalesModel.Adapter.Varz
import ScalesModel.Proofs.VerdictLemmas
import ScalesModel.Proofs.RunLemmas
import Mathlib.Tactic.Ring
namespace Scales.Varz

theorem mem_firstOcc {α : Type} [DecidableEq α] (l : List α) (a : α) : a ∈ firstOcc l ↔ a ∈ l := by
  induction l with
  | nil => simp [firstOcc]
  | cons x xs ih =>
    simp only [firstOcc, List.mem_cons, List.mem_filter, ih]
    by_cases h : a = x
    · simp [h]
    · simp [h]

theorem nodup_firstOcc {α : Type} [DecidableEq α] (l : List α) : (firstOcc l).Nodup := by
  induction l with
  | nil => simp [firstOcc]
  | cons x xs ih =>
    simp only [firstOcc, List.nodup_cons, List.mem_filter]
    exact ⟨by simp, ih.filter _⟩

theorem firstOcc_snoc {α : Type} [DecidableEq α] (l : List α) (a : α) :
    firstOcc (l ++ [a]) = if a ∈ l then firstOcc l else firstOcc l ++ [a] := by
  induction l with
  | nil => simp [firstOcc]
  | cons x xs ih =>
    simp only [List.cons_append, firstOcc, ih]
    by_cases h : a = x
    · subst h
      by_cases h2 : a ∈ xs
      · simp [h2]
      · simp [h2, List.filter_append]
    · by_cases h2 : a ∈ xs
      · simp [h2]
      · simp [h, h2, List.filter_append]

theorem upd_cons_eq {k : Nat × Source} {f : Option Cell → Cell} {c : Cell} {rest : Store} :
    upd k f ((k, c) :: rest) = (k, f (some c)) :: rest :=
  if_pos rfl

theorem upd_cons_ne {k k' : Nat × Source} {f : Option Cell → Cell} {c : Cell} {rest : Store}
    (h : k' ≠ k) : upd k f ((k', c) :: rest) = (k', c) :: upd k f rest :=
  if_neg h

theorem lookup_upd (k k' : Nat × Source) (f : Option Cell → Cell) (st : Store) :
    lookup k (upd k' f st) = if k' = k then some (f (lookup k st)) else lookup k st := by
  -- the cases of `upd`: the empty store, `k'` at the head, another key at the head
  fun_induction upd k' f st with
  | case1 => by_cases h : k' = k <;> simp [lookup, h]
  | case2 c rest => by_cases h2 : k' = k <;> simp [lookup, h2]
  | case3 ke c rest hk ih =>
    by_cases h2 : k' = k
    · subst h2; simp [lookup, hk, ih]
    · simp [lookup, h2, ih]

theorem seriesOf_cons (m : Nat) (k : Nat × Source) (c : Cell) (rest : Store) :
    seriesOf m ((k, c) :: rest) = if k.1 = m then (k.2, c) :: seriesOf m rest else seriesOf m rest := by
  by_cases h : k.1 = m <;> simp [seriesOf, h]

theorem mem_seriesOf {m : Nat} {s : Source} {c : Cell} {st : Store} :
    (s, c) ∈ seriesOf m st ↔ ((m, s), c) ∈ st := by
  simp only [seriesOf, List.mem_map, List.mem_filter, decide_eq_true_eq]
  constructor
  · rintro ⟨⟨⟨m', s'⟩, c'⟩, ⟨he, rfl⟩, h⟩
    cases h; exact he
  · exact fun h => ⟨_, ⟨h, rfl⟩, rfl⟩

theorem lookup_eq_series (m : Nat) (s : Source) (st : Store) :
    lookup (m, s) st = ((seriesOf m st).find? (fun e => e.1 = s)).map (·.2) := by
  induction st with
  | nil => rfl
  | cons e rest ih =>
    obtain ⟨⟨m', s'⟩, c⟩ := e
    rw [lookup, seriesOf_cons, ih]
    by_cases hm : m' = m
    · by_cases hs : s' = s
      · simp [hm, hs]
      · simp [hm, hs]
    · simp [hm]

/-- the sources of metric `m` in insertion order -/
def sourcesOf (m : Nat) (st : Store) : List Source := (seriesOf m st).map (·.1)

theorem sourcesOf_cons (m : Nat) (k : Nat × Source) (c : Cell) (rest : Store) :
    sourcesOf m ((k, c) :: rest) = if k.1 = m then k.2 :: sourcesOf m rest else sourcesOf m rest := by
  unfold sourcesOf
  rw [seriesOf_cons]
  split <;> rfl

theorem nSeries_eq (m : Nat) (st : Store) : nSeries m st = (sourcesOf m st).length :=
  (List.length_map _).symm

theorem mem_sourcesOf {m : Nat} {s : Source} {st : Store} :
    s ∈ sourcesOf m st ↔ ∃ c, ((m, s), c) ∈ st := by
  simp only [sourcesOf, List.mem_map, Prod.exists, exists_and_right, exists_eq_right, mem_seriesOf]

theorem seriesOf_upd_other {m m' : Nat} {s : Source} {f : Option Cell → Cell} {st : Store}
    (h : m' ≠ m) : seriesOf m (upd (m', s) f st) = seriesOf m st := by
  fun_induction upd (m', s) f st with
  | case1 => simp [seriesOf, h]
  | case2 c rest => rw [seriesOf_cons, seriesOf_cons, if_neg h, if_neg h]
  | case3 k c rest hk ih => rw [seriesOf_cons, seriesOf_cons, ih]

theorem sourcesOf_upd_same (m : Nat) (s : Source) (f : Option Cell → Cell) (st : Store) :
    sourcesOf m (upd (m, s) f st) =
      if s ∈ sourcesOf m st then sourcesOf m st else sourcesOf m st ++ [s] := by
  fun_induction upd (m, s) f st with
  | case1 => simp [sourcesOf, seriesOf]
  | case2 c rest => simp [sourcesOf_cons]
  | case3 k c rest hk ih =>
    obtain ⟨me, se⟩ := k
    by_cases h2 : me = m
    · subst h2
      have hs : s ≠ se := fun hh => hk (by rw [hh])
      simp only [sourcesOf_cons, if_true, ih, List.mem_cons, hs, false_or]
      split <;> rfl
    · simp only [sourcesOf_cons, h2, if_false, ih]

theorem sourcesOf_upd_idem (m : Nat) (s : Source) (f g : Option Cell → Cell) (st : Store) :
    sourcesOf m (upd (m, s) g (upd (m, s) f st)) = sourcesOf m (upd (m, s) f st) := by
  have hin : s ∈ sourcesOf m (upd (m, s) f st) := by
    rw [sourcesOf_upd_same]; split
    · assumption
    · exact List.mem_append_right _ (List.mem_singleton_self s)
  rw [sourcesOf_upd_same m s g, if_pos hin]

theorem withKey_cons (K : Key) (s : Source) (c : Cell) (ser : List (Source × Cell)) :
    withKey K ((s, c) :: ser) = if s.key = K then (s, c) :: withKey K ser else withKey K ser := by
  by_cases h : s.key = K <;> simp [withKey, h]

theorem sumCells_cons (e : Source × Cell) (l : List (Source × Cell)) :
    sumCells (e :: l) = cellNum e.2 + sumCells l :=
  rfl

theorem aggTotal_cons (m : Nat) (K : Key) (k : Nat × Source) (c : Cell) (rest : Store) :
    aggTotal K (seriesOf m ((k, c) :: rest)) =
      (if k.1 = m ∧ k.2.key = K then cellNum c else 0) + aggTotal K (seriesOf m rest) := by
  rw [seriesOf_cons]
  by_cases h1 : k.1 = m
  · by_cases h2 : k.2.key = K
    · simp [aggTotal, withKey_cons, sumCells_cons, h1, h2]
    · simp [aggTotal, withKey_cons, h1, h2]
  · simp [h1]

theorem cellNum_incCell (a : Int) (c : Cell) : cellNum (incCell a (some c)) = cellNum c + a := by
  cases c <;> simp [incCell, cellNum]

theorem aggTotal_upd_inc (m : Nat) (K : Key) (m' : Nat) (s : Source) (a : Int) (st : Store) :
    aggTotal K (seriesOf m (upd (m', s) (incCell a) st)) =
      aggTotal K (seriesOf m st) + (if m' = m ∧ s.key = K then a else 0) := by
  fun_induction upd (m', s) (incCell a) st with
  | case1 =>
    rw [aggTotal_cons]
    simp [aggTotal, seriesOf, withKey, sumCells, incCell, cellNum]
  | case2 c rest =>
    rw [aggTotal_cons, aggTotal_cons, cellNum_incCell]
    by_cases h2 : m' = m ∧ s.key = K
    · simp [h2]; ring
    · simp [h2]
  | case3 k c rest hk ih =>
    rw [aggTotal_cons, aggTotal_cons, ih]
    ring

/-! Each metric type has one recording entry point (`accepts`), and the three classes of types are
  disjoint, so the series of a metric of type `t` are written only by the entry point of `t`. -/

theorem VType.not_pct_of_counterLike {t : VType} (h : t.isCounterLike = true) :
    t.isPct = false ∧ t ≠ .gauge := by
  cases t <;> simp [VType.isCounterLike, VType.isPct] at h ⊢

theorem VType.not_counterLike_of_pct {t : VType} (h : t.isPct = true) :
    t.isCounterLike = false ∧ t ≠ .gauge := by
  cases t <;> simp [VType.isCounterLike, VType.isPct] at h ⊢

/-- The step if every metric had type `t`: on a metric of type `t` it agrees with the real one. -/
def stepAt (cap : Nat) (t : VType) (st : Store) : Op → Store
  | .inc m s a => if t.isCounterLike then upd (m, s) (incCell a) st else st
  | .set m s v => if t = .gauge then upd (m, s) (setCell v) st else st
  | .sample m s v keep now => if t.isPct then upd (m, s) (sampleCell cap keep v now) st else st
  | _ => st

theorem stepSt_at {cfg : Cfg} {m : Nat} {t : VType} (ht : typeOf cfg m = some t) (st : St) (op : Op) :
    seriesOf m (stepSt cfg st op) = seriesOf m (stepAt cfg.cap t st op) := by
  cases op with
  | inc m' s _ | set m' s _ | sample m' s _ _ _ =>
    by_cases hm : m' = m
    · subst hm
      simp only [stepSt, stepAt, accepts, ht, decide_eq_true_eq]
    · -- another metric: written or not, on either side, the series of `m` stay
      simp only [stepSt, stepAt, apply_ite (seriesOf m), seriesOf_upd_other hm, ite_self]
  | get _ _ | agg _ _ => simp only [stepSt, stepAt, ite_self]

theorem lookup_stepSt_at {cfg : Cfg} {m : Nat} {t : VType} (ht : typeOf cfg m = some t) (s : Source)
    (st : St) (op : Op) :
    lookup (m, s) (stepSt cfg st op) = lookup (m, s) (stepAt cfg.cap t st op) := by
  rw [lookup_eq_series, lookup_eq_series, stepSt_at ht]

/-- Induction over a newest-first history for a fact about one metric: `view` is what the fact
    reads of the store (`seriesOf m`, `lookup (m, s)`), and it suffices to follow `stepAt`. -/
theorem replay_at {cfg : Cfg} {t : VType} {α : Type} (view : Store → α)
    (hview : ∀ st op, view (stepSt cfg st op) = view (stepAt cfg.cap t st op))
    (P : List Op → α → Prop) (hnil : P [] (view []))
    (hstep : ∀ op h st, P h (view st) → P (op :: h) (view (stepAt cfg.cap t st op))) :
    ∀ h, P h (view (replay cfg h))
  | [] => hnil
  | op :: h => by rw [replay, hview]; exact hstep op h _ (replay_at view hview P hnil hstep h)

theorem aggTotal_replay {cfg : Cfg} {m : Nat} {t : VType} (K : Key) (ht : typeOf cfg m = some t)
    (hc : t.isCounterLike = true) (h : List Op) :
    aggTotal K (seriesOf m (replay cfg h)) = incSum m K h := by
  obtain ⟨hp, hg⟩ := VType.not_pct_of_counterLike hc
  refine replay_at (seriesOf m) (stepSt_at ht)
    (fun h ser => aggTotal K ser = incSum m K h) rfl (fun op h st ih => ?_) h
  cases op with
  | inc m' s a =>
    simp only [stepAt, incSum, hc, if_true]
    rw [aggTotal_upd_inc, ih, Int.add_comm]
  | set _ _ _ | sample _ _ _ _ _ =>
    simp only [stepAt, incSum, hg, hp, Bool.false_eq_true, if_false]; exact ih
  | get _ _ | agg _ _ => exact ih

theorem lookup_replay_gauge {cfg : Cfg} {m : Nat} (s : Source) (ht : typeOf cfg m = some .gauge)
    (h : List Op) : lookup (m, s) (replay cfg h) = (lastSet m s h).map Cell.num := by
  refine replay_at (lookup (m, s)) (lookup_stepSt_at ht s)
    (fun h c => c = (lastSet m s h).map Cell.num) rfl (fun op h st ih => ?_) h
  cases op with
  | set m' s' v =>
    simp only [stepAt, lastSet, if_true]
    rw [lookup_upd]
    simp only [Prod.mk.injEq, setCell, ih]
    split <;> rfl
  | inc _ _ _ | sample _ _ _ _ _ =>
    simp only [stepAt, lastSet, VType.isCounterLike, VType.isPct, Bool.false_eq_true, if_false]
    exact ih
  | get _ _ | agg _ _ => exact ih

theorem opsOk_reverse {cfg : Cfg} {ops : List Op} (h : opsOk cfg ops = true) :
    ops.reverse.all (accepts cfg) = true :=
  List.all_reverse.trans h

/-- `srcs` in the specification lists every recording operation at `m`, whatever the type of `m`,
    so it matches the store only where every operation was accepted: hence `hacc`, and an
    induction of its own instead of `replay_at`, which follows one type's entry point. -/
theorem sourcesOf_replay {cfg : Cfg} (m : Nat) {h : List Op} (hacc : h.all (accepts cfg) = true) :
    sourcesOf m (replay cfg h) = distinctSrcs m h := by
  induction h with
  | nil => rfl
  | cons op h ih =>
    simp only [List.all_cons, Bool.and_eq_true] at hacc
    obtain ⟨ha, hrest⟩ := hacc
    have ih := ih hrest
    simp only [replay, stepSt, ha, if_true]
    have key : ∀ (m' : Nat) (s : Source) (f : Option Cell → Cell),
        sourcesOf m (upd (m', s) f (replay cfg h)) =
          firstOcc (if m' = m then s :: srcs m h else srcs m h).reverse := by
      intro m' s f
      by_cases hm : m' = m
      · rw [hm, sourcesOf_upd_same, ih]
        simp only [if_true, distinctSrcs, List.reverse_cons, firstOcc_snoc, mem_firstOcc]
      · rw [sourcesOf, seriesOf_upd_other hm, ← sourcesOf, ih, if_neg hm, distinctSrcs]
    cases op with
    | inc m' s _ | set m' s _ | sample m' s _ _ _ => exact key m' s _
    | get _ _ | agg _ _ => exact ih

theorem nSeries_replay {cfg : Cfg} (m : Nat) {h : List Op} (hacc : h.all (accepts cfg) = true) :
    nSeries m (replay cfg h) = (distinctSrcs m h).length := by
  rw [nSeries_eq, sourcesOf_replay m hacc]

/-- `_SampleSet.Sample` in closed form: the `seen` count, `last_update`, and what is retained -/
theorem sampleInto_spec (cap : Nat) (keep : Bool) (v : Int) (now : Nat) (data : List Int)
    (seen last : Nat) :
    ∃ d, sampleInto cap keep v now data seen last =
        .res d (seen + 1) (if seen < cap ∨ keep = true then now else last) ∧
      d.length ≤ data.length + 1 ∧ (data.length ≤ cap → data.length ≤ seen → d.length ≤ cap) ∧
      ∀ x ∈ d, x = v ∨ x ∈ data := by
  have hlen : (data ++ [v]).length = data.length + 1 := List.length_append
  have hmem : ∀ x ∈ data ++ [v], x = v ∨ x ∈ data := fun x hx =>
    (List.mem_append.mp hx).symm.imp_left List.mem_singleton.mp
  fun_cases sampleInto cap keep v now data seen last with
  | case1 h =>
    exact ⟨_, by rw [if_pos (Or.inl h)], Nat.le_of_eq hlen, fun _ hs => hlen ▸ Nat.lt_of_le_of_lt hs h, hmem⟩
  | case2 h hk =>
    -- the deque keeps the last `cap` elements (`drop 0` when there are no more)
    refine ⟨(data ++ [v]).drop ((data ++ [v]).length - cap), ?_, ?_, fun _ _ => ?_,
      fun x hx => hmem x (List.mem_of_mem_drop hx)⟩
    · rw [if_pos (Or.inr hk)]
      simp only [Cell.res.injEq, and_true]
      split
      · rfl
      · next hgt => rw [Nat.sub_eq_zero_of_le (Nat.le_of_not_lt hgt)]; rfl
    · rw [List.length_drop, ← hlen]; exact Nat.sub_le _ _
    · rw [List.length_drop]; omega
  | case3 h hk =>
    exact ⟨data, by rw [if_neg (not_or.mpr ⟨h, hk⟩)], Nat.le_succ _, fun h _ => h, fun _ => Or.inr⟩
/-- what the store holds for a source of a percentile metric, against the number `n` of samples
    recorded for it and the time `lr` at which its reservoir last retained one -/
def ResInv (n : Nat) (lr : Option Nat) : Option Cell → Prop
  | none => n = 0 ∧ lr = none
  | some (.res _ seen last) => seen = n ∧ ∀ t, lr = some t → last = t
  | some (.num _) => False

theorem ResInv_sample {cap : Nat} {keep : Bool} {v : Int} {now n : Nat} {lr : Option Nat}
    {c : Option Cell} (h : ResInv n lr c) :
    ResInv (1 + n) (if n < cap ∨ keep = true then some now else lr)
      (some (sampleCell cap keep v now c)) := by
  match c, h with
  | none, ⟨h0, hn⟩ =>
    obtain ⟨d, hd, _⟩ := sampleInto_spec cap keep v now [] 0 now
    subst h0 hn
    change ResInv _ _ (some (sampleInto cap keep v now [] 0 now))
    rw [hd, ite_self]
    exact ⟨rfl, fun t ht => by split at ht <;> cases ht; rfl⟩
  | some (.res d0 seen last), ⟨hn, hl⟩ =>
    obtain ⟨d, hd, _⟩ := sampleInto_spec cap keep v now d0 seen last
    subst hn
    change ResInv _ _ (some (sampleInto cap keep v now d0 seen last))
    rw [hd]
    refine ⟨Nat.add_comm _ _, fun t ht => ?_⟩
    split at ht
    · next hc => rw [if_pos hc]; exact Option.some.inj ht
    · next hc => rw [if_neg hc]; exact hl t ht

theorem lookup_replay_pct {cfg : Cfg} {m : Nat} {t : VType} (s : Source) (ht : typeOf cfg m = some t)
    (hp : t.isPct = true) (h : List Op) :
    ResInv (sampleCount m s h) (lastRetain cfg.cap m s h) (lookup (m, s) (replay cfg h)) := by
  obtain ⟨hc, hg⟩ := VType.not_counterLike_of_pct hp
  refine replay_at (lookup (m, s)) (lookup_stepSt_at ht s)
    (fun h c => ResInv (sampleCount m s h) (lastRetain cfg.cap m s h) c) ⟨rfl, rfl⟩
    (fun op h st ih => ?_) h
  cases op with
  | sample m' s' v keep now =>
    simp only [stepAt, sampleCount, lastRetain, hp, if_true]
    rw [lookup_upd]
    by_cases hk : m' = m ∧ s' = s
    · obtain ⟨rfl, rfl⟩ := hk; simp only [and_self, if_true]; exact ResInv_sample ih
    · simp only [Prod.mk.injEq, hk, if_false, Nat.zero_add]; exact ih
  | inc _ _ _ | set _ _ _ =>
    simp only [stepAt, sampleCount, lastRetain, hc, hg, Bool.false_eq_true, if_false]
    exact ih
  | get _ _ | agg _ _ => exact ih

theorem insertSorted_perm (x : Int) (l : List Int) : (insertSorted x l).Perm (x :: l) := by
  induction l with
  | nil => exact .refl _
  | cons y ys ih =>
    unfold insertSorted
    split
    · exact .refl _
    · exact (ih.cons y).trans (.swap x y ys)

theorem isort_perm (l : List Int) : (isort l).Perm l := by
  induction l with
  | nil => exact .refl _
  | cons z zs ih => exact (insertSorted_perm z _).trans (ih.cons z)

theorem mem_isort (y : Int) (l : List Int) : y ∈ isort l ↔ y ∈ l := (isort_perm l).mem_iff

theorem isort_ne_nil {l : List Int} (h : l ≠ []) : isort l ≠ [] := fun h0 =>
  h (h0 ▸ isort_perm l).symm.eq_nil

theorem insertSorted_sorted (x : Int) (l : List Int) (h : l.Pairwise (· ≤ ·)) :
    (insertSorted x l).Pairwise (· ≤ ·) := by
  induction l with
  | nil => exact List.pairwise_singleton _ _
  | cons z zs ih =>
    unfold insertSorted
    have hz := List.pairwise_cons.mp h
    split
    · next hxz =>
      refine List.pairwise_cons.mpr ⟨fun a ha => ?_, h⟩
      rcases List.mem_cons.mp ha with rfl | ha
      · exact hxz
      · exact Int.le_trans hxz (hz.1 a ha)
    · next hxz =>
      refine List.pairwise_cons.mpr ⟨fun a ha => ?_, ih hz.2⟩
      rcases List.mem_cons.mp ((insertSorted_perm x zs).mem_iff.mp ha) with rfl | ha
      · exact Int.le_of_lt (Int.not_le.mp hxz)
      · exact hz.1 a ha

theorem isort_sorted (l : List Int) : (isort l).Pairwise (· ≤ ·) := by
  induction l with
  | nil => exact .nil
  | cons z zs ih => exact insertSorted_sorted z _ ih

theorem getD_mem {vs : List Int} {i : Nat} (h : i < vs.length) : vs.getD i 0 ∈ vs := by
  simp [List.getD, List.getElem?_eq_getElem h]

theorem sorted_getD_le {vs : List Int} (hs : vs.Pairwise (· ≤ ·)) {i j : Nat} (hij : i ≤ j)
    (hj : j < vs.length) : vs.getD i 0 ≤ vs.getD j 0 := by
  have hi : i < vs.length := Nat.lt_of_le_of_lt hij hj
  simp only [List.getD, List.getElem?_eq_getElem hi, List.getElem?_eq_getElem hj, Option.getD_some]
  rcases Nat.lt_or_eq_of_le hij with h | h
  · exact (List.pairwise_iff_getElem.mp hs) i j hi hj h
  · subst h; exact le_refl _

/-! `a·(q−r) + b·r` is `q` times the point `r/q` of the way from `a` to `b`. -/

theorem lerp_lower {a b q r : Int} (hab : a ≤ b) (hr : 0 ≤ r) : a * q ≤ a * (q - r) + b * r :=
  calc a * q = a * (q - r) + a * r := by rw [← Int.mul_add, Int.sub_add_cancel]
    _ ≤ a * (q - r) + b * r := Int.add_le_add_left (Int.mul_le_mul_of_nonneg_right hab hr) _

theorem lerp_upper {a b q r : Int} (hab : a ≤ b) (hr : r ≤ q) : a * (q - r) + b * r ≤ b * q :=
  calc a * (q - r) + b * r ≤ b * (q - r) + b * r :=
      Int.add_le_add_right (Int.mul_le_mul_of_nonneg_right hab (Int.sub_nonneg_of_le hr)) _
    _ = b * q := by rw [← Int.mul_add, Int.sub_add_cancel]

/-- `r₁/q₁ ≤ r₂/q₂` and the two points it compares, cross-multiplied -/
theorem lerp_mono {a b q1 r1 q2 r2 : Int} (hab : a ≤ b) (h : r1 * q2 ≤ r2 * q1) :
    (a * (q1 - r1) + b * r1) * q2 ≤ (a * (q2 - r2) + b * r2) * q1 := by
  have e : (a * (q2 - r2) + b * r2) * q1 - (a * (q1 - r1) + b * r1) * q2 =
      (b - a) * (r2 * q1 - r1 * q2) := by ring
  exact Int.le_of_sub_nonneg (e ▸ Int.mul_nonneg (Int.sub_nonneg_of_le hab) (Int.sub_nonneg_of_le h))

/-- `x/q₁ ≤ u ≤ l ≤ y/q₂`, cross-multiplied -/
theorem cross_le {x y u l q1 q2 : Int} (hq1 : 0 ≤ q1) (hq2 : 0 ≤ q2) (hx : x ≤ u * q1) (hul : u ≤ l)
    (hy : l * q2 ≤ y) : x * q2 ≤ y * q1 :=
  calc x * q2 ≤ u * q1 * q2 := Int.mul_le_mul_of_nonneg_right hx hq2
    _ = u * q2 * q1 := Int.mul_right_comm _ _ _
    _ ≤ l * q2 * q1 :=
      Int.mul_le_mul_of_nonneg_right (Int.mul_le_mul_of_nonneg_right hul hq2) hq1
    _ ≤ y * q1 := Int.mul_le_mul_of_nonneg_right hy hq1

/-- `q` times the sample value at position `f + r/q`: the point `r/q` of the way from the value
    at `f` to the value at the next index (clamped to the last one, where `r = 0`).
    CalculatePercentile·q is this at the floor and remainder of k = (n-1)·p/q. -/
def pctCore (vs : List Int) (q f r : Nat) : Int :=
  vs.getD f 0 * ((q : Int) - r) + vs.getD (min (f + 1) (vs.length - 1)) 0 * r

theorem next_lt {f n : Nat} (hf : f < n) : min (f + 1) (n - 1) < n :=
  Nat.lt_of_le_of_lt (Nat.min_le_right _ _) (Nat.sub_lt (Nat.zero_lt_of_lt hf) Nat.one_pos)

theorem pct_index {n p q : Nat} (hn : 1 ≤ n) (hp : p ≤ q) :
    (n - 1) * p / q < n ∧ ((n - 1) * p % q ≠ 0 → (n - 1) * p / q + 1 < n) := by
  have ha : (n - 1) * p ≤ q * (n - 1) := Nat.mul_comm q _ ▸ Nat.mul_le_mul_left _ hp
  have hf : (n - 1) * p / q ≤ n - 1 := Nat.div_le_of_le_mul ha
  refine ⟨Nat.lt_of_le_of_lt hf (Nat.sub_lt hn Nat.one_pos), fun hr => ?_⟩
  rcases Nat.lt_or_eq_of_le hf with hlt | heq
  · exact Nat.add_lt_of_lt_sub hlt
  · -- the floor is the last index only if k is that index exactly
    have hdm := Nat.div_add_mod ((n - 1) * p) q
    rw [heq] at hdm
    have hle : q * (n - 1) + (n - 1) * p % q ≤ q * (n - 1) + 0 := Nat.le_trans (Nat.le_of_eq hdm) ha
    exact absurd (Nat.le_zero.mp (Nat.le_of_add_le_add_left hle)) hr

theorem pctNum_eq {vs : List Int} {p q : Nat} (h : vs ≠ []) (hp : p ≤ q) :
    pctNum vs p q = pctCore vs q ((vs.length - 1) * p / q) ((vs.length - 1) * p % q) := by
  have hidx := (pct_index (List.length_pos_iff.mpr h) hp).2
  cases vs with
  | nil => exact absurd rfl h
  | cons x xs =>
    simp only [pctNum, pctCore]
    split
    · next h0 => simp only [h0, Nat.cast_zero, Int.sub_zero, Int.mul_zero, Int.add_zero]
    · next h0 => rw [Nat.min_eq_left (Nat.le_sub_one_of_lt (hidx h0))]

theorem getD_le_next {vs : List Int} (hs : vs.Pairwise (· ≤ ·)) {f : Nat} (hf : f < vs.length) :
    vs.getD f 0 ≤ vs.getD (min (f + 1) (vs.length - 1)) 0 :=
  sorted_getD_le hs (Nat.le_min.mpr ⟨Nat.le_succ f, Nat.le_sub_one_of_lt hf⟩)
    (next_lt hf)

theorem div_mod_order {a1 q1 a2 q2 : Nat} (hq1 : 0 < q1) (hq2 : 0 < q2) (h : a1 * q2 ≤ a2 * q1) :
    a1 / q1 < a2 / q2 ∨ (a1 / q1 = a2 / q2 ∧ (a1 % q1) * q2 ≤ (a2 % q2) * q1) := by
  -- both quotients are quotients by `q1 * q2`
  have hle : a1 / q1 ≤ a2 / q2 := by
    rw [← Nat.mul_div_mul_right a1 q1 hq2, ← Nat.mul_div_mul_right a2 q2 hq1, Nat.mul_comm q2 q1]
    exact Nat.div_le_div_right h
  refine (Nat.lt_or_eq_of_le hle).imp_right fun heq => ⟨heq, ?_⟩
  -- equal quotients `f`: cancel `q1 * f * q2` on both sides of `h`
  have h' : (q1 * (a1 / q1) + a1 % q1) * q2 ≤ (q2 * (a2 / q2) + a2 % q2) * q1 := by
    rwa [Nat.div_add_mod, Nat.div_add_mod]
  rw [heq, Nat.add_mul, Nat.add_mul, show q1 * (a2 / q2) * q2 = q2 * (a2 / q2) * q1 by ring] at h'
  exact Nat.le_of_add_le_add_left h'

theorem pctCore_mono {vs : List Int} (hs : vs.Pairwise (· ≤ ·)) {q1 f1 r1 q2 f2 r2 : Nat}
    (hf2 : f2 < vs.length) (hrq1 : r1 ≤ q1)
    (hord : f1 < f2 ∨ (f1 = f2 ∧ r1 * q2 ≤ r2 * q1)) :
    pctCore vs q1 f1 r1 * (q2 : Int) ≤ pctCore vs q2 f2 r2 * (q1 : Int) := by
  rcases hord with hlt | ⟨rfl, hrr⟩
  · -- the value after `f1` is at most the one at `f2`: compare through them
    exact cross_le (Int.natCast_nonneg _) (Int.natCast_nonneg _)
      (lerp_upper (getD_le_next hs (Nat.lt_trans hlt hf2)) (Int.ofNat_le.mpr hrq1))
      (sorted_getD_le hs (Nat.le_trans (Nat.min_le_left _ _) hlt) hf2)
      (lerp_lower (getD_le_next hs hf2) (Int.natCast_nonneg r2))
  · -- same floor: the same two neighbours
    exact lerp_mono (getD_le_next hs hf2) (by exact_mod_cast hrr)

theorem pctNum_witness {vs : List Int} (hs : vs.Pairwise (· ≤ ·)) (hne : vs ≠ []) {p q : Nat}
    (hq : 0 < q) (hp : p ≤ q) :
    (∃ x ∈ vs, x * (q : Int) ≤ pctNum vs p q) ∧ (∃ x ∈ vs, pctNum vs p q ≤ x * (q : Int)) := by
  have hf := (pct_index (List.length_pos_iff.mpr hne) hp).1
  rw [pctNum_eq hne hp]
  exact ⟨⟨_, getD_mem hf, lerp_lower (getD_le_next hs hf) (Int.natCast_nonneg _)⟩,
    ⟨_, getD_mem (next_lt hf),
      lerp_upper (getD_le_next hs hf) (Int.ofNat_le.mpr (Nat.le_of_lt (Nat.mod_lt _ hq)))⟩⟩

theorem pctNum_mono {vs : List Int} (hs : vs.Pairwise (· ≤ ·)) (hne : vs ≠ []) {p1 q1 p2 q2 : Nat}
    (hq1 : 0 < q1) (hp1 : p1 ≤ q1) (hq2 : 0 < q2) (hp2 : p2 ≤ q2) (h : p1 * q2 ≤ p2 * q1) :
    pctNum vs p1 q1 * (q2 : Int) ≤ pctNum vs p2 q2 * (q1 : Int) := by
  have hn : 1 ≤ vs.length := List.length_pos_iff.mpr hne
  rw [pctNum_eq hne hp1, pctNum_eq hne hp2]
  apply pctCore_mono hs (pct_index hn hp2).1 (Nat.le_of_lt (Nat.mod_lt _ hq1))
  apply div_mod_order hq1 hq2
  rw [Nat.mul_assoc, Nat.mul_assoc]
  exact Nat.mul_le_mul_left _ h

theorem zip_map_self {α β : Type} (l : List α) (g : α → β) :
    l.zip (l.map g) = l.map (fun a => (a, g a)) := by
  simpa using List.zip_map' (f := id) (g := g) (l := l)

theorem pctsOk_model {pcts : List (Nat × Nat)} (hv : pcts.all pctValid = true) (xs : List Int) :
    pctsOk pcts (isort xs) (pcts.map (fun pq => pctNum (isort xs) pq.1 pq.2)) = true := by
  by_cases hne : isort xs = []
  · rw [pctsOk, hne]; rfl
  have hs := isort_sorted xs
  have valid : ∀ pq ∈ pcts, 0 < pq.2 ∧ pq.1 ≤ pq.2 := fun pq hpq => by
    simpa [pctValid] using List.all_eq_true.mp hv pq hpq
  rw [pctsOk, zip_map_self, List.all_map, List.all_map, Bool.or_eq_true, Bool.and_eq_true,
    Bool.and_eq_true]
  refine Or.inr ⟨⟨decide_eq_true (List.length_map _), List.all_eq_true.mpr fun pq hpq => ?_⟩,
    List.all_eq_true.mpr fun a ha => ?_⟩
  · obtain ⟨hq, hp⟩ := valid _ hpq
    obtain ⟨⟨x, hx, hxl⟩, ⟨y, hy, hyu⟩⟩ := pctNum_witness hs hne hq hp
    simp only [Function.comp, Bool.and_eq_true, List.any_eq_true]
    exact ⟨⟨x, hx, decide_eq_true hxl⟩, ⟨y, hy, decide_eq_true hyu⟩⟩
  · simp only [Function.comp, List.all_map, List.all_eq_true]
    intro b hb
    obtain ⟨hqa, hpa⟩ := valid _ ha
    obtain ⟨hqb, hpb⟩ := valid _ hb
    rw [Bool.or_eq_true, Bool.not_eq_true', decide_eq_false_iff_not, decide_eq_true_eq]
    exact (Decidable.em _).symm.imp_right fun hord => pctNum_mono hs hne hqa hpa hqb hpb hord

theorem withKey_map_fst (K : Key) (ser : List (Source × Cell)) :
    (withKey K ser).map (·.1) = (ser.map (·.1)).filter (fun s => s.key = K) :=
  (List.filter_map (f := (·.1)) (p := fun s : Source => decide (s.key = K)) (l := ser)).symm

theorem single_source_withKey {m : Nat} {st : Store} {K : Key} {s : Source}
    (hone : (sourcesOf m st).filter (fun s => s.key = K) = [s]) :
    ∃ c, withKey K (seriesOf m st) = [(s, c)] ∧ lookup (m, s) st = some c := by
  have hmap := withKey_map_fst K (seriesOf m st)
  rw [← sourcesOf, hone] at hmap
  obtain ⟨⟨s', c⟩, hw, hs'⟩ := List.map_eq_singleton_iff.mp hmap
  cases hs'
  have hK : s'.key = K := by
    simpa using (List.mem_filter.mp (hw ▸ List.mem_singleton_self _ : (s', c) ∈ withKey K _)).2
  -- `lookup` reads the first entry of the source in the series, and entries of that source roll up to `K`
  refine ⟨c, hw, ?_⟩
  have hq : (withKey K (seriesOf m st)).find? (fun e => e.1 = s') =
      (seriesOf m st).find? (fun e => e.1 = s') := by
    rw [withKey, List.find?_filter]
    congr 1; funext e
    by_cases he : e.1 = s' <;> simp [he, hK]
  rw [lookup_eq_series, ← hq, hw]
  simp

theorem gauge_entry {cfg : Cfg} {m : Nat} (ht : typeOf cfg m = some .gauge) {h : List Op}
    (hacc : h.all (accepts cfg) = true) {K : Key} {s : Source}
    (hone : (distinctSrcs m h).filter (fun s => s.key = K) = [s]) :
    some (aggTotal K (seriesOf m (replay cfg h))) = lastSet m s h := by
  obtain ⟨c, hw, hc⟩ := single_source_withKey (sourcesOf_replay m hacc ▸ hone)
  have hl := lookup_replay_gauge s ht h
  rw [hc] at hl
  cases hls : lastSet m s h with
  | none => rw [hls] at hl; cases hl
  | some v =>
    rw [hls] at hl
    cases hl
    simp [aggTotal, hw, sumCells, cellNum]

theorem aggPcts_single (pcts : List (Nat × Nat)) {now : Nat} {K : Key} {ser : List (Source × Cell)}
    {s : Source} {d : List Int} {n l : Nat} (hw : withKey K ser = [(s, .res d n l)])
    (hl : now - l < maxAggAge) :
    pctCount now K ser = 1 ∧
      aggPcts pcts now K ser = pcts.map (fun pq => pctNum (isort (mergedData K ser)) pq.1 pq.2) := by
  have hfresh : freshOf now K ser = [(s, .res d n l)] := by simp [freshOf, hw, cellFresh, hl]
  have hcount : pctCount now K ser = 1 := by rw [pctCount, hfresh]; rfl
  have hdata : freshData now K ser = mergedData K ser := by rw [freshData, hfresh, mergedData, hw]
  exact ⟨hcount, by rw [aggPcts, if_pos hcount, hdata]⟩

/-- a single source that retained a sample within MAX_AGG_AGE is never dropped -/
theorem pct_entry {cfg : Cfg} {m : Nat} {t : VType} (ht : typeOf cfg m = some t)
    (hp : t.isPct = true) {h : List Op} (hacc : h.all (accepts cfg) = true) {K : Key} {s : Source}
    {now : Nat} (hone : (distinctSrcs m h).filter (fun s => s.key = K) = [s])
    (hrec : retainedRecently cfg.cap m s now h = true) :
    pctCount now K (seriesOf m (replay cfg h)) = 1 ∧
    aggPcts cfg.pcts now K (seriesOf m (replay cfg h)) =
      cfg.pcts.map (fun pq => pctNum (isort (mergedData K (seriesOf m (replay cfg h)))) pq.1 pq.2) := by
  obtain ⟨c, hw, hc⟩ := single_source_withKey (sourcesOf_replay m hacc ▸ hone)
  have hinv := lookup_replay_pct s ht hp h
  rw [hc] at hinv
  unfold retainedRecently at hrec
  cases hlr : lastRetain cfg.cap m s h with
  | none => rw [hlr] at hrec; cases hrec
  | some tr =>
    rw [hlr] at hrec
    cases c with
    | num v => exact hinv.elim
    | res d n l =>
      exact aggPcts_single _ hw (hinv.2 tr hlr ▸ of_decide_eq_true hrec)

theorem entryOk_model {cfg : Cfg} (hwf : cfgWF cfg = true) {h : List Op}
    (hacc : h.all (accepts cfg) = true) {now m : Nat} {t : VType} (ht : typeOf cfg m = some t)
    {e : Entry} (he : e ∈ entriesOf cfg now t (seriesOf m (replay cfg h))) :
    entryOk cfg h now m t e = true := by
  simp only [entriesOf, List.mem_map] at he
  obtain ⟨K, _, rfl⟩ := he
  by_cases hp : t.isPct = true
  · simp only [hp, if_true, entryOk]
    split
    · rename_i s hone
      split
      · rename_i hrec
        exact (pct_entry ht hp hacc hone hrec).2 ▸ pctsOk_model hwf _
      · rfl
    · rfl
  · simp only [hp, Bool.false_eq_true, if_false]
    cases t with
    | rate | counter =>
      simp only [entryOk, decide_eq_true_eq]
      exact aggTotal_replay K ht rfl h
    | gauge =>
      simp only [entryOk]
      split
      · rename_i s hone
        simp only [decide_eq_true_eq]
        exact gauge_entry ht hacc hone
      · rfl
    | aggTimer => rfl
    | avgTimer | avgRate => exact absurd rfl hp

theorem mem_aggOut {cfg : Cfg} {ms : List Nat} {now : Nat} {st : Store} {m : Nat} {es : List Entry}
    {t : VType} (h : (m, es) ∈ aggOut cfg ms now st) (ht : typeOf cfg m = some t) :
    es = entriesOf cfg now t (seriesOf m st) := by
  simp only [aggOut, List.mem_filterMap] at h
  obtain ⟨m', _, hg⟩ := h
  split at hg
  · split at hg
    · rename_i t' ht'
      simp only [Option.some.injEq, Prod.mk.injEq] at hg
      obtain ⟨rfl, rfl⟩ := hg
      cases ht.symm.trans ht'
      rfl
    · cases hg
  · cases hg

theorem firstBadEntry_none (cfg : Cfg) (h : List Op) (now : Nat) (l : List (Nat × List Entry))
    (hl : ∀ m es, (m, es) ∈ l → ∀ t, typeOf cfg m = some t → ∀ e ∈ es, entryOk cfg h now m t e = true) :
    firstBadEntry cfg h now l = none := by
  fun_induction firstBadEntry cfg h now l with
  | case1 => rfl
  | case2 m es rest ht ih | case4 m es rest t ht hf ih =>
    exact ih fun m' es' hm => hl m' es' (List.mem_cons_of_mem _ hm)
  | case3 m es rest t ht e hf =>
    have := hl m es List.mem_cons_self t ht e (List.mem_of_find?_eq_some hf)
    simpa [this] using List.find?_some hf
theorem mem_metricsOf {m : Nat} {s : Source} {st : Store} (h : s ∈ sourcesOf m st) :
    m ∈ metricsOf st := by
  obtain ⟨c, hc⟩ := mem_sourcesOf.mp h
  exact (mem_firstOcc _ _).mpr (List.mem_map.mpr ⟨_, hc, rfl⟩)

theorem findEntries_aggOut {cfg : Cfg} {ms : List Nat} (now : Nat) {st : Store} {m : Nat} {t : VType}
    (hm : m ∈ metricsOf st) (hms : m ∈ ms) (ht : typeOf cfg m = some t) :
    findEntries (aggOut cfg ms now st) m = entriesOf cfg now t (seriesOf m st) := by
  unfold findEntries
  split
  · next me hf =>
    obtain ⟨m', es⟩ := me
    have hm' : m' = m := by simpa using List.find?_some hf
    subst hm'
    exact mem_aggOut (List.mem_of_find?_eq_some hf) ht
  · next hf =>
    have hin : (m, entriesOf cfg now t (seriesOf m st)) ∈ aggOut cfg ms now st :=
      List.mem_filterMap.mpr ⟨m, hm, by simp [hms, ht]⟩
    exact absurd (List.find?_eq_none.mp hf _ hin) (by simp)

theorem entry_key_any (cfg : Cfg) (now : Nat) (t : VType) {ser : List (Source × Cell)} {s : Source}
    (hs : s ∈ ser.map (·.1)) :
    (entriesOf cfg now t ser).any (fun e => e.key = s.key) = true := by
  simp only [entriesOf, List.any_map, List.any_eq_true, Function.comp]
  refine ⟨s.key, ?_, ?_⟩
  · unfold aggKeys
    rw [mem_firstOcc]
    simp only [List.mem_map] at hs ⊢
    obtain ⟨e, he, rfl⟩ := hs
    exact ⟨e, he, rfl⟩
  · split <;> simp [Entry.key]

theorem covered_model {cfg : Cfg} {h : List Op} (hacc : h.all (accepts cfg) = true) (ms : List Nat)
    (now : Nat) : covered cfg h ms (aggOut cfg ms now (replay cfg h)) = true := by
  unfold covered
  rw [List.all_eq_true]
  intro m hm
  have hk := sourcesOf_replay m hacc
  have main : ∀ t, typeOf cfg m = some t →
      ((distinctSrcs m h).all fun s =>
        (findEntries (aggOut cfg ms now (replay cfg h)) m).any fun e => e.key = s.key) = true := by
    intro t ht
    rw [List.all_eq_true]
    intro s hs
    have hsk : s ∈ sourcesOf m (replay cfg h) := by rw [hk]; exact hs
    rw [findEntries_aggOut now (mem_metricsOf hsk) hm ht]
    exact entry_key_any cfg now t hsk
  split
  · rename_i ht; exact main _ ht
  · rename_i ht; exact main _ ht
  · rfl

theorem specObs_model {cfg : Cfg} (hwf : cfgWF cfg = true) {h : List Op}
    (hacc : h.all (accepts cfg) = true) {op : Op} (ha : accepts cfg op = true) (idx : Nat) :
    specObs cfg (op :: h) idx op (obsOf cfg (replay cfg (op :: h)) op) = .ok := by
  have hacc' : (op :: h).all (accepts cfg) = true := by rw [List.all_cons, ha, hacc]; rfl
  cases op with
  | inc m _ _ | set m _ _ | sample m _ _ _ _ =>
    simp only [obsOf, ha, if_true, specObs, metricOf, Nat.le_of_eq (nSeries_replay m hacc')]
  | get m s =>
    simp only [specObs]
    split
    · rename_i hg
      have hl := lookup_replay_gauge s hg (.get m s :: h)
      simp only [obsOf, ha, if_true, hl]
      cases lastSet m s (.get m s :: h) <;> simp only [Option.map, if_true]
    · rfl
  | agg ms now =>
    simp only [obsOf, ha, if_true, specObs]
    have hb : firstBadEntry cfg (.agg ms now :: h) now
        (aggOut cfg ms now (replay cfg (.agg ms now :: h))) = none := by
      apply firstBadEntry_none
      intro m es hmem t ht e he
      exact entryOk_model hwf hacc' ht (mem_aggOut hmem ht ▸ he)
    simp only [hb, covered_model hacc' ms now, if_true]

theorem specGo_model (cfg : Cfg) (hwf : cfgWF cfg = true) :
    ∀ (ops : List Op) (h : List Op) (idx : Nat), h.all (accepts cfg) = true →
      ops.all (accepts cfg) = true →
      specGo cfg h idx (comp.trace cfg (replay cfg h) ops) = .ok := by
  intro ops
  induction ops with
  | nil => intros; rfl
  | cons op ops ih =>
    intro h idx hacc hops
    simp only [List.all_cons, Bool.and_eq_true] at hops
    obtain ⟨ha, hrest⟩ := hops
    rw [TComp.trace_cons comp step, specGo]
    exact Verdict.and_ok (specObs_model hwf hacc ha idx)
      (ih (op :: h) (idx + 1) (by simp [ha, hacc]) hrest)

end Scales.Varz
