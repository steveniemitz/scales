/-
  Proofs/ResurrectorFacts.lean — the coupling along operation lists (`run_ok`: after any prefix, with the
  automaton's verdict on the rest still open), and what it gives for reachable states: no next sink while
  down, the bound on the wake instant, no connect accepted after `Close()`.
-/
import ScalesModel.Proofs.ResurrectorOps
import ScalesModel.Proofs.RunLemmas
namespace Scales.Res

theorem SS.settle_le {a : SS} (h : a.lastEnd ≤ a.now) : a.settle.lastEnd ≤ a.settle.now := by
  unfold SS.settle; split <;> exact h

theorem SS.settle_now (a : SS) : a.settle.now = a.now := by
  unfold SS.settle; split <;> rfl

/-- the automaton never dates the begin of a down period in the future -/
theorem specStep_le (c : Cfg) (a : SS) (idx : Nat) (op : Op) (o : Obs) (h : a.lastEnd ≤ a.now) :
    (specStep c a idx op o).2.lastEnd ≤ (specStep c a idx op o).2.now := by
  have hs := SS.settle_le h
  fun_cases specStep c a idx op o
  -- the down period begins, or an attempt ends, now: `learn` in a turn and on a FailedFast answer; a pending connect fails; an
  -- attempt at a tick is refused
  case case12 | case20 | case9 | case30 => exact Nat.le_refl _
  -- a turn without news ends in `a.settle`
  case case13 => exact hs
  -- the other branches of a tick: `a.settle` with `d` added to `now`
  case case25 | case26 | case27 | case28 | case29 | case31 => exact Nat.le_add_right_of_le (SS.settle_now a ▸ hs)
  -- every other branch leaves `lastEnd` and `now` as they are
  all_goals exact h

def runOps (cfg : Cfg) (s : St) : List Op → St
  | [] => s
  | op :: ops => runOps cfg (stepSt cfg.par (clearEv s) op).1 ops

/-- After any admissible prefix `ops` of an operation list the model is coupled with a state `a'` of the automaton, and
    the automaton's verdict on the whole history is its verdict from `a'` on the history of the remainder. -/
theorem run_ok (cfg : Cfg) (hc : cfgWF cfg = true) (ops more : List Op) :
    ∀ (s : St) (a : SS) (o c : Bool) (idx : Nat), Cpl cfg.par s a o c → a.lastEnd ≤ a.now →
      wfGo cfg.par s o c (ops ++ more) = true →
      ∃ a' idx', specGo cfg a idx (comp.trace cfg s (ops ++ more)) =
          specGo cfg a' idx' (comp.trace cfg (runOps cfg s ops) more) ∧
        Cpl cfg.par (runOps cfg s ops) a' (o || ops.any isOpn) (c || ops.any isClose) ∧ a'.lastEnd ≤ a'.now := by
  induction ops with
  | nil =>
    intro s a o c idx h hle _
    exact ⟨a, idx, rfl, by rw [List.any_nil, List.any_nil, Bool.or_false, Bool.or_false]; exact h, hle⟩
  | cons op ops ih =>
    intro s a o c idx hC hle hwf
    simp only [List.cons_append, wfGo, Bool.and_eq_true] at hwf
    obtain ⟨a', hs, hC'⟩ := step_ok cfg hc s a o c idx op hC hwf.1
    have hle' := specStep_le cfg a idx op (obsOf (stepSt cfg.par (clearEv s) op).1 (stepSt cfg.par (clearEv s) op).2) hle
    rw [hs] at hle'
    obtain ⟨a'', idx', e, hC'', hle''⟩ := ih _ a' _ _ (idx + 1) hC' hle' hwf.2
    refine ⟨a'', idx', Eq.trans ?_ e,
      by rw [List.any_cons, List.any_cons, ← Bool.or_assoc, ← Bool.or_assoc]; exact hC'', hle''⟩
    rw [List.cons_append, TComp.trace_cons comp step]
    simp only [specGo, step, hs]

theorem wf_parts {cfg : Cfg} {ops : List Op} (h : comp.wf cfg ops = true) :
    cfgWF cfg = true ∧ wfGo cfg.par {} false false ops = true := by
  simpa [comp, Bool.and_eq_true] using h

theorem run_init {cfg : Cfg} (ops more : List Op) (h : comp.wf cfg (ops ++ more) = true) :
    ∃ a' idx', comp.spec cfg (comp.modelTrace cfg (ops ++ more)) =
        specGo cfg a' idx' (comp.trace cfg (runOps cfg {} ops) more) ∧
      Cpl cfg.par (runOps cfg {} ops) a' (ops.any isOpn) (ops.any isClose) ∧ a'.lastEnd ≤ a'.now :=
  run_ok cfg (wf_parts h).1 ops more {} {} false false 0 (cpl_init cfg.par) (Nat.le_refl _) (wf_parts h).2

theorem reach_cpl (cfg : Cfg) (ops : List Op) (h : comp.wf cfg ops = true) :
    ∃ a o c, Cpl cfg.par (runOps cfg {} ops) a o c ∧ a.lastEnd ≤ a.now :=
  have ⟨a, _, _, hC, hle⟩ := run_init ops [] (by rwa [List.append_nil])
  ⟨a, _, _, hC, hle⟩

theorem down_no_next (p : Par) (s : St) (a : SS) (o c : Bool) (hC : Cpl p s a o c) (hd : s.down = true) :
    s.next = none ∧ s.subs = [] ∧ c = false := by
  cases c with
  | true => cases (hC.hshut rfl).1.symm.trans hd
  | false =>
    cases (hC.hlive rfl).1 with
    | up _ _ _ hd' | resumed _ _ _ _ _ _ hd' => cases hd.symm.trans hd'
    | _ => exact ⟨‹DownCore s›.2.1, ‹DownCore s›.2.2, rfl⟩

theorem req_failfast (p : Par) (s : St) (h : s.next = none) :
    (doReq p (clearEv s)).2 = .ff ∧ ∀ e ∈ (doReq p (clearEv s)).1.ev, isFwd e = false := by
  rw [doReq_none p (s := clearEv s) h]
  exact ⟨rfl, fun e he => Bool.eq_false_iff.mpr fun hf =>
    Bool.eq_false_iff.mp (runTurn_ev p (s := clearEv s) rfl).2 (List.any_eq_true.mpr ⟨e, he, hf⟩)⟩

theorem sleep_bound (p : Par) (s : St) (a : SS) (o : Bool) (hC : Cpl p s a o false) (hle : a.lastEnd ≤ a.now)
    (wk w : Nat) (hr : s.res = .sleep wk w) :
    s.now < wk ∧ wk ≤ s.now + p.maxW := by
  obtain ⟨hl, hn, _⟩ := hC.hlive rfl
  -- the sleep began at `le`, not later than now
  have key : ∀ le ld, le ≤ s.now → Sleeping p s le ld → s.now < wk ∧ wk ≤ s.now + p.maxW := by
    rintro le ld hle (⟨hx, _⟩ | ⟨wk', w', e1, e2, e3, e4, e5, e6⟩)
    · cases hr.symm.trans hx
    · cases hr.symm.trans e1; exact ⟨e5, by omega⟩
  cases hl with
  | upDown h1 h2 h3 h4 hc' hz => exact key _ _ (Nat.le_refl _) hz
  | sleeping h1 h2 h3 h4 h5 hc' hz => exact key _ _ (hn ▸ hle) hz
  | up _ _ _ _ _ _ hr' | resumingR _ _ _ _ _ _ _ _ hr' | failing _ _ _ _ _ _ _ _ hr' | pending _ _ _ _ _ _ _ _ hr'
  | resuming _ _ _ _ _ _ _ _ hr' | resumed _ _ _ _ _ _ _ _ _ hr' => cases hr.symm.trans hr'

theorem specGo_closed (c : Cfg) (a : SS) (ha : a.closed = true) (h : List (Op × Obs)) (idx : Nat)
    (hok : specGo c a idx h = .ok) : ∀ x ∈ h, firstCreate x.2.ev = none := by
  induction h generalizing idx with
  | nil => intro x hx; cases hx
  | cons y rest ih =>
    obtain ⟨op, o⟩ := y
    cases hfc : firstCreate o.ev with
    | some k => simp [specGo, specStep, ha, hfc] at hok
    | none =>
      rw [specGo, specStep_closed c idx op ha hfc] at hok
      intro x hx
      rcases List.mem_cons.mp hx with rfl | hx
      · exact hfc
      · exact ih _ hok x hx

end Scales.Res
