import ScalesModel.Proofs.HeapOps
import Mathlib.Data.List.Sublists

/-! `__Get`: the down-list scan (it keeps `Core`, drops discarded and resurrected nodes, and leaves only
    non-Open heap nodes listed), one round of the mark-down loop and the dispatch (they keep `HInv`), and the
    loop over any state holding the heap and any hook (`loop_spec`): the fuel suffices, and the chosen node is
    the root of the heap after the last scan.  `Inv_get` adds `SrvOk` along the frame. -/
namespace Scales.Heap

/-- what `__Get` leaves alone: everything but the loads and positions of heap nodes, and the down list -/
structure GFrame (s s' : HS) : Prop where
  size : s'.size = s.size
  len : s'.nodes.length = s.nodes.length
  reqs : s'.reqs = s.reqs
  servers : s'.servers = s.servers
  fields : ∀ id, (s'.node id).ep = (s.node id).ep ∧ (s'.node id).chan = (s.node id).chan ∧
    (s'.node id).closed = (s.node id).closed
  inHeap : ∀ id, InHeap s' id ↔ InHeap s id
  offLoad : ∀ id, ¬ InHeap s id → (s'.node id).load = (s.node id).load

theorem GFrame.refl (s : HS) : GFrame s s :=
  ⟨rfl, rfl, rfl, rfl, fun _ => ⟨rfl, rfl, rfl⟩, fun _ => Iff.rfl, fun _ _ => rfl⟩

theorem GFrame.trans {a b c : HS} (h1 : GFrame a b) (h2 : GFrame b c) : GFrame a c := by
  refine ⟨h2.size.trans h1.size, h2.len.trans h1.len, h2.reqs.trans h1.reqs, h2.servers.trans h1.servers, ?_,
    fun id => (h2.inHeap id).trans (h1.inHeap id), ?_⟩
  · intro id
    obtain ⟨a1, a2, a3⟩ := h1.fields id
    obtain ⟨b1, b2, b3⟩ := h2.fields id
    exact ⟨b1.trans a1, b2.trans a2, b3.trans a3⟩
  · intro id hn
    rw [h2.offLoad id (fun h => hn ((h1.inHeap id).mp h)), h1.offLoad id hn]

theorem Frame.toG {s s' : HS} (f : Frame s s') : GFrame s s' :=
  ⟨f.size, f.len, f.reqs, f.servers, fun id => ⟨(f.fields id).2.1, (f.fields id).2.2.1, (f.fields id).2.2.2⟩,
    f.inHeap, fun id _ => (f.fields id).1⟩

theorem GFrame.ofSetLoad (s : HS) (id : Nat) (v : Int) (d : List Nat) (h : InHeap s id) :
    GFrame s { s.setLoad id v with down := d } := by
  refine ⟨rfl, setLoad_len s id v, rfl, rfl, fun id' => ?_, setLoad_inHeap s id v, fun id' hn => ?_⟩
  · obtain ⟨_, a, b, c, _⟩ := setLoad_node s id id' v
    exact ⟨a, b, c⟩
  · exact (setLoad_node s id id' v).1.trans (if_neg fun (e : id' = id ∧ id < s.nodes.length) => hn (e.1 ▸ h))

theorem GFrame.srv {s s' : HS} (g : GFrame s s') (h : SrvOk s) : SrvOk s' :=
  h.update g.inHeap (fun id => (g.fields id).1) g.servers

theorem GFrame.setLoad {s s' : HS} (hw : WF s) (nid : Nat) (hin : InHeap s nid) (v : Int) (d : List Nat)
    (f : Frame { s.setLoad nid v with down := d } s') :
    GFrame s s' ∧ s'.down = d ∧ ∀ id, (s'.node id).load = if id = nid then v else (s.node id).load :=
  ⟨(GFrame.ofSetLoad s nid v d hin).trans f.toG, f.down,
    fun id => (f.fields id).1.trans (setLoad_load s nid id v (inHeap_lt s hw nid hin))⟩

theorem shrink_spec {s : HS} (hw : WF s) (nid : Nat) (hin : InHeap s nid) (v : Int) :
    WF ((s.setLoad nid v).fixUp (pos s nid)) ∧ (GFrame s ((s.setLoad nid v).fixUp (pos s nid)) ∧
      ((s.setLoad nid v).fixUp (pos s nid)).down = s.down ∧
      ∀ id, (((s.setLoad nid v).fixUp (pos s nid)).node id).load = if id = nid then v else (s.node id).load) ∧
    (Ord (L s) s.size → v ≤ (s.node nid).load → Ord (L ((s.setLoad nid v).fixUp (pos s nid))) s.size) := by
  obtain ⟨_, p2, _⟩ := pos_spec s hw nid hin
  obtain ⟨w, f, _, o⟩ := fixUp_spec (s.setLoad nid v) (pos s nid) (setLoad_WF s hw nid v) p2
  refine ⟨w, GFrame.setLoad hw nid hin v s.down f, fun ho hv => ?_⟩
  have hu := upd_shrink (L s) s.size (pos s nid) v ho (by rw [L_pos s hw nid hin]; exact hv)
  rw [← setLoad_L s hw nid v hin] at hu
  exact o s.size (Nat.le_refl _) p2 hu.1 hu.2

theorem grow_spec {s : HS} (hw : WF s) (nid : Nat) (hin : InHeap s nid) (v : Int) (d : List Nat) :
    WF (({ s.setLoad nid v with down := d } : HS).fixDown (pos s nid) s.size) ∧
    (GFrame s (({ s.setLoad nid v with down := d } : HS).fixDown (pos s nid) s.size) ∧
      (({ s.setLoad nid v with down := d } : HS).fixDown (pos s nid) s.size).down = d ∧
      ∀ id, ((({ s.setLoad nid v with down := d } : HS).fixDown (pos s nid) s.size).node id).load =
        if id = nid then v else (s.node id).load) ∧
    (Ord (L s) s.size → (s.node nid).load ≤ v →
      Ord (L (({ s.setLoad nid v with down := d } : HS).fixDown (pos s nid) s.size)) s.size) := by
  obtain ⟨p1, _⟩ := pos_spec s hw nid hin
  obtain ⟨w, f, _, o⟩ := fixDown_spec ({ s.setLoad nid v with down := d } : HS) (pos s nid) s.size
    ((setLoad_WF s hw nid v).same rfl rfl fun _ => rfl) (Nat.le_refl _)
  refine ⟨w, GFrame.setLoad hw nid hin v d f, fun ho hv => ?_⟩
  have hu := upd_grow (L s) s.size (pos s nid) v ho (by rw [L_pos s hw nid hin]; exact hv)
  rw [← setLoad_L s hw nid v hin] at hu
  exact o p1 hu.1 hu.2

/-- heap node `nid` gets load `v` and the heap is put in order again (`s3`); `v` is accounted against the dispatch
    records `rs` that take the place of those of `s3` -/
theorem Core.setLoad {s s3 : HS} (c : Core s) (nid : Nat) (hin : InHeap s nid) (v : Int) (rs : List (Nat × Bool))
    (g : GFrame s s3) (hload : ∀ id, (s3.node id).load = if id = nid then v else (s.node id).load)
    (w : WF s3) (o : Ord (L s3) s.size)
    (hout : ∀ id, id ≠ nid → outL rs id = outOf s id)
    (hacct : v = (outL rs nid : Int) ∨ v = Idle + (outL rs nid : Int))
    (hb : rs.length < maxReqs) (hok : ∀ r ∈ rs, r.1 < s.nodes.length) : Core { s3 with reqs := rs } := by
  refine ⟨w.same rfl rfl fun _ => rfl, g.size ▸ o, c.book.update nid g.len g.inHeap (fun id => (g.fields id).1)
    (fun id hne => ⟨(hload id).trans (if_neg hne), (g.fields id).2.2, hout id hne⟩) ?_ hb hok
    (fun _ => (g.fields nid).2.2.trans (c.book.closedIn nid hin)) (fun hn => absurd hin hn)⟩
  show (s3.node nid).load = _ ∨ (s3.node nid).load = _
  rw [hload, if_pos rfl]
  exact hacct

/-- taking the penalty off a count from 0 gives the count from `Idle` -/
theorem sub_Penalty (x : Int) : x - Penalty = Idle + x := by unfold Idle Penalty; omega

theorem resurrect_spec (s : HS) (c : Core s) (nid : Nat) (hin : InHeap s nid) (hpen : (s.node nid).load ≥ 0) :
    Core ((s.setLoad nid ((s.node nid).load - Penalty)).fixUp (pos s nid)) ∧
    GFrame s ((s.setLoad nid ((s.node nid).load - Penalty)).fixUp (pos s nid)) ∧
    (∀ id, (((s.setLoad nid ((s.node nid).load - Penalty)).fixUp (pos s nid)).node id).load =
      if id = nid then (s.node nid).load - Penalty else (s.node id).load) ∧
    (s.node nid).load - Penalty < 0 := by
  obtain ⟨a1, _, _, a4⟩ := c.book.pen_iff nid (inHeap_lt s c.wf nid hin)
  obtain ⟨w, ⟨g, _, hload⟩, o⟩ := shrink_spec c.wf nid hin ((s.node nid).load - Penalty)
  replace o := o c.ord (Int.sub_le_self _ (by decide))
  have hacct : (s.node nid).load - Penalty = Idle + (outOf s nid : Int) := by rw [sub_Penalty, a1.mp hpen]
  have c' := c.setLoad nid hin _ s.reqs g hload w o (fun _ _ => rfl) (Or.inr hacct) c.book.bound c.book.reqsOk
  rw [← g.reqs] at c'
  exact ⟨c', g, hload, Int.sub_neg_of_lt a4⟩

theorem scan_cons (s : HS) (nid : Nat) (rest : List Nat) : s.scan (nid :: rest) =
    if (s.node nid).index < 0 then s.scan rest
    else if (s.node nid).chan = chOpen then
      ((s.setLoad nid ((s.node nid).load - Penalty)).fixUp (pos s nid)).scan rest
    else ((s.scan rest).1, nid :: (s.scan rest).2) := by
  rw [HS.scan]
  split
  · rfl
  · split
    · rw [← setLoad_pos s nid nid ((s.node nid).load - Penalty)]; rfl
    · rfl

theorem scan_spec (d : List Nat) : ∀ (s : HS), Core s → (∀ id ∈ d, (s.node id).load ≥ 0) → d.Nodup →
    Core (s.scan d).1 ∧ GFrame s (s.scan d).1 ∧ (s.scan d).2.Sublist d ∧
    (∀ id ∈ (s.scan d).2, ((s.scan d).1.node id).load ≥ 0 ∧ (s.node id).chan ≠ chOpen) ∧
    (∀ id, InHeap s id → ((s.scan d).1.node id).load ≥ 0 → id ∈ (s.scan d).2 ∨ id ∉ d ∧ (s.node id).load ≥ 0) ∧
    (∀ id, ((s.scan d).1.node id).load < 0 → (s.node id).load < 0 ∨ (s.node id).chan = chOpen) := by
  induction d with
  | nil =>
    intro s c _ _
    exact ⟨c, GFrame.refl s, List.Sublist.refl _, fun id h => absurd h List.not_mem_nil,
      fun id _ h => Or.inr ⟨List.not_mem_nil, h⟩, fun id h => Or.inl h⟩
  | cons nid rest ih =>
    intro s c hp hnd
    obtain ⟨hnotin, hnd'⟩ := List.nodup_cons.mp hnd
    have hpen := hp nid List.mem_cons_self
    have hp' : ∀ id ∈ rest, (s.node id).load ≥ 0 := fun id h => hp id (List.mem_cons_of_mem _ h)
    rw [scan_cons]
    by_cases h1 : (s.node nid).index < 0
    · -- discarded
      rw [if_pos h1]
      obtain ⟨r1, r2, r3, r4, r5, r6⟩ := ih s c hp' hnd'
      refine ⟨r1, r2, r3.cons _, r4, fun id hin hge => (r5 id hin hge).imp_right fun x => ⟨?_, x.2⟩, r6⟩
      exact List.not_mem_cons_of_ne_of_not_mem
        (fun e => absurd h1 (Int.not_lt.2 (Int.le_trans (by decide) (e ▸ index_of_inHeap s c.wf id hin)))) x.1
    · rw [if_neg h1]
      have hin : InHeap s nid := inHeap_of_nonneg c.wf (Int.not_lt.1 h1)
      by_cases h2 : (s.node nid).chan = chOpen
      · -- resurrected
        rw [if_pos h2]
        obtain ⟨c2, g2, l2, hneg⟩ := resurrect_spec s c nid hin hpen
        generalize (s.setLoad nid ((s.node nid).load - Penalty)).fixUp (pos s nid) = s2 at *
        have hp2 : ∀ id ∈ rest, (s2.node id).load ≥ 0 := by
          intro id h
          rw [l2, if_neg fun (e : id = nid) => hnotin (e ▸ h)]
          exact hp' id h
        obtain ⟨r1, r2, r3, r4, r5, r6⟩ := ih s2 c2 hp2 hnd'
        refine ⟨r1, g2.trans r2, r3.cons _, fun id h => ⟨(r4 id h).1, (g2.fields id).2.1 ▸ (r4 id h).2⟩,
          fun id hi hge => (r5 id ((g2.inHeap id).mpr hi) hge).imp_right fun x => ?_, fun id hlt => ?_⟩
        · -- marked down in `s2`, so not the resurrected node
          have e : id ≠ nid := fun e => absurd x.2 (Int.not_le.2 (by rw [e, l2, if_pos rfl]; exact hneg))
          exact ⟨List.not_mem_cons_of_ne_of_not_mem e x.1, by have := x.2; rwa [l2, if_neg e] at this⟩
        · by_cases e : id = nid
          · rw [e]; exact Or.inr h2
          · have := r6 id hlt
            rwa [l2, if_neg e, (g2.fields id).2.1] at this
      · -- still down: stays listed
        rw [if_neg h2]
        obtain ⟨r1, r2, r3, r4, r5, r6⟩ := ih s c hp' hnd'
        refine ⟨r1, r2, r3.cons_cons _, fun id h => ?_, fun id hi hge => ?_, r6⟩
        · rcases List.mem_cons.mp h with e | e
          · rw [e]; exact ⟨Int.not_lt.1 fun hlt => (r6 nid hlt).elim (Int.not_lt.2 hpen) h2, h2⟩
          · exact r4 id e
        · by_cases e : id = nid
          · rw [e]; exact Or.inl List.mem_cons_self
          · exact (r5 id hi hge).imp (List.mem_cons_of_mem _) fun x => ⟨List.not_mem_cons_of_ne_of_not_mem e x.1, x.2⟩

/-- the candidates for further mark-downs are among `l` -/
def Cand (l : List Nat) (s : HS) : Prop :=
  ∀ id, InHeap s id → ((s.node id).load < 0 ∨ (s.node id).chan = chOpen) → id ∈ l

/-- one pass of `__Get` over the down list -/
def HS.scanned (s : HS) : HS := { (s.scan s.down).1 with down := (s.scan s.down).2 }

/-- `__Get` marks the root down: the penalty goes on, the node is listed and sifted down -/
def HS.markRoot (s : HS) : HS :=
  ({ s.setLoad (s.idAt 1) ((s.node (s.idAt 1)).load + Penalty) with down := s.idAt 1 :: s.down } : HS).fixDown 1 s.size

/-- `_AsyncProcessRequestImpl` books the request on the chosen node -/
def HS.dispatch (s : HS) (nid : Nat) : HS :=
  { (s.setLoad nid ((s.node nid).load + 1)).fixDown (pos (s.setLoad nid ((s.node nid).load + 1)) nid) s.size with
    reqs := ((s.setLoad nid ((s.node nid).load + 1)).fixDown (pos (s.setLoad nid ((s.node nid).load + 1)) nid)
      s.size).reqs ++ [(nid, false)] }

theorem scan_round (s : HS) (h : HInv s) (l : List Nat) (hc : Cand l s) :
    HInv s.scanned ∧ GFrame s s.scanned ∧ (∀ id ∈ s.scanned.down, (s.scanned.node id).chan ≠ chOpen) ∧
    Cand l s.scanned := by
  unfold HS.scanned
  obtain ⟨r1, r2, r3, r4, r5, r6⟩ := scan_spec s.down s h.core (fun id hd => (h.down.pen id hd).2) h.down.nodup
  have c1 := r1.lists (s.scan s.down).2 (s.scan s.down).1.servers
  have g1 : GFrame s ({ (s.scan s.down).1 with down := (s.scan s.down).2 } : HS) :=
    ⟨r2.size, r2.len, r2.reqs, r2.servers, r2.fields, r2.inHeap, r2.offLoad⟩
  refine ⟨⟨c1.wf, c1.ord, c1.book, fun id hk => ⟨g1.len ▸ (h.down.pen id (r3.subset hk)).1, (r4 id hk).1⟩,
      fun id hin hge => ?_, r3.nodup h.down.nodup⟩, g1, fun id hk => (g1.fields id).2.1 ▸ (r4 id hk).2,
    fun id hin hor => ?_⟩
  · have hin' : InHeap s id := (g1.inHeap id).mp hin
    exact (r5 id hin' hge).elim (fun x => x) fun x => absurd (h.down.all id hin' x.2) x.1
  · exact hc id ((g1.inHeap id).mp hin) (hor.elim (r6 id) fun hop => Or.inr ((r2.fields id).2.1.symm.trans hop))

/-- the test `__Get` makes on the root after a pass over the down list -/
abbrev HS.rootOk (s : HS) : Prop := (s.node (s.idAt 1)).chan = chOpen ∨ (s.node (s.idAt 1)).load ≥ 0

theorem getLoop_succ (onDown : DownHook) (s : HS) (fuel : Nat) : s.getLoop onDown (fuel + 1) =
    if s.scanned.rootOk then (s.scanned, s.scanned.idAt 1)
    else (onDown s.scanned.markRoot (s.scanned.idAt 1)).getLoop onDown fuel := rfl

theorem markDown_spec (s : HS) (h : HInv s) (hsz : 1 ≤ s.size)
    (hno : ¬ s.rootOk) (l : List Nat) (hc : Cand l s) :
    HInv s.markRoot ∧ GFrame s s.markRoot ∧ Cand (l.erase (s.idAt 1)) s.markRoot ∧ s.idAt 1 ∈ l := by
  unfold HS.markRoot
  have hin : InHeap s (s.idAt 1) := ⟨1, Nat.le_refl _, hsz, rfl⟩
  have hl := inHeap_lt s h.wf _ hin
  obtain ⟨p1, p2, p3, _, _⟩ := pos_spec s h.wf _ hin
  have hpos : pos s (s.idAt 1) = 1 := h.wf.inj _ _ p1 p2 (Nat.le_refl _) hsz p3
  obtain ⟨hnop, hneg⟩ := not_or.mp hno
  obtain ⟨_, a2, a3, _⟩ := h.book.pen_iff _ hl
  have hlt := h.book.out_lt (s.idAt 1)
  -- the penalty takes a healthy load to its count from 0
  obtain ⟨hpos0, hgrow, hacct⟩ : (s.node (s.idAt 1)).load + Penalty ≥ 0 ∧
      (s.node (s.idAt 1)).load ≤ (s.node (s.idAt 1)).load + Penalty ∧
      (s.node (s.idAt 1)).load + Penalty = (outOf s (s.idAt 1) : Int) := by
    have := a2.mp (Int.not_le.1 hneg)
    unfold Idle Penalty at *
    omega
  generalize s.idAt 1 = nid at *
  generalize (s.node nid).load + Penalty = v at *
  -- the key grows: sift down from the root
  obtain ⟨w, ⟨g, hdown, hload⟩, o⟩ := grow_spec h.wf nid hin v (nid :: s.down)
  rw [hpos] at w g hdown hload o
  generalize ({ s.setLoad nid v with down := nid :: s.down } : HS).fixDown 1 s.size = s' at *
  have c' := h.core.setLoad nid hin v s.reqs g hload w (o h.ord hgrow) (fun _ _ => rfl) (Or.inl hacct) h.book.bound
    h.book.reqsOk
  rw [← g.reqs] at c'
  refine ⟨⟨c'.wf, c'.ord, c'.book, ?_⟩, g, ?_, hc _ hin (Or.inl (Int.not_le.1 hneg))⟩
  · rw [hdown]
    constructor
    · intro id hd
      rw [hload, g.len]
      by_cases e' : id = nid
      · rw [if_pos e', e']; exact ⟨hl, hpos0⟩
      · rw [if_neg e']; exact h.down.pen id ((List.mem_cons.mp hd).resolve_left e')
    · intro id hi hge
      rw [hload] at hge
      by_cases e' : id = nid
      · rw [e']; exact List.mem_cons_self
      · rw [if_neg e'] at hge
        exact List.mem_cons_of_mem _ (h.down.all id ((g.inHeap id).mp hi) hge)
    · exact List.nodup_cons.mpr ⟨fun hd => hneg (h.down.pen _ hd).2, h.down.nodup⟩
  · intro id hi hor
    rw [hload, (g.fields id).2.1] at hor
    by_cases e' : id = nid
    · rw [if_pos e', e'] at hor
      exact absurd hor (not_or.mpr ⟨Int.not_lt.2 hpos0, hnop⟩)
    · rw [if_neg e'] at hor
      exact (List.mem_erase_of_ne e').mpr (hc id ((g.inHeap id).mp hi) hor)

/-- `__Get`'s loop took a heap `s` to `s'` and left through its regular exit with the root `nid`; `R` is what the
    mark-down hook lets one say of `s` and `s'` -/
structure LoopOk (R : HS → HS → Prop) (s s' : HS) (nid : Nat) : Prop where
  hinv : HInv s'
  frame : R s s'
  top : nid = s'.idAt 1
  ok : (s'.node nid).chan = chOpen ∨ (s'.node nid).load ≥ 0
  scanned : ∀ id ∈ s'.down, (s'.node id).chan ≠ chOpen

/-- `__Get`'s loop over any state `σ` that holds the heap (`hs`), for any mark-down hook (`next a`: the state after
    the root was marked down and the hook has run; `exit a`: the state the loop returns).  The hook runs on an
    ordered heap (`FixDown` has run), may keep an invariant `J` of its own, must keep `HInv`, and may create
    candidates for further mark-downs only against a budget `μ`: then fuel above candidates + budget suffices. -/
theorem loop_spec {σ : Type} (hs : σ → HS) (exit next : σ → σ) (loop : σ → Nat → σ × Nat)
    (hloop : ∀ a fuel, loop a (fuel + 1) =
      if (hs a).scanned.rootOk then (exit a, (hs a).scanned.idAt 1) else loop (next a) fuel)
    (R : HS → HS → Prop) (Rg : ∀ {s t}, GFrame s t → R s t) (Rt : ∀ {s t u}, R s t → R t u → R s u)
    (Rsz : ∀ {s t}, R s t → s.size ≤ t.size) (J : σ → Prop) (μ : σ → Nat)
    (hexit : ∀ a, hs (exit a) = (hs a).scanned)
    (hnext : ∀ a l, J a → HInv (hs a).scanned.markRoot → Cand l (hs a).scanned.markRoot →
      J (next a) ∧ HInv (hs (next a)) ∧ R (hs a).scanned.markRoot (hs (next a)) ∧
      ∃ l', Cand l' (hs (next a)) ∧ l'.length + μ (next a) ≤ l.length + μ a)
    (fuel : Nat) : ∀ (a : σ) (l : List Nat), J a → HInv (hs a) → 1 ≤ (hs a).size → Cand l (hs a) →
      l.length + μ a < fuel → LoopOk R (hs a) (hs (loop a fuel).1) (loop a fuel).2 := by
  induction fuel with
  | zero => intro a l _ _ _ _ h; exact absurd h (Nat.not_lt_zero _)
  | succ fuel ih =>
    intro a l j h hsz hc hlen
    obtain ⟨i1, g1, sc1, c1⟩ := scan_round (hs a) h l hc
    have hsz1 : 1 ≤ (hs a).scanned.size := by rw [g1.size]; exact hsz
    rw [hloop]
    by_cases hcond : (hs a).scanned.rootOk
    · rw [if_pos hcond]
      show LoopOk R (hs a) (hs (exit a)) _
      rw [hexit a]
      exact ⟨i1, Rg g1, rfl, hcond, sc1⟩
    · rw [if_neg hcond]
      obtain ⟨i4, g4, c4, hmem⟩ := markDown_spec (hs a).scanned i1 hsz1 hcond l c1
      obtain ⟨j5, i5, r5, l', c5, hl'⟩ := hnext a _ j i4 c4
      have hle : (l.erase ((hs a).scanned.idAt 1)).length + 1 = l.length := by
        rw [List.length_erase_of_mem hmem]
        exact Nat.sub_add_cancel (List.length_pos_of_mem hmem)
      have r := ih (next a) l' j5 i5 (Nat.le_trans (by rw [g4.size]; exact hsz1) (Rsz r5)) c5 (by omega)
      exact ⟨r.hinv, Rt (Rt (Rg (g1.trans g4)) r5) r.frame, r.top, r.ok, r.scanned⟩

abbrev GetOk := LoopOk GFrame

theorem getLoop_spec (fuel : Nat) (s : HS) (l : List Nat) (h : HInv s) (hsz : 1 ≤ s.size) (hc : Cand l s)
    (hlen : l.length < fuel) : GetOk s (s.getLoop noHook fuel).1 (s.getLoop noHook fuel).2 :=
  loop_spec id HS.scanned (fun s => s.scanned.markRoot) (HS.getLoop noHook) (getLoop_succ noHook) GFrame id GFrame.trans
    (fun g => Nat.le_of_eq g.size.symm) (fun _ => True) (fun _ => 0) (fun _ => rfl)
    (fun _ l _ i c => ⟨trivial, i, GFrame.refl _, l, c, Nat.le_refl _⟩) fuel s l trivial h hsz hc hlen

theorem getLoop_ok (s : HS) (h : HInv s) (hsz : 1 ≤ s.size) :
    GetOk s (s.getLoop noHook (s.nodes.length + 1)).1 (s.getLoop noHook (s.nodes.length + 1)).2 :=
  getLoop_spec (s.nodes.length + 1) s (List.range s.nodes.length) h hsz
    (fun id hin _ => List.mem_range.mpr (inHeap_lt s h.wf id hin)) (by rw [List.length_range]; exact Nat.lt_succ_self _)

theorem GetOk.inHeap {s s' : HS} {nid : Nat} (gk : GetOk s s' nid) (hsz : 1 ≤ s.size) : InHeap s' nid :=
  ⟨1, Nat.le_refl _, by rw [gk.frame.size]; exact hsz, gk.top.symm⟩

theorem get_empty (s : HS) (hsz : s.size = 0) : s.get noHook = (s, .noMembers) := by
  unfold HS.get; rw [if_pos hsz]

theorem get_nonempty (s : HS) (hsz : ¬ s.size = 0) (s1 : HS) (nid : Nat)
    (hg : s.getLoop noHook (s.nodes.length + 1) = (s1, nid)) :
    s.get noHook = (s1.dispatch nid, .node nid (s1.node nid).ep s1.reqs.length) := by
  unfold HS.get
  rw [if_neg hsz, hg]
  exact Prod.ext rfl (congrArg (GetRes.node nid _) (congrArg List.length (fixDown_reqs _ _ _)))

theorem dispatch_frame (s : HS) (hw : WF s) (nid : Nat) (hin : InHeap s nid) :
    ∃ s3, GFrame s s3 ∧ s3.down = s.down ∧
      (∀ id, (s3.node id).load = if id = nid then (s.node nid).load + 1 else (s.node id).load) ∧
      WF s3 ∧ (Ord (L s) s.size → Ord (L s3) s3.size) ∧
      s.dispatch nid = { s3 with reqs := s.reqs ++ [(nid, false)] } := by
  obtain ⟨w, ⟨g, hd, hload⟩, o⟩ := grow_spec hw nid hin ((s.node nid).load + 1) s.down
  refine ⟨_, g, hd, hload, w, fun ho => by rw [g.size]; exact o ho (Int.le_add_of_nonneg_right (by decide)), ?_⟩
  unfold HS.dispatch
  rw [setLoad_pos, fixDown_reqs]
  rfl

theorem dispatch_spec (s : HS) (h : HInv s) (nid : Nat) (hin : InHeap s nid) (hb : s.reqs.length + 1 < maxReqs) :
    HInv (s.dispatch nid) ∧ (SrvOk s → SrvOk (s.dispatch nid)) := by
  have hl := inHeap_lt s h.wf nid hin
  -- one more dispatch: the count goes up with the load, and a healthy load stays below 0
  have harith : ((s.node nid).load + 1 = ((outOf s nid + 1 : Nat) : Int) ∨
      (s.node nid).load + 1 = Idle + ((outOf s nid + 1 : Nat) : Int)) ∧
      ((s.node nid).load + 1 ≥ 0 ↔ (s.node nid).load ≥ 0) := by
    have := h.book.acct nid hl
    have := outL_le s.reqs nid
    unfold maxReqs at hb
    unfold outOf Idle at *
    omega
  obtain ⟨s3, g, hdown, hload, w, o, e3⟩ := dispatch_frame s h.wf nid hin
  replace o := o h.ord
  rw [e3]
  have c' := h.core.setLoad nid hin _ (s.reqs ++ [(nid, false)]) g hload w (g.size ▸ o)
    (fun id hne => by rw [outL_append, if_neg fun x => hne x.symm]; rfl)
    (by rw [outL_append, if_pos rfl]; exact harith.1) (by rw [List.length_append]; exact hb)
    (fun r hr => (List.mem_append.mp hr).elim (h.book.reqsOk r) fun x => by rw [List.mem_singleton.mp x]; exact hl)
  refine ⟨⟨c'.wf, c'.ord, c'.book, ?_⟩, g.srv⟩
  have hd : DownOk s s3.down := hdown ▸ h.down
  refine hd.update g.len g.inHeap fun id => ?_
  show (s3.node id).load ≥ 0 ↔ _
  rw [hload]
  by_cases e' : id = nid
  · rw [if_pos e', e']
    exact harith.2
  · rw [if_neg e']

theorem get_spec (s : HS) (h : HInv s) (hsz : ¬ s.size = 0) :
    ∃ s1 nid, GetOk s s1 nid ∧ InHeap s1 nid ∧
      s.get noHook = (s1.dispatch nid, .node nid (s1.node nid).ep s1.reqs.length) := by
  have gk := getLoop_ok s h (Nat.pos_of_ne_zero hsz)
  generalize hg : s.getLoop noHook (s.nodes.length + 1) = p at gk
  obtain ⟨s1, nid⟩ := p
  exact ⟨s1, nid, gk, gk.inHeap (Nat.pos_of_ne_zero hsz), get_nonempty s hsz s1 nid hg⟩

theorem Inv_get (s : HS) (h : Inv s) (hb : s.reqs.length + 1 < maxReqs) : Inv (s.get noHook).1 := by
  by_cases hsz : s.size = 0
  · rw [get_empty s hsz]; exact h
  · obtain ⟨s1, nid, gk, hin1, heq⟩ := get_spec s (.of_inv h) hsz
    rw [heq]
    have k := dispatch_spec s1 gk.hinv nid hin1 (by rw [gk.frame.reqs]; exact hb)
    exact k.1.inv (k.2 (gk.frame.srv h.srv))

end Scales.Heap
