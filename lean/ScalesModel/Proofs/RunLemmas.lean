/-
  Proofs/RunLemmas.lean — how the history of a component (`TComp.trace`, Core/Run.lean) unfolds.
-/
import ScalesModel.Core.Run
namespace Scales.TComp
variable {Cfg σ Op Obs : Type}

/-- stated for the step function `f` the component was built from, so that the proofs go on in terms of `f` -/
theorem trace_cons (c : TComp Cfg σ Op Obs) (f : Cfg → σ → Op → σ × Obs) (hc : c.step = f := by rfl) (cfg : Cfg)
    (s : σ) (op : Op) (ops : List Op) :
    c.trace cfg s (op :: ops) = (op, (f cfg s op).2) :: c.trace cfg (f cfg s op).1 ops := by
  rw [TComp.trace, hc]

end Scales.TComp
