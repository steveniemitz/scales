import ScalesModel.Proofs.HeapGet

/-! `HInv` is kept by `put` (`PutWrapper` / `__Put`), for every legal draw `j`: the rearrangement on the heap alone,
    from `WF` (`putRest_spec`); the bookkeeping along `PutAll` (`putNode_spec`).  At the end: the manipulations other
    than `put` leave the dispatch records alone, but for `dispatch`, which appends one (`*_reqs`). -/
namespace Scales.Heap

/-- `__Put` once the load has been decremented -/
def HS.putRest (s : HS) (nid j : Nat) : HS :=
  if (s.node nid).index < 0 ∧ (s.node nid).load > Idle then s
  else if (s.node nid).index < 0 ∧ (s.node nid).load = Idle then
    s.setNode nid { s.node nid with closed := (s.node nid).closed + 1 }
  else if (s.node nid).load = Idle ∧ s.size > 1 then
    (((s.delAt (pos s nid)).swap j (s.delAt (pos s nid)).size).fixUp j).fixUp
      (((s.delAt (pos s nid)).swap j (s.delAt (pos s nid)).size).fixUp j).size
  else s.fixUp (pos s nid)

theorem putNode_rest (s : HS) (nid j : Nat) : s.putNode nid j =
    (s.setLoad nid (if (s.node nid).load - 1 < Idle then Idle else (s.node nid).load - 1)).putRest nid j := rfl

theorem putRest_reqs (s : HS) (nid j : Nat) : (s.putRest nid j).reqs = s.reqs := by
  unfold HS.putRest
  split
  · rfl
  · split
    · rfl
    · split
      · rw [fixUp_reqs, fixUp_reqs, swap_reqs, delAt_reqs]
      · rw [fixUp_reqs]

theorem OrdExUp.zero {f : Nat → Int} {n : Nat} (h : OrdExUp f n 0) : Ord f n :=
  fun k hk2 hkn => h k hk2 hkn (Nat.ne_of_gt (Nat.lt_of_lt_of_le (by decide) hk2))

/-- `__Put` after the decrement, on the heap alone: the frame is taken from `s` with the close count of `nid` raised if the
    completion closes its channel; the order comes back if only `nid`'s slot was out of it (upwards) and no load is below `Idle` -/
theorem putRest_spec (s : HS) (hw : WF s) (nid j : Nat)
    (hj : 0 ≤ (s.node nid).index → (s.node nid).load = Idle → s.size > 1 → 1 ≤ j ∧ j ≤ s.size) :
    WF (s.putRest nid j) ∧
    Frame (s.setNode nid { s.node nid with closed := (s.node nid).closed +
      if (s.node nid).index < 0 ∧ (s.node nid).load = Idle then 1 else 0 }) (s.putRest nid j) ∧
    (OrdExUp (L s) s.size (pos s nid) → GP (L s) s.size (pos s nid) →
      (∀ p, 1 ≤ p → p ≤ s.size → Idle ≤ L s p) → Ord (L (s.putRest nid j)) s.size) := by
  have hoff : (s.node nid).index < 0 → pos s nid = 0 := fun h => Int.toNat_of_nonpos (Int.le_of_lt h)
  have hsame : ¬ ((s.node nid).index < 0 ∧ (s.node nid).load = Idle) → s.setNode nid { s.node nid with closed :=
      (s.node nid).closed + if (s.node nid).index < 0 ∧ (s.node nid).load = Idle then 1 else 0 } = s :=
    fun hc => by rw [if_neg hc]; exact setNode_node s nid
  unfold HS.putRest
  by_cases h1 : (s.node nid).index < 0 ∧ (s.node nid).load > Idle
  · rw [hsame fun x => Int.ne_of_gt h1.2 x.2, if_pos h1]
    exact ⟨hw, Frame.refl s, fun hO _ _ => (hoff h1.1 ▸ hO).zero⟩
  rw [if_neg h1]
  by_cases h2 : (s.node nid).index < 0 ∧ (s.node nid).load = Idle
  · rw [if_pos h2, if_pos h2]
    refine ⟨setNode_WF s hw nid _ rfl, Frame.refl _, fun hO _ _ => ?_⟩
    rw [setNode_L s nid { s.node nid with closed := (s.node nid).closed + 1 } rfl]
    exact (hoff h2.1 ▸ hO).zero
  rw [hsame h2, if_neg h2]
  by_cases h3 : (s.node nid).load = Idle ∧ s.size > 1
  · -- idle and in the heap: delete, re-insert at the drawn slot
    rw [if_pos h3]
    have hnn : 0 ≤ (s.node nid).index := Int.not_lt.1 fun hc => h2 ⟨hc, h3.1⟩
    have hin : InHeap s nid := inHeap_of_nonneg hw hnn
    obtain ⟨p1, p2, p3, _, _⟩ := pos_spec s hw nid hin
    obtain ⟨hj1, hj2⟩ := hj hnn h3.1 h3.2
    obtain ⟨wu, fu, hidu, ou⟩ := delAt_spec s hw (pos s nid) p1 p2
    generalize s.delAt (pos s nid) = u at *
    have hszu : u.size = s.size := fu.size
    obtain ⟨w6, f6, o6⟩ := reinsert_spec u wu j hj1 (hszu ▸ hj2)
    refine ⟨w6, fu.trans f6, fun hO hG hmin => ?_⟩
    rw [← hszu]
    refine o6 (hszu ▸ ou (OrdExUp_hole _ _ _ _ hO (Nat.sub_le _ _)) (GP_mono _ _ _ _ hG (Nat.sub_le _ _))) ?_
    -- the last slot now holds the idle node, a minimum
    intro p q1 q2
    have hlast : L u u.size = Idle := by
      unfold L HS.at; rw [hszu, hidu, p3, (fu.fields nid).1]; exact h3.1
    rw [hlast]
    obtain ⟨q, r1, r2, r3⟩ := (fu.inHeap (u.idAt p)).mp ⟨p, q1, q2, rfl⟩
    have := hmin q r1 r2
    unfold L HS.at at this ⊢
    rw [(fu.fields _).1, ← r3]; exact this
  · rw [if_neg h3]
    obtain ⟨w, f, _, o⟩ := fixUp_spec s (pos s nid) hw (pos_le s hw nid)
    exact ⟨w, f, fun hO hG _ => o s.size (Nat.le_refl _) (pos_le s hw nid) hO hG⟩

theorem putNode_reqs (s : HS) (nid j : Nat) : (s.putNode nid j).reqs = s.reqs := by
  rw [putNode_rest, putRest_reqs]
  rfl

theorem put_idem (s : HS) (r j j' : Nat) : (s.put r j).put r j' = s.put r j := by
  unfold HS.put
  cases hreq : s.reqs[r]? with
  | none => simp only [hreq]
  | some x =>
    obtain ⟨nid, b⟩ := x
    cases b with
    | true => simp only [hreq]
    | false =>
      dsimp only
      have hr : r < s.reqs.length := (List.getElem?_eq_some_iff.mp hreq).1
      have : (({ s with reqs := s.reqs.set r (nid, true) } : HS).putNode nid j).reqs[r]? = some (nid, true) := by
        rw [putNode_reqs]
        exact List.getElem?_set_self hr
      rw [this]

structure PutEff (s s' : HS) (r nid : Nat) : Prop where
  len : s'.nodes.length = s.nodes.length
  reqs : s'.reqs = s.reqs.set r (nid, true)
  inHeap : ∀ id, InHeap s' id ↔ InHeap s id
  fields : ∀ id, (s'.node id).ep = (s.node id).ep ∧ (s'.node id).chan = (s.node id).chan
  closed : ∀ id, (s'.node id).closed = (s.node id).closed +
    (if id = nid ∧ (s.node nid).index < 0 ∧ (s.node nid).load - 1 = Idle then 1 else 0)

theorem PutEff.outOf {s s' : HS} {r nid : Nat} (p : PutEff s s' r nid) (hreq : s.reqs[r]? = some (nid, false))
    (id : Nat) : outOf s' id + (if nid = id then 1 else 0) = outOf s id := by
  unfold Scales.Heap.outOf; rw [p.reqs]; exact outL_set s.reqs r nid id hreq

/-- `PutEff` together with what it is silent about: the loads and the lists outside the store -/
structure PutAll (s s' : HS) (r nid : Nat) : Prop extends PutEff s s' r nid where
  load : ∀ id, (s'.node id).load = if id = nid then (s.node nid).load - 1 else (s.node id).load
  down : s'.down = s.down
  servers : s'.servers = s.servers

theorem PutAll.frame {s s1 s' : HS} {r nid : Nat} (p : PutAll s s1 r nid) (f : Frame s1 s') : PutAll s s' r nid :=
  ⟨⟨f.len.trans p.len, f.reqs.trans p.reqs, fun id => (f.inHeap id).trans (p.inHeap id),
      fun id => ⟨(f.fields id).2.1.trans (p.fields id).1, (f.fields id).2.2.1.trans (p.fields id).2⟩,
      fun id => (f.fields id).2.2.2.trans (p.closed id)⟩,
    fun id => (f.fields id).1.trans (p.load id), f.down.trans p.down, f.servers.trans p.servers⟩

/-- the close count of a removed node after one more completion: closed before iff drained or
    marked down; closed now iff this completion empties it; afterwards again closed iff drained or
    marked down -/
theorem close_arith (o o' : Nat) (l : Int) (ho : o' + 1 = o) (hlt : (o : Int) < Penalty)
    (hacc : l = (o : Int) ∨ l = Idle + (o : Int)) :
    (if o = 0 ∨ l ≥ 0 then 1 else 0) + (if l - 1 = Idle then 1 else 0) = if o' = 0 ∨ l - 1 ≥ 0 then 1 else 0 := by
  unfold Idle Penalty at *
  rcases hacc with q | q
  · -- marked down: closed before, and stays so
    have : l ≥ 0 ∧ ¬ l - 1 = -2147483647 ∧ l - 1 ≥ 0 := by omega
    rw [if_pos (Or.inr this.1), if_neg this.2.1, if_pos (Or.inr this.2.2)]
  · -- healthy: open before; closed now iff this was the last dispatch
    have : ¬ (o = 0 ∨ l ≥ 0) ∧ (l - 1 = -2147483647 ↔ (o' = 0 ∨ l - 1 ≥ 0)) := by omega
    rw [if_neg this.1, Nat.zero_add]
    exact if_congr this.2 rfl rfl

theorem PutAll.srv {s s' : HS} {r nid : Nat} (p : PutAll s s' r nid) (h : SrvOk s) : SrvOk s' :=
  h.update p.inHeap (fun id => (p.fields id).1) p.servers

theorem PutAll.inv {s s' : HS} {r nid : Nat} (p : PutAll s s' r nid) (h : HInv s)
    (hreq : s.reqs[r]? = some (nid, false)) (hw : WF s') (ho : Ord (L s') s'.size) : HInv s' := by
  have hl : nid < s.nodes.length := h.book.reqsOk _ (List.mem_of_getElem? hreq)
  have hout := p.toPutEff.outOf hreq
  have hout1 : outOf s' nid + 1 = outOf s nid := by have := hout nid; rwa [if_pos rfl] at this
  have hacc := h.book.acct nid hl
  have hlt := h.book.out_lt nid
  have hep : ∀ id, (s'.node id).ep = (s.node id).ep := fun id => (p.fields id).1
  have hcl : ∀ id, ¬ (id = nid ∧ (s.node nid).index < 0 ∧ (s.node nid).load - 1 = Idle) →
      (s'.node id).closed = (s.node id).closed := fun id hc => by rw [p.closed id, if_neg hc]; rfl
  refine ⟨hw, ho, ?_, ?_⟩
  · refine h.book.update nid p.len p.inHeap hep (fun id hne => ⟨?_, hcl id fun x => hne x.1, ?_⟩) ?_ ?_ ?_
      (fun hin => ?_) (fun hn => ?_)
    · rw [p.load, if_neg hne]
    · have := hout id
      rwa [if_neg fun x => hne x.symm] at this
    · rw [p.load, if_pos rfl]
      omega
    · rw [p.reqs, List.length_set]; exact h.book.bound
    · intro q hq
      rw [p.reqs] at hq
      rcases List.mem_or_eq_of_mem_set hq with hq | hq
      · exact h.book.reqsOk q hq
      · rw [hq]; exact hl
    · have := index_of_inHeap s h.wf nid hin
      rw [hcl nid fun x => by omega]
      exact h.book.closedIn nid hin
    · rw [p.closed nid, p.load, if_pos rfl, h.book.closedOff nid hl hn]
      have hidx : (s.node nid).index < 0 := by rw [h.wf.off nid hl hn]; decide
      rw [← close_arith _ _ _ hout1 hlt hacc]
      congr 1
      exact if_congr ⟨fun x => x.2.2, fun x => ⟨rfl, hidx, x⟩⟩ rfl rfl
  · rw [p.down]
    refine h.down.update p.len p.inHeap fun id => ?_
    rw [p.load]
    by_cases e : id = nid
    · rw [if_pos e, e]
      unfold Idle at hacc
      unfold Penalty at hlt
      omega
    · rw [if_neg e]

/-- the completion is recorded, the load decremented, and the channel of a removed node that has drained closed: the state
    from which `__Put` rearranges -/
theorem putAll_start (s : HS) (r nid : Nat) (v : Int) (hl : nid < s.nodes.length) (hv : v = (s.node nid).load - 1) :
    let t : HS := { s with reqs := s.reqs.set r (nid, true) }
    PutAll s ((t.setLoad nid v).setNode nid { (t.setLoad nid v).node nid with closed := ((t.setLoad nid v).node nid).closed +
      if (s.node nid).index < 0 ∧ (s.node nid).load - 1 = Idle then 1 else 0 }) r nid := by
  intro t
  have hf := fun id => setLoad_node t nid id v
  have hl1 : nid < (t.setLoad nid v).nodes.length := by rw [setLoad_len]; exact hl
  have hp : ∀ {α : Type} (g : Node → α), (∀ (n : Node) (c : Nat), g { n with closed := c } = g n) → ∀ id,
      g (((t.setLoad nid v).setNode nid { (t.setLoad nid v).node nid with closed := ((t.setLoad nid v).node nid).closed +
        if (s.node nid).index < 0 ∧ (s.node nid).load - 1 = Idle then 1 else 0 }).node id) =
      g ((t.setLoad nid v).node id) := fun g hg id => setNode_proj g _ nid _ (hg _ _) id
  refine ⟨⟨(setNode_len _ _ _).trans (setLoad_len t nid v), rfl,
      fun id => (setNode_inHeap _ _ _ id).trans (setLoad_inHeap t nid v id),
      fun id => ⟨(hp Node.ep (fun _ _ => rfl) id).trans (hf id).2.1,
        (hp Node.chan (fun _ _ => rfl) id).trans (hf id).2.2.1⟩, fun id => ?_⟩,
    fun id => ?_, rfl, rfl⟩
  · by_cases e' : id = nid
    · rw [e', node_self _ nid _ hl1, (hf nid).2.2.2.1]
      exact congrArg _ (if_congr (and_iff_right rfl).symm rfl rfl)
    · rw [node_other _ nid id _ e', (hf id).2.2.2.1, if_neg fun x => e' x.1]; rfl
  · rw [hp Node.load (fun _ _ => rfl) id, setLoad_load t nid id v hl, hv]
    rfl

theorem putNode_spec (s : HS) (h : HInv s) (r nid j : Nat) (hreq : s.reqs[r]? = some (nid, false))
    (hj : s.putDraws nid = true → 1 ≤ j ∧ j ≤ s.size) :
    HInv (({ s with reqs := s.reqs.set r (nid, true) } : HS).putNode nid j) ∧
    PutAll s (({ s with reqs := s.reqs.set r (nid, true) } : HS).putNode nid j) r nid := by
  have hl : nid < s.nodes.length := h.book.reqsOk _ (List.mem_of_getElem? hreq)
  have hacc := h.book.acct nid hl
  have hlt := h.book.out_lt nid
  have hpos : 1 ≤ outOf s nid := by
    have := outL_set s.reqs r nid nid hreq
    rw [if_pos rfl] at this
    unfold outOf; omega
  have hne : ¬ ((s.node nid).load - 1 < Idle) := by unfold Idle Penalty at *; omega
  have hIdle : Idle ≤ (s.node nid).load - 1 := Int.not_lt.1 hne
  have hdraw : s.putDraws nid = (decide (0 ≤ (s.node nid).index) && decide ((s.node nid).load - 1 = Idle) &&
      decide (s.size > 1)) := by
    show (_ && decide ((if (s.node nid).load - 1 < Idle then Idle else (s.node nid).load - 1) = Idle) && _) = _
    rw [if_neg hne]
  have hall : PutAll s _ r nid := putAll_start s r nid _ hl rfl
  rw [putNode_rest, show ({ s with reqs := s.reqs.set r (nid, true) } : HS).node nid = s.node nid from rfl, if_neg hne]
  set t : HS := { s with reqs := s.reqs.set r (nid, true) }
  have hwt : WF t := h.wf.same rfl rfl fun _ => rfl
  have hidx1 : ((t.setLoad nid ((s.node nid).load - 1)).node nid).index = (s.node nid).index :=
    (setLoad_node t nid nid _).2.2.2.2
  have hload1 : ((t.setLoad nid ((s.node nid).load - 1)).node nid).load = (s.node nid).load - 1 :=
    (setLoad_load t nid nid _ hl).trans (if_pos rfl)
  have hsz1 : (t.setLoad nid ((s.node nid).load - 1)).size = s.size := rfl
  -- the heap part: a rearrangement of the decremented state, the close count apart
  obtain ⟨w, f, o⟩ := putRest_spec (t.setLoad nid ((s.node nid).load - 1)) (setLoad_WF t hwt nid _) nid j
    fun a b c => by
      rw [hidx1] at a; rw [hload1] at b; rw [hsz1] at c ⊢
      exact hj (by rw [hdraw, decide_eq_true a, decide_eq_true b, decide_eq_true c]; rfl)
  rw [hidx1, hload1] at f
  rw [hsz1, setLoad_pos] at o
  -- the decrement leaves the order intact except, upwards, at the node's slot; no load is below `Idle`
  have hord : Ord (L ((t.setLoad nid ((s.node nid).load - 1)).putRest nid j))
      ((t.setLoad nid ((s.node nid).load - 1)).putRest nid j).size := by
    have hmin : ∀ p, 1 ≤ p → p ≤ s.size → Idle ≤ L (t.setLoad nid ((s.node nid).load - 1)) p := by
      intro p q1 q2
      unfold L HS.at
      rw [setLoad_load t nid _ _ hl, setLoad_idAt]
      split
      · exact hIdle
      · exact (h.book.pen_iff _ (h.wf.inStore p q1 q2)).2.2.1
    have hsz : ((t.setLoad nid ((s.node nid).load - 1)).putRest nid j).size = s.size := by
      rw [← hsz1]; exact f.size
    rw [hsz]
    by_cases hih : InHeap t nid
    · have hu := upd_shrink (L t) t.size (pos t nid) ((s.node nid).load - 1) h.ord
        (by rw [L_pos t hwt nid hih]; exact Int.sub_le_self _ (by decide))
      rw [← setLoad_L t hwt nid _ hih] at hu
      exact o hu.1 hu.2 hmin
    · have hO : Ord (L (t.setLoad nid ((s.node nid).load - 1))) s.size :=
        Ord.congr (fun k hk1 hk => setLoad_L_off t nid _ hih k hk1 hk) h.ord
      rw [pos_off t hwt nid hih] at o
      exact o (fun k a b _ => hO k a b) (fun c _ _ hx => absurd hx (by decide)) hmin
  exact ⟨(hall.frame f).inv h hreq w hord, hall.frame f⟩

theorem HInv_put {s : HS} (h : HInv s) (r j : Nat)
    (hj : ∀ nid, s.reqs[r]? = some (nid, false) → s.putDraws nid = true → 1 ≤ j ∧ j ≤ s.size) :
    HInv (s.put r j) ∧ (SrvOk s → SrvOk (s.put r j)) := by
  unfold HS.put
  split
  · exact ⟨h, id⟩
  · exact ⟨h, id⟩
  · rename_i nid hreq
    obtain ⟨i, p⟩ := putNode_spec s h r nid j hreq (hj nid hreq)
    exact ⟨i, p.srv⟩

theorem Inv_put (s : HS) (h : Inv s) (r j : Nat)
    (hj : ∀ nid, s.reqs[r]? = some (nid, false) → s.putDraws nid = true → 1 ≤ j ∧ j ≤ s.size) :
    Inv (s.put r j) :=
  have k := HInv_put (.of_inv h) r j hj
  k.1.inv (k.2 h.srv)

theorem scan_reqs (l : List Nat) : ∀ (s : HS), (s.scan l).1.reqs = s.reqs := by
  induction l with
  | nil => intro s; rfl
  | cons nid rest ih =>
    intro s
    unfold HS.scan
    dsimp only
    split
    · exact ih s
    · split
      · exact (ih _).trans (fixUp_reqs _ _)
      · exact ih s

theorem addSink_reqs (s : HS) (ep : Nat) : (s.addSink ep).reqs = s.reqs := fixUp_reqs _ _

theorem removeSink_reqs (s : HS) (ep : Nat) : (s.removeSink ep).1.reqs = s.reqs := by
  unfold HS.removeSink
  split
  · rfl
  · simp only [apply_ite Prod.fst, apply_ite HS.reqs, fixUp_reqs, fixDown_reqs, swap_reqs, setNode_reqs, ite_self]

theorem setChan_reqs (s : HS) (nid st : Nat) : (s.setChan nid st).reqs = s.reqs := by
  rw [setChan_eq]; rfl

theorem scanned_reqs (s : HS) : s.scanned.reqs = s.reqs := scan_reqs _ _

theorem markRoot_reqs (s : HS) : s.markRoot.reqs = s.reqs := fixDown_reqs _ _ _

theorem dispatch_reqs (s : HS) (nid : Nat) : (s.dispatch nid).reqs = s.reqs ++ [(nid, false)] :=
  congrArg (· ++ [(nid, false)]) (fixDown_reqs _ _ _)

end Scales.Heap
