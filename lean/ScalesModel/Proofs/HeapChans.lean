import ScalesModel.Proofs.HeapGet
import ScalesModel.Proofs.HeapPut

/-!
  `__Get` on a balancer whose mark-down hook may add members (the aperture's `_OnNodeDown`): what its loop leaves
  alone — the channel states (`chans`; touched by `setChan` and by node creation only, new nodes start Idle:
  `ChExt`) and membership (`MFrame`: no node leaves the heap) — and the choice it makes (`choice_ok`), for the
  plain heap balancer and the aperture alike.
-/
namespace Scales.Heap

def chans (s : HS) : List Nat := s.nodes.map (·.chan)

theorem chans_len (s : HS) : (chans s).length = s.nodes.length := List.length_map _

theorem node_chan (s : HS) (id : Nat) (h : id < s.nodes.length) : (s.node id).chan = (chans s).getD id 1 := by
  unfold HS.node chans
  simp [List.getD_eq_getElem?_getD, h]

theorem chans_eq {s t : HS} (hl : t.nodes.length = s.nodes.length) (h : ∀ id, (t.node id).chan = (s.node id).chan) :
    chans t = chans s := by
  apply List.ext_getElem (by rw [chans_len, chans_len, hl])
  intro k h1 h2
  rw [chans_len] at h1 h2
  have e : ∀ (u : HS) (hu : k < u.nodes.length), (chans u)[k]'(by rw [chans_len]; exact hu) = (u.node k).chan := by
    intro u hu
    unfold chans HS.node
    rw [List.getElem_map, List.getD_eq_getElem?_getD, List.getElem?_eq_getElem hu, Option.getD_some]
  rw [e t h1, e s h2, h k]

theorem GFrame.chans {s t : HS} (g : GFrame s t) : chans t = chans s :=
  chans_eq g.len fun id => (g.fields id).2.1

/-! The operations on the heap keep the channel states because their frames do (`Frame.fields`, `LeaveFacts.fields`,
    `PutEff.fields`): the list is read off the lemma that describes the operation. -/

theorem chans_put {s : HS} (h : HInv s) (r j : Nat)
    (hj : ∀ nid, s.reqs[r]? = some (nid, false) → s.putDraws nid = true → 1 ≤ j ∧ j ≤ s.size) :
    chans (s.put r j) = chans s := by
  unfold HS.put
  split
  · rfl
  · rfl
  · rename_i nid hreq
    have p := (putNode_spec s h r nid j hreq (hj nid hreq)).2
    exact chans_eq p.len fun id => (p.fields id).2

theorem chans_addSink {s : HS} (hw : WF s) (ep : Nat) : chans (s.addSink ep) = chans s ++ [1] :=
  (push_spec s hw ⟨Idle, (s.size + 1 : Nat), ep, 1, 0⟩ rfl).2.1.toG.chans.trans List.map_append

theorem chans_removeSink {s : HS} (hw : WF s) (ep : Nat) : chans (s.removeSink ep).1 = chans s := by
  cases hf : s.findByEp ep with
  | none => rw [removeSink_none hf]
  | some nid =>
    rw [removeSink_pop s hw ep nid hf]
    obtain ⟨_, lf, _⟩ := remove_facts hw (findByEp_some s ep nid hf).1
    exact chans_eq lf.len fun id => (lf.fields id).2.2.1

theorem chans_dispatch {s : HS} (hw : WF s) (nid : Nat) (hin : InHeap s nid) : chans (s.dispatch nid) = chans s := by
  obtain ⟨s3, g, _, _, _, _, e3⟩ := dispatch_frame s hw nid hin
  rw [e3]
  exact g.chans

theorem chans_setChan (s : HS) (nid st : Nat) : chans (s.setChan nid st) = (chans s).set nid st := by
  rw [setChan_eq]
  exact List.map_set

/-- the store has only grown, and the channels of the new nodes are Idle (`1`) -/
def ChExt (s s' : HS) : Prop := ∃ k, chans s' = chans s ++ List.replicate k 1

theorem ChExt.of_eq {s s' : HS} (h : chans s' = chans s) : ChExt s s' := ⟨0, by rw [h]; exact (List.append_nil _).symm⟩
theorem ChExt.refl (s : HS) : ChExt s s := ChExt.of_eq rfl
theorem ChExt.trans {a b c : HS} (h1 : ChExt a b) (h2 : ChExt b c) : ChExt a c := by
  obtain ⟨k1, e1⟩ := h1
  obtain ⟨k2, e2⟩ := h2
  exact ⟨k1 + k2, by rw [e2, e1, List.append_assoc, List.replicate_add]⟩

theorem ChExt.len {s s' : HS} (h : ChExt s s') : s.nodes.length ≤ s'.nodes.length := by
  obtain ⟨k, e⟩ := h
  rw [← chans_len s, ← chans_len s', e, List.length_append]
  exact Nat.le_add_right _ _

/-- a reading past the end is Idle, so Idle entries at the end change no reading -/
theorem getD_append_idle (c : List Nat) (k id : Nat) : (c ++ List.replicate k 1).getD id 1 = c.getD id 1 := by
  simp only [List.getD_eq_getElem?_getD, List.getElem?_append]
  split
  · rfl
  · rename_i hl
    rw [List.getElem?_eq_none (Nat.le_of_not_lt hl), List.getElem?_replicate]
    split <;> rfl

theorem ChExt.old {s s' : HS} (h : ChExt s s') {id : Nat} (hl : id < s.nodes.length) :
    (s'.node id).chan = (s.node id).chan := by
  have hlen := h.len
  obtain ⟨k, e⟩ := h
  rw [node_chan s' id (lt_of_lt_of_le hl hlen), node_chan s id hl, e, getD_append_idle]

theorem ChExt.new {s s' : HS} (h : ChExt s s') {id : Nat} (h1 : s.nodes.length ≤ id) (h2 : id < s'.nodes.length) :
    (s'.node id).chan = 1 := by
  obtain ⟨k, e⟩ := h
  rw [node_chan s' id h2, e, getD_append_idle, List.getD_eq_getElem?_getD,
    List.getElem?_eq_none (by rw [chans_len]; exact h1)]
  rfl

/-- the heap may take in new nodes (Idle ones), no node leaves it -/
structure MFrame (s s' : HS) : Prop where
  len : s.nodes.length ≤ s'.nodes.length
  reqs : s'.reqs = s.reqs
  old : ∀ id, InHeap s id → InHeap s' id
  new : ∀ id, InHeap s' id → InHeap s id ∨ s.nodes.length ≤ id
  size : s.size ≤ s'.size
  ch : ChExt s s'

theorem MFrame.refl (s : HS) : MFrame s s :=
  ⟨le_refl _, rfl, fun _ h => h, fun _ h => Or.inl h, le_refl _, ChExt.refl s⟩

theorem MFrame.trans {a b c : HS} (h1 : MFrame a b) (h2 : MFrame b c) : MFrame a c := by
  refine ⟨le_trans h1.len h2.len, h2.reqs.trans h1.reqs, fun id h => h2.old id (h1.old id h), ?_,
    le_trans h1.size h2.size, h1.ch.trans h2.ch⟩
  intro id h
  rcases h2.new id h with h | h
  · exact h1.new id h
  · exact Or.inr (le_trans h1.len h)

theorem MFrame.of_G {s t : HS} (g : GFrame s t) : MFrame s t :=
  ⟨le_of_eq g.len.symm, g.reqs, fun id h => (g.inHeap id).mpr h, fun id h => Or.inl ((g.inHeap id).mp h),
   le_of_eq g.size.symm, ChExt.of_eq g.chans⟩

theorem MFrame_addSink {s : HS} (hw : WF s) (ep : Nat) : MFrame s (s.addSink ep) := by
  obtain ⟨⟨a, c, d, _, _⟩, b, _⟩ := addSink_facts hw ep
  refine ⟨by rw [a]; exact Nat.le_succ _, c, fun id h => (d id).2 (Or.inl h), ?_, by rw [b]; exact Nat.le_succ _,
    ⟨1, chans_addSink hw ep⟩⟩
  intro id h
  exact ((d id).1 h).imp_right fun e => le_of_eq e.symm

theorem Cand_addSink {s : HS} (hw : WF s) (ep : Nat) (l : List Nat) (hc : Cand l s) :
    Cand (s.nodes.length :: l) (s.addSink ep) := by
  obtain ⟨⟨_, _, d, e, _⟩, _⟩ := addSink_facts hw ep
  intro id hin hor
  rcases (d id).1 hin with h | h
  · have hl := inHeap_lt s hw id h
    rw [(e id hl).1, (e id hl).2.2.1] at hor
    exact List.mem_cons_of_mem _ (hc id h hor)
  · rw [h]; exact List.mem_cons_self

/-- the choice made by `__Get`: a member of the aperture it started with or a node created on the way;
    if any member it started with is Open, the chosen one is such a member, it is Open, and its outstanding
    count is minimal among them -/
theorem choice_ok {s s' : HS} {nid : Nat} (hw : WF s) (gk : LoopOk MFrame s s' nid) (hsz : 1 ≤ s.size) :
    InHeap s' nid ∧ (InHeap s nid ∨ s.nodes.length ≤ nid) ∧
    ((∃ m, InHeap s m ∧ (s.node m).chan = chOpen) →
      InHeap s nid ∧ (s.node nid).chan = chOpen ∧
      ∀ m, InHeap s m → (s.node m).chan = chOpen → outOf s nid ≤ outOf s m) := by
  have i := gk.hinv
  have hin1 : InHeap s' nid := by rw [gk.top]; exact ⟨1, le_refl _, le_trans hsz gk.frame.size, rfl⟩
  have hnl' := inHeap_lt s' i.wf nid hin1
  -- an Open member `m` of the old heap is still a member, Open and not marked down, so below zero
  have hopen : ∀ m, InHeap s m → (s.node m).chan = chOpen →
      InHeap s' m ∧ (s'.node m).load = Idle + (outOf s m : Int) ∧ (s'.node m).load < 0 := by
    intro m hm ho
    have hm' := gk.frame.old m hm
    have ho' : (s'.node m).chan = chOpen := by rw [gk.frame.ch.old (inHeap_lt s hw m hm)]; exact ho
    have hneg : (s'.node m).load < 0 :=
      not_le.1 fun hge => gk.scanned m (i.down.all m hm' hge) ho'
    have := (i.book.pen_iff m (inHeap_lt s' i.wf m hm')).2.1.mp hneg
    rw [outOf_congr gk.frame.reqs] at this
    exact ⟨hm', this, hneg⟩
  have hroot : ∀ m, InHeap s' m → (s'.node nid).load ≤ (s'.node m).load := by
    intro m hm
    obtain ⟨p1, p2, p3, _, _⟩ := pos_spec s' i.wf m hm
    have := Ord_root (L s') s'.size i.ord (pos s' m) p1 p2
    unfold L HS.at at this
    rw [p3, ← gk.top] at this
    exact this
  refine ⟨hin1, gk.frame.new nid hin1, ?_⟩
  rintro ⟨m0, hm0, ho0⟩
  obtain ⟨hm0', _, hneg0⟩ := hopen m0 hm0 ho0
  have hneg : (s'.node nid).load < 0 := lt_of_le_of_lt (hroot m0 hm0') hneg0
  have hch : (s'.node nid).chan = chOpen := gk.ok.resolve_right (not_le.2 hneg)
  -- a node created on the way is Idle, not Open
  have hold : nid < s.nodes.length := by
    by_contra hc
    rw [gk.frame.ch.new (Nat.le_of_not_lt hc) hnl'] at hch
    cases hch
  have hinA : InHeap s nid := (gk.frame.new nid hin1).resolve_right (not_le.2 hold)
  have hchA : (s.node nid).chan = chOpen := by rw [← gk.frame.ch.old hold]; exact hch
  refine ⟨hinA, hchA, ?_⟩
  intro m hm ho
  obtain ⟨hm', y, _⟩ := hopen m hm ho
  have := hroot m hm'
  rw [(hopen nid hinA hchA).2.1, y] at this
  exact Int.ofNat_le.1 (Int.le_of_add_le_add_left this)

end Scales.Heap
