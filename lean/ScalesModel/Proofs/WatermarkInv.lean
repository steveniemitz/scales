/-
  Proofs/WatermarkInv.lean — C07: the invariant of the watermark pool and its preservation by the
  moves of a connection between the pool's lists and by each event.
-/
import ScalesModel.Proofs.WatermarkView

namespace Scales.Watermark

/-- connections the pool holds that are not lent: cached, being handed off, or in the hand of
    the code that is running (`h`) -/
def held (s : St) (h : Option Nat) : List Nat := s.cache ++ s.tasks ++ h.toList

/-- `h` is the connection in the hand of the running code (see `held`).  `wStat` allows `.done`: a waiter whose
    timer fired stays in `_waiters` until `_ProcessQueue` skips it, so the waiters are more than the waiting calls.
    `full` holds only while `everClosed = false`: `Close()` fails the waiters but leaves them queued, and later
    releases count the size down (the specification's `fifoGate` gives up "no overtaking" at the same point). -/
structure Inv (cfg : Cfg) (h : Option Nat) (s : St) : Prop where
  size_eq : s.size = (lentIds s.view).length + (held s h).length
  size_le : s.size ≤ cfg.max
  nodup : (held s h).Nodup
  free : ∀ sid ∈ held s h, sid < s.view.sinks.length ∧ holderOf s.view sid = none
  aliveHeld : ∀ sid, isAlive s.view sid = true → (holderOf s.view sid).isSome = true ∨ sid ∈ held s h
  cacheW : s.waiters ≠ [] → s.cache = []
  cacheMin : s.cache.length ≤ cfg.min
  wq : s.waiters.length ≤ cfg.maxq
  wSorted : s.waiters.Pairwise (· < ·)
  wStat : ∀ c ∈ s.waiters, s.view.calls[c]? = some .pending ∨ s.view.calls[c]? = some .done
  pendW : ∀ c, s.view.calls[c]? = some .pending → c ∈ s.waiters
  lentCall : ∀ sid c, holderOf s.view sid = some c →
    ∃ st, s.view.calls[c]? = some st ∧ st.holds = some sid
  startedLent : ∀ sid c st, s.view.calls[c]? = some st → st.holds = some sid → holderOf s.view sid = some c
  openHeld : ∀ sid, openFlag s.view sid = true → (holderOf s.view sid).isSome = true
  openConn : ∀ sid c, openFlag s.view sid = true → holderOf s.view sid = some c →
    s.view.calls[c]? = some (.connecting sid) ∨ s.view.calls[c]? = some (.orphan sid)
  full : s.everClosed = false → s.waiters ≠ [] → cfg.max ≤ s.size
  closedFlag : s.pstate = .closed → s.everClosed = true

/-! The invariant has four parts that change independently: the accounting of connections
    (`Acct`: which connections the counter counts), the pool's own lists and flags (`Lists`), the
    waiters against the calls (`Wait`), and who holds what (`Link`).  Their fields are those of `Inv`, under
    the same names, with the view and the lists as parameters (`Inv.acct`, …, `Inv.of_parts`). -/

structure Acct (max : Nat) (v : View) (size : Nat) (l : List Nat) : Prop where
  size_eq : size = (lentIds v).length + l.length
  size_le : size ≤ max
  nodup : l.Nodup
  free : ∀ sid ∈ l, sid < v.sinks.length ∧ holderOf v sid = none
  aliveHeld : ∀ sid, isAlive v sid = true → (holderOf v sid).isSome = true ∨ sid ∈ l

structure Lists (cfg : Cfg) (cache waiters : List Nat) (size : Nat) (pstate : PState) (everClosed : Bool) :
    Prop where
  cacheW : waiters ≠ [] → cache = []
  cacheMin : cache.length ≤ cfg.min
  wq : waiters.length ≤ cfg.maxq
  wSorted : waiters.Pairwise (· < ·)
  full : everClosed = false → waiters ≠ [] → cfg.max ≤ size
  closedFlag : pstate = .closed → everClosed = true

structure Wait (w : List Nat) (v : View) : Prop where
  wStat : ∀ c ∈ w, v.calls[c]? = some .pending ∨ v.calls[c]? = some .done
  pendW : ∀ c, v.calls[c]? = some .pending → c ∈ w

structure Link (v : View) : Prop where
  lentCall : ∀ sid c, holderOf v sid = some c → ∃ st, v.calls[c]? = some st ∧ st.holds = some sid
  startedLent : ∀ sid c st, v.calls[c]? = some st → st.holds = some sid → holderOf v sid = some c
  openHeld : ∀ sid, openFlag v sid = true → (holderOf v sid).isSome = true
  openConn : ∀ sid c, openFlag v sid = true → holderOf v sid = some c →
    v.calls[c]? = some (.connecting sid) ∨ v.calls[c]? = some (.orphan sid)

section parts
variable {cfg : Cfg} {h : Option Nat} {s : St}

theorem Inv.acct (hi : Inv cfg h s) : Acct cfg.max s.view s.size (held s h) :=
  ⟨hi.size_eq, hi.size_le, hi.nodup, hi.free, hi.aliveHeld⟩
theorem Inv.lists (hi : Inv cfg h s) : Lists cfg s.cache s.waiters s.size s.pstate s.everClosed :=
  ⟨hi.cacheW, hi.cacheMin, hi.wq, hi.wSorted, hi.full, hi.closedFlag⟩
theorem Inv.wait (hi : Inv cfg h s) : Wait s.waiters s.view := ⟨hi.wStat, hi.pendW⟩
theorem Inv.link (hi : Inv cfg h s) : Link s.view := ⟨hi.lentCall, hi.startedLent, hi.openHeld, hi.openConn⟩

theorem Inv.hand {sid : Nat} (hi : Inv cfg (some sid) s) : sid < s.view.sinks.length ∧ holderOf s.view sid = none :=
  hi.free sid (List.mem_append_right _ (List.mem_singleton_self sid))

theorem Inv.of_parts {v : View} (hv : s.view = v) (a : Acct cfg.max v s.size (held s h))
    (l : Lists cfg s.cache s.waiters s.size s.pstate s.everClosed) (w : Wait s.waiters v) (k : Link v) : Inv cfg h s := by
  subst hv
  exact ⟨a.size_eq, a.size_le, a.nodup, a.free, a.aliveHeld, l.cacheW, l.cacheMin, l.wq, l.wSorted, w.wStat, w.pendW,
   k.lentCall, k.startedLent, k.openHeld, k.openConn, l.full, l.closedFlag⟩

end parts

section acct
variable {max size : Nat} {v v' : View} {l l' : List Nat} {sid : Nat}

/-- The pool owns the same connections as before, whichever of them are lent and whichever it holds itself
    (`hp`): count, duplicate-freeness and "a held connection is free" are read off the list of owned connections. -/
theorem Acct.move (ha : Acct max v size l) (hn : v'.sinks.length = v.sinks.length)
    (hp : (lentIds v' ++ l').Perm (lentIds v ++ l))
    (hal : ∀ x, isAlive v' x = true → isAlive v x = true ∨ (holderOf v x).isSome = true) : Acct max v' size l' := by
  have hd : (lentIds v' ++ l').Nodup := hp.nodup_iff.2 (List.nodup_append.2 ⟨nodup_ids _ _, ha.nodup, fun x hx y hy hxy => by
    have := mem_lentIds.1 hx; rw [hxy, (ha.free y hy).2] at this; cases this⟩)
  have hown : ∀ x, ((holderOf v' x).isSome = true ∨ x ∈ l') ↔ ((holderOf v x).isSome = true ∨ x ∈ l) := fun x => by
    simpa only [List.mem_append, mem_lentIds] using hp.mem_iff (a := x)
  refine ⟨?_, ha.size_le, hd.of_append_right, fun x hx => ⟨hn ▸ ?_, ?_⟩,
    fun x hx => (hown x).2 ((hal x hx).elim (ha.aliveHeld x) .inl)⟩
  · rw [← List.length_append, hp.length_eq, List.length_append]; exact ha.size_eq
  · exact ((hown x).1 (.inr hx)).elim (fun h => (Option.isSome_iff_exists.1 h).elim fun _ => holderOf_lt) fun h => (ha.free x h).1
  · exact Option.not_isSome_iff_eq_none.1 fun h => (List.nodup_append.1 hd).2.2 x (mem_lentIds.2 h) x hx rfl

theorem Acct.perm (ha : Acct max v size l) (hp : l.Perm l') : Acct max v size l' :=
  ha.move rfl (hp.symm.append_left _) fun _ => .inl

/-- nobody changes hands; a connection may die, and one that is lent may come alive -/
theorem Acct.congr (ha : Acct max v size l) (hn : v'.sinks.length = v.sinks.length)
    (hh : ∀ j, holderOf v' j = holderOf v j)
    (hal : ∀ j, isAlive v' j = true → isAlive v j = true ∨ (holderOf v j).isSome = true) :
    Acct max v' size l :=
  ha.move hn (lentIds_congr hh ▸ .refl _) hal

theorem Acct.of_sinks (ha : Acct max v size l) (hs : v'.sinks = v.sinks) : Acct max v' size l :=
  ha.congr (by rw [hs]) (fun j => by unfold holderOf; rw [hs]) fun j hj => .inl (by unfold isAlive at hj ⊢; rwa [← hs])

theorem Acct.lend {c : Nat} {o : Bool} (ha : Acct max v size (sid :: l)) (hS : SinkSet v v' sid (some c) o) :
    Acct max v' size l :=
  ha.move hS.len
    (((lentIds_perm_cons (ha.free sid List.mem_cons_self).2 (by rw [hS.holder, if_pos rfl]; rfl) fun j hj => by
      rw [hS.holder, if_neg hj]).append_right l).trans List.perm_middle.symm)
    fun x hx => .inl (hS.alive x ▸ hx)

theorem Acct.unlend {c : Nat} {o : Bool} (ha : Acct max v size l) (hl : holderOf v sid = some c)
    (hS : SinkSet v v' sid none o) : Acct max v' size (sid :: l) :=
  ha.move hS.len
    (List.perm_middle.trans ((lentIds_perm_cons (v := v') (v' := v) (by rw [hS.holder, if_pos rfl]) (by rw [hl]; rfl) fun j hj => by
      rw [hS.holder, if_neg hj]).symm.append_right l))
    fun x hx => .inl (hS.alive x ▸ hx)

theorem Acct.create (ha : Acct max v size l) (hlt : size < max) (ok : Bool) :
    Acct max (v.apply (.created v.sinks.length ok)) (size + 1) (v.sinks.length :: l) := by
  have hnot : v.sinks.length ∉ l := fun hm => Nat.lt_irrefl _ (ha.free _ hm).1
  refine ⟨?_, hlt, List.nodup_cons.2 ⟨hnot, ha.nodup⟩, fun x hx => ?_, fun x hx => ?_⟩
  · rw [lentIds_created, ha.size_eq, List.length_cons]; omega
  · rw [sinks_len_created, holderOf_created]
    rcases List.mem_cons.1 hx with rfl | hx
    · exact ⟨Nat.lt_succ_self _, by rw [holderOf_sinkAt, sinkAt_of_le (Nat.le_refl _)]⟩
    · exact ⟨Nat.lt_succ_of_lt (ha.free x hx).1, (ha.free x hx).2⟩
  · rw [isAlive_created] at hx; rw [holderOf_created]
    split at hx
    · next hxs => exact Or.inr (hxs ▸ List.mem_cons_self)
    · exact (ha.aliveHeld x hx).imp_right (List.mem_cons_of_mem _)

theorem Acct.drop (ha : Acct max v size (sid :: l)) (hdead : isAlive v sid = false) :
    Acct max v (size - 1) l := by
  refine ⟨?_, Nat.le_trans (Nat.sub_le _ _) ha.size_le, (List.nodup_cons.1 ha.nodup).2,
    fun x hx => ha.free x (List.mem_cons_of_mem _ hx), fun x hx => ?_⟩
  · have := ha.size_eq; rw [List.length_cons] at this; omega
  · refine (ha.aliveHeld x hx).imp_right fun hm => (List.mem_cons.1 hm).resolve_left ?_
    rintro rfl; rw [hdead] at hx; cases hx

end acct

theorem Wait.congr {w : List Nat} {v v' : View} (hw : Wait w v) (hc : v'.calls = v.calls) : Wait w v' :=
  ⟨fun c h => by rw [hc]; exact hw.wStat c h, fun c h => hw.pendW c (by rw [← hc]; exact h)⟩

theorem Wait.update {w w' : List Nat} {v v' : View} {c : Nat} {st' : CStat} (hw : Wait w v)
    (hC : CallSet v v' c st') (hmem : ∀ x, x ≠ c → (x ∈ w' ↔ x ∈ w))
    (hin : c ∈ w' → st' = .pending ∨ st' = .done) (hp : st' = .pending → c ∈ w') : Wait w' v' := by
  refine ⟨fun x hx => ?_, fun x hx => ?_⟩ <;> rw [hC.get] at * <;> split at *
  · next hxc => exact (hin (hxc ▸ hx)).imp (congrArg some) (congrArg some)
  · next hxc => exact hw.wStat x ((hmem x hxc).1 hx)
  · next hxc => exact hxc ▸ hp (Option.some.inj hx)
  · next hxc => exact (hmem x hxc).2 (hw.pendW x hx)

section link
variable {v v' : View}

theorem Link.congr (hl : Link v) (hh : ∀ j, holderOf v' j = holderOf v j) (ho : ∀ j, openFlag v' j = openFlag v j)
    (hc : v'.calls = v.calls) : Link v' := by
  refine ⟨fun x c hx => ?_, fun x c st hc' hs => ?_, fun x hx => ?_, fun x c hx hh' => ?_⟩ <;> rw [hc] at *
  · exact hl.lentCall x c (hh x ▸ hx)
  · rw [hh]; exact hl.startedLent x c st hc' hs
  · rw [hh]; exact hl.openHeld x (ho x ▸ hx)
  · exact hl.openConn x c (ho x ▸ hx) (hh x ▸ hh')

/-- call `c` gets a status that holds the same connection (a new call: none); a call that was
    connecting may have become an orphan -/
theorem Link.setCall {c : Nat} {st' : CStat} (hl : Link v) (hk : v'.sinks = v.sinks) (hC : CallSet v v' c st')
    (hs : st'.holds = v.calls[c]?.bind CStat.holds)
    (hconn : ∀ x, v.calls[c]? = some (.connecting x) ∨ v.calls[c]? = some (.orphan x) →
      st' = .connecting x ∨ st' = .orphan x) : Link v' := by
  have hh : ∀ j, holderOf v' j = holderOf v j := fun j => by unfold holderOf; rw [hk]
  have ho : ∀ j, openFlag v' j = openFlag v j := fun j => by unfold openFlag; rw [hk]
  refine ⟨fun x y hx => ?_, fun x y st1 hy h1 => ?_, fun x hx => ?_, fun x y hx hy => ?_⟩
  · rw [hh] at hx; rw [hC.get]
    obtain ⟨st, h1, h2⟩ := hl.lentCall x y hx
    split
    · next hyc => exact ⟨st', rfl, by rw [hs, ← hyc, h1]; exact h2⟩
    · exact ⟨st, h1, h2⟩
  · rw [hC.get] at hy; rw [hh]
    split at hy
    · next hyc =>
      cases hy
      rw [hs, Option.bind_eq_some_iff] at h1
      obtain ⟨st, h2, h3⟩ := h1
      exact hl.startedLent x y st (hyc ▸ h2) h3
    · exact hl.startedLent x y st1 hy h1
  · rw [hh]; exact hl.openHeld x (ho x ▸ hx)
  · rw [hC.get]
    have := hl.openConn x y (ho x ▸ hx) (hh x ▸ hy)
    split
    · next hyc => exact (hconn x (hyc ▸ this)).imp (congrArg some) (congrArg some)
    · exact this

/-- Connection `sid` and call `c` change together (`sent`, `connecting`, `rel`).  Before, nobody but `c` held
    `sid` (`hsid`) and `c` held nothing but `sid` (`hc`); afterwards they hold each other or nothing
    (`hafter`); and if `sid` is left with its opening flag up, `c` is the call connecting to it (`hopen`). -/
theorem Link.update {sid c : Nat} {h' : Option Nat} {o : Bool} {st st' : CStat} (hl : Link v)
    (hS : SinkSet v v' sid h' o) (hC : CallSet v v' c st') (hst : v.calls[c]? = some st)
    (hsid : holderOf v sid = none ∨ holderOf v sid = some c) (hc : st.holds = none ∨ st.holds = some sid)
    (hafter : (h' = none ∧ st'.holds = none) ∨ (h' = some c ∧ st'.holds = some sid))
    (hopen : o = true → h' = some c ∧ (st' = .connecting sid ∨ st' = .orphan sid)) : Link v' := by
  have hA : ∀ x, x ≠ sid → holderOf v x ≠ some c := fun x hx hh => by
    obtain ⟨st1, h1, h2⟩ := hl.lentCall x c hh
    rw [hst] at h1; cases h1
    rcases hc with k | k <;> rw [k] at h2 <;> cases h2
    exact hx rfl
  have hB : ∀ y st1, y ≠ c → v.calls[y]? = some st1 → st1.holds ≠ some sid := fun y st1 hy h1 h2 => by
    have := hl.startedLent sid y st1 h1 h2
    rcases hsid with k | k <;> rw [k] at this <;> cases this
    exact hy rfl
  refine ⟨fun x y hx => ?_, fun x y st1 hy hs => ?_, fun x hx => ?_, fun x y hx hh => ?_⟩
  · rw [hS.holder] at hx; rw [hC.get]
    split at hx
    · next hxs =>
      subst hxs
      rcases hafter with ⟨k, _⟩ | ⟨k, k'⟩ <;> rw [k] at hx <;> cases hx
      exact ⟨st', if_pos rfl, k'⟩
    · next hxs => rw [if_neg fun hy : y = c => hA x hxs (hy ▸ hx)]; exact hl.lentCall x y hx
  · rw [hC.get] at hy; rw [hS.holder]
    split at hy
    · next hyc =>
      cases hy; subst hyc
      rcases hafter with ⟨_, k'⟩ | ⟨k, k'⟩ <;> rw [k'] at hs <;> cases hs
      rw [if_pos rfl, k]
    · next hyc => rw [if_neg fun hx : x = sid => hB y st1 hyc hy (hx ▸ hs)]; exact hl.startedLent x y st1 hy hs
  · rw [hS.flag] at hx; rw [hS.holder]
    split at hx
    · next hxs => rw [if_pos hxs, (hopen hx).1]; rfl
    · next hxs => rw [if_neg hxs]; exact hl.openHeld x hx
  · rw [hS.flag] at hx; rw [hS.holder] at hh; rw [hC.get]
    split at hx
    · next hxs =>
      subst hxs
      rw [if_pos rfl, (hopen hx).1] at hh; cases hh
      rw [if_pos rfl]; exact (hopen hx).2.imp (congrArg some) (congrArg some)
    · next hxs =>
      rw [if_neg hxs] at hh
      rw [if_neg fun hy : y = c => hA x hxs (hy ▸ hh)]; exact hl.openConn x y hx hh

end link

/-- a waiting call holds no connection, so the release of a connection passes it by -/
theorem Link.pending_rel {v : View} (hl : Link v) (sid : Nat) {c : Nat} (hc : v.calls[c]? = some .pending) :
    (v.apply (.rel sid)).calls[c]? = some .pending := by
  cases hh : holderOf v sid with
  | none => rw [calls_rel_free _ hh]; exact hc
  | some c' =>
    obtain ⟨st, h1, h2⟩ := hl.lentCall sid c' hh
    rw [calls_rel_lent _ hh, if_neg]; · exact hc
    rintro ⟨rfl, _⟩; rw [hc] at h1; cases h1; cases h2

theorem inv_init (cfg : Cfg) : Inv cfg none St.init :=
  have hc : ∀ (c : Nat) (st : CStat), St.init.view.calls[c]? ≠ some st := nofun
  have hh : ∀ sid, holderOf St.init.view sid = none := fun _ => rfl
  have ho : ∀ sid, openFlag St.init.view sid ≠ true := nofun
  .of_parts rfl ⟨rfl, Nat.zero_le _, .nil, nofun, nofun⟩ ⟨nofun, Nat.zero_le _, Nat.zero_le _, .nil, nofun, nofun⟩
    ⟨nofun, fun c h => absurd h (hc c _)⟩
    ⟨fun sid _ h => absurd ((hh sid).symm.trans h) nofun, fun _ c st h => absurd h (hc c st),
     fun sid h => absurd h (ho sid), fun sid _ h => absurd h (ho sid)⟩

/-- a state between two operations: the invariant holds with nothing in the hand and no event is pending, so the
    picture is the base and the parts of the invariant can be read on `s.base` -/
structure Reached (cfg : Cfg) (s : St) : Prop where
  inv : Inv cfg none s
  evs : s.evs = []

section reached
variable {cfg : Cfg} {s : St} (hr : Reached cfg s)
include hr

theorem Reached.view : s.view = s.base := view_of_nil hr.evs
theorem Reached.acct : Acct cfg.max s.base s.size (held s none) := hr.view ▸ hr.inv.acct
theorem Reached.wait : Wait s.waiters s.base := hr.view ▸ hr.inv.wait
theorem Reached.link : Link s.base := hr.view ▸ hr.inv.link

end reached

@[simp] theorem held_emit (s : St) (ev : Ev) (h : Option Nat) : held (s.emit ev) h = held s h := rfl

theorem held_some (s : St) (sid : Nat) : (held s (some sid)).Perm (sid :: held s none) := by
  simp only [held, Option.toList, List.append_nil]; exact List.perm_append_singleton _ _

theorem mem_held_none {s : St} {x : Nat} : x ∈ held s none ↔ x ∈ s.cache ∨ x ∈ s.tasks := by
  simp [held]

theorem Acct.size_none {max : Nat} {v : View} {s : St} (ha : Acct max v s.size (held s none)) :
    s.size = (lentIds v).length + s.cache.length + s.tasks.length := by
  rw [ha.size_eq, held, Option.toList, List.append_nil, List.length_append, Nat.add_assoc]

theorem Acct.alive_none {max : Nat} {v : View} {s : St} (ha : Acct max v s.size (held s none)) {x : Nat}
    (hx : isAlive v x = true) : (holderOf v x).isSome = true ∨ x ∈ s.cache ∨ x ∈ s.tasks :=
  (ha.aliveHeld x hx).imp_right mem_held_none.1

theorem Lists.sub {cfg : Cfg} {cache w w' : List Nat} {size : Nat} {p : PState} {ec : Bool}
    (hl : Lists cfg cache w size p ec) (hs : w'.Sublist w) : Lists cfg cache w' size p ec :=
  have hne : w' ≠ [] → w ≠ [] := fun h he => h (List.sublist_nil.1 (he ▸ hs))
  { hl with
    cacheW := fun h => hl.cacheW (hne h)
    wq := Nat.le_trans hs.length_le hl.wq
    wSorted := hl.wSorted.sublist hs
    full := fun he h => hl.full he (hne h) }

section moves
variable {cfg : Cfg} {s : St} {sid : Nat} {rest : List Nat}

theorem take_cache (h : Inv cfg none s) (hc : s.cache = sid :: rest) :
    Inv cfg (some sid) { s with cache := rest } := by
  have e : held s none = sid :: held { s with cache := rest } none := by rw [held, hc]; rfl
  refine .of_parts rfl ((e ▸ h.acct).perm (held_some _ sid).symm)
    { h.lists with cacheW := fun hw => ?_, cacheMin := ?_ } h.wait h.link
  · have := h.cacheW hw; rw [hc] at this; cases this
  · have := h.cacheMin; rw [hc] at this; exact Nat.le_of_succ_le this

theorem take_task (h : Inv cfg none s) (hc : s.tasks = sid :: rest) :
    Inv cfg (some sid) { s with tasks := rest } := by
  have e : (held s none).Perm (sid :: held { s with tasks := rest } none) := by
    simp only [held, hc, Option.toList, List.append_nil]; exact List.perm_middle
  exact .of_parts rfl ((h.acct.perm e).perm (held_some _ sid).symm) h.lists h.wait h.link

theorem put_task (h : Inv cfg (some sid) s) : Inv cfg none { s with tasks := s.tasks ++ [sid] } := by
  have e : held s (some sid) = held { s with tasks := s.tasks ++ [sid] } none := by simp [held]
  exact .of_parts rfl (e ▸ h.acct) h.lists h.wait h.link

theorem put_cache (h : Inv cfg (some sid) s) (hw : s.waiters = []) (hmin : s.size ≤ cfg.min) :
    Inv cfg none { s with cache := s.cache ++ [sid] } := by
  have e : (held s (some sid)).Perm (held { s with cache := s.cache ++ [sid] } none) := by
    simp only [held, Option.toList, List.append_nil, List.append_assoc]
    exact List.perm_append_comm.append_left _
  refine .of_parts rfl (h.acct.perm e) { h.lists with cacheW := fun hne => absurd hw hne, cacheMin := ?_ } h.wait h.link
  have := h.size_eq
  simp only [held, Option.toList, List.length_append, List.length_cons, List.length_nil] at this ⊢
  omega

theorem drop_hand (h : Inv cfg (some sid) s) (hdead : isAlive s.view sid = false)
    (hf : s.everClosed = false → s.waiters = []) : Inv cfg none { s with size := s.size - 1 } :=
  .of_parts rfl ((h.acct.perm (held_some s sid)).drop hdead)
    { h.lists with full := fun he hw => absurd (hf he) hw } h.wait h.link

theorem set_closed {h : Option Nat} (hi : Inv cfg h s) :
    Inv cfg h { s with pstate := .closed, everClosed := true } :=
  .of_parts rfl hi.acct { hi.lists with full := nofun, closedFlag := fun _ => rfl } hi.wait hi.link

theorem set_opened {h : Option Nat} (hi : Inv cfg h s) : Inv cfg h { s with pstate := .opened } :=
  .of_parts rfl hi.acct { hi.lists with closedFlag := nofun } hi.wait hi.link

/-- waiters that no longer wait leave the front of the queue, as many as `_ProcessQueue` skips in one run (all of
    them, `w2 = []`, when nobody is waiting any more) -/
theorem drop_waiters {h : Option Nat} {w1 w2 : List Nat} (hi : Inv cfg h s) (hw : s.waiters = w1 ++ w2)
    (hc : ∀ x ∈ w1, s.view.calls[x]? ≠ some .pending) : Inv cfg h { s with waiters := w2 } := by
  refine .of_parts rfl hi.acct (hi.lists.sub (hw ▸ List.sublist_append_right w1 w2))
    ⟨fun x hx => hi.wStat x (by rw [hw]; exact List.mem_append_right _ hx), fun x hx => ?_⟩ hi.link
  have := hi.pendW x hx
  rw [hw] at this
  exact (List.mem_append.1 this).resolve_left fun hm => hc x hm hx

end moves

section events
variable {cfg : Cfg} {h : Option Nat} {s : St}

theorem inv_emit {ev : Ev} (a : Acct cfg.max (s.view.apply ev) s.size (held s h))
    (l : Lists cfg s.cache s.waiters s.size s.pstate s.everClosed) (w : Wait s.waiters (s.view.apply ev))
    (k : Link (s.view.apply ev)) : Inv cfg h (s.emit ev) :=
  .of_parts (view_emit s ev) a l w k

theorem inv_of_view {b : View} {e : List Ev} (hi : Inv cfg h s)
    (hv : St.view { s with base := b, evs := e } = s.view) : Inv cfg h { s with base := b, evs := e } :=
  .of_parts hv hi.acct hi.lists hi.wait hi.link

theorem inv_finish (hi : Inv cfg h s) : Inv cfg h (finish s) := inv_of_view hi rfl

theorem Inv.emit_raised (hi : Inv cfg h s) (w : String) : Inv cfg h (s.emit (.raised w)) :=
  inv_of_view hi (view_emit s _)

theorem Inv.emit_closed (hi : Inv cfg h s) (sid : Nat) : Inv cfg h (s.emit (.closed sid)) :=
  inv_emit
    (hi.acct.congr (sinks_len_closed ..) (holderOf_closed _ _) fun j hj => by
      rw [isAlive_closed] at hj; split at hj
      · cases hj
      · exact Or.inl hj)
    hi.lists (hi.wait.congr rfl) (hi.link.congr (holderOf_closed _ _) (openFlag_closed _ _) rfl)

theorem isAlive_after_closed (s : St) (sid : Nat) : isAlive (s.emit (.closed sid)).view sid = false := by
  rw [view_emit, isAlive_closed, if_pos rfl]

/-- statuses whose caller has not been answered and that `done` may be applied to -/
def CStat.answerable : CStat → Bool
  | .arriving => true
  | .pending => true
  | .connecting _ => true
  | .released => true
  | _ => false

theorem Inv.emit_done (hi : Inv cfg h s) (c : Nat) (out : Outcome) {st0 : CStat}
    (hc : s.view.calls[c]? = some st0) (ha : st0.answerable = true) : Inv cfg h (s.emit (.done c out)) := by
  have hC := CallSet.of_set (calls_done s.view c out) hc
  refine inv_emit (hi.acct.of_sinks rfl) hi.lists
    (hi.wait.update hC (fun _ _ => .rfl) (fun hm => ?_) fun hp => absurd hp (doneStat_not_pending _ _))
    (hi.link.setCall rfl hC ?_ fun x hx => ?_)
  · right; unfold doneStat
    rcases hi.wStat c hm with h1 | h1 <;> rw [h1]
  · unfold doneStat; rw [hc]
    match st0, ha with
    | .arriving, _ | .pending, _ | .released, _ | .connecting _, _ => rfl
  · unfold doneStat
    rcases hx with h1 | h1 <;> rw [h1]
    · exact Or.inr rfl
    · rw [hc] at h1; cases h1; cases ha

theorem not_wait_of_holds {w : List Nat} {v : View} (hw : Wait w v) {c sid : Nat} {st : CStat}
    (hc : v.calls[c]? = some st) (hs : st.holds = some sid) : c ∉ w := fun hm => by
  rcases hw.wStat c hm with h1 | h1 <;> rw [hc] at h1 <;> cases h1 <;> cases hs

theorem Inv.emit_rel_lent {sid c : Nat} (hi : Inv cfg none s) (hl : holderOf s.view sid = some c) :
    Inv cfg (some sid) (s.emit (.rel sid)) := by
  obtain ⟨st0, hcs, hholds⟩ := hi.lentCall sid c hl
  have hC := CallSet.of_set (calls_rel_lent _ hl) hcs
  exact inv_emit ((hi.acct.unlend hl (sinkSet_rel ..)).perm (held_some s sid).symm) hi.lists
    (hi.wait.update hC (fun _ _ => .rfl) (fun hm => absurd hm (not_wait_of_holds hi.wait hcs hholds))
      fun hp => absurd hp (relStat_not_pending _ _))
    (hi.link.update (sinkSet_rel ..) hC hcs (.inr hl) (.inr hholds) (.inl ⟨rfl, relStat_holds _ _⟩) nofun)

theorem openFlag_false_of_free (hi : Inv cfg h s) {sid : Nat} (hf : holderOf s.view sid = none) :
    openFlag s.view sid = false := by
  cases ho : openFlag s.view sid with
  | false => rfl
  | true => have := hi.openHeld sid ho; rw [hf] at this; cases this

theorem Inv.emit_rel_free {sid : Nat} (hi : Inv cfg (some sid) s) : Inv cfg (some sid) (s.emit (.rel sid)) := by
  have hfree : holderOf s.view sid = none := hi.hand.2
  have hh := (sinkSet_rel s.view sid).holder_eq hfree
  refine inv_emit (hi.acct.congr (sinks_len_rel ..) hh fun j hj => .inl (isAlive_rel .. ▸ hj)) hi.lists
    (hi.wait.congr (calls_rel_free _ hfree)) (hi.link.congr hh (fun j => ?_) (calls_rel_free _ hfree))
  rw [openFlag_rel]; split
  · next hj => rw [hj, openFlag_false_of_free hi hfree]
  · rfl

theorem Inv.emit_lend {sid c : Nat} {w' : List Nat} {ev : Ev} {o : Bool} {st st' : CStat}
    (hi : Inv cfg (some sid) s) (hc : s.view.calls[c]? = some st) (hst : st.holds = none)
    (hS : SinkSet s.view (s.view.apply ev) sid (some c) o)
    (hC : CallSet s.view (s.view.apply ev) c st') (hs' : st'.holds = some sid) (ho : o = true → st' = .connecting sid ∨ st' = .orphan sid)
    (hw : s.waiters.erase c = w') : Inv cfg none (({ s with waiters := w' }).emit ev) :=
  have hsub {x : Nat} : x ∈ w' ↔ x ≠ c ∧ x ∈ s.waiters := hw ▸ hi.wSorted.nodup.mem_erase_iff
  inv_emit (s := { s with waiters := w' }) ((hi.acct.perm (held_some s sid)).lend hS)
    (hi.lists.sub (hw ▸ List.erase_sublist))
    (hi.wait.update hC (fun x hxc => hsub.trans (and_iff_right hxc))
      (fun hm => absurd rfl (hsub.1 hm).1) fun hp => by rw [hp] at hs'; cases hs')
    (hi.link.update hS hC hc (.inl hi.hand.2) (.inl hst) (.inr ⟨rfl, hs'⟩)
      fun h => ⟨rfl, ho h⟩)

theorem Inv.emit_sent {sid c : Nat} {w' : List Nat} {st : CStat} (hi : Inv cfg (some sid) s)
    (hc : s.view.calls[c]? = some st) (hst : st.holds = none) (hw : s.waiters.erase c = w') :
    Inv cfg none (({ s with waiters := w' }).emit (.sent sid c)) :=
  hi.emit_lend hc hst (sinkSet_sent _ c hi.hand.1) (.of_set (calls_sent _ sid c) hc) (sentStat_holds ..) nofun hw

theorem Inv.emit_connecting {sid c : Nat} {w' : List Nat} (hi : Inv cfg (some sid) s)
    (hc : s.view.calls[c]? = some .arriving) (hw : s.waiters.erase c = w') :
    Inv cfg none (({ s with waiters := w' }).emit (.connecting sid c)) :=
  hi.emit_lend hc rfl (sinkSet_connecting _ c hi.hand.1) (.of_set (calls_connecting _ sid c) hc) rfl
    (fun _ => .inl rfl) hw

theorem Inv.emit_queued {c : Nat} (hi : Inv cfg none s) (hc : s.view.calls[c]? = some .arriving)
    (hlast : c + 1 = s.view.calls.length) (hq : s.waiters.length + 1 ≤ cfg.maxq) (hcache : s.cache = [])
    (hfull : cfg.max ≤ s.size) :
    Inv cfg none (({ s with waiters := s.waiters ++ [c] }).emit (.queued c)) := by
  have hC := CallSet.of_set (calls_queued s.view c) hc
  refine inv_emit (s := { s with waiters := s.waiters ++ [c] })
    (hi.acct.of_sinks rfl)
    { hi.lists with
      cacheW := fun _ => hcache
      wq := by rw [List.length_append]; exact hq
      wSorted := List.pairwise_append.2 ⟨hi.wSorted, List.pairwise_singleton _ _, fun a ha b hb => ?_⟩
      full := fun _ _ => hfull }
    (hi.wait.update hC (fun x hxc => by rw [List.mem_append, List.mem_singleton, or_iff_left hxc]) (fun _ => .inl rfl)
      fun _ => List.mem_append_right _ (List.mem_singleton_self c))
    (hi.link.setCall rfl hC (by rw [hc]; rfl) fun x hx => ?_)
  · -- every waiter is an earlier call
    cases List.mem_singleton.1 hb
    have halt : a < s.view.calls.length := (hi.wStat a ha).elim getElem?_lt getElem?_lt
    have hne : a ≠ c := fun he => absurd ha (he ▸ fun hm => by
      rcases hi.wStat c hm with h1 | h1 <;> rw [hc] at h1 <;> cases h1)
    omega
  · rcases hx with h1 | h1 <;> rw [hc] at h1 <;> cases h1

theorem Inv.emit_created (hi : Inv cfg none s) (hlt : s.size < cfg.max) (ok : Bool) :
    Inv cfg (some s.view.sinks.length)
      (({ s with size := s.size + 1 }).emit (.created s.view.sinks.length ok)) :=
  inv_emit (s := { s with size := s.size + 1 }) ((hi.acct.create hlt ok).perm (held_some s _).symm)
    { hi.lists with full := fun he hw => Nat.le_succ_of_le (hi.full he hw) } (hi.wait.congr rfl)
    (hi.link.congr (holderOf_created _ _ _) (openFlag_created _ _ _) rfl)

/-- the connect of `sid`, which call `c`'s greenlet was blocked on, has ended -/
theorem Inv.emit_sent_opened {sid c : Nat} (hi : Inv cfg none s) (hl : holderOf s.view sid = some c) : Inv cfg none (s.emit (.sent sid c)) := by
  obtain ⟨st, hcs, hholds⟩ := hi.lentCall sid c hl
  have hS := sinkSet_sent s.view c (holderOf_lt hl)
  have hC := CallSet.of_set (calls_sent s.view sid c) hcs
  exact inv_emit (hi.acct.congr hS.len (hS.holder_eq hl) fun j hj => .inl (hS.alive j ▸ hj)) hi.lists
    (hi.wait.update hC (fun _ _ => .rfl) (fun hm => absurd hm (not_wait_of_holds hi.wait hcs hholds))
      fun hp => by have := sentStat_holds s.view sid c; rw [hp] at this; cases this)
    (hi.link.update hS hC hcs (.inr hl) (.inr hholds) (.inr ⟨rfl, sentStat_holds _ _ _⟩) nofun)

theorem Reached.of_base {b : View} (hr : Reached cfg s) (a : Acct cfg.max b s.size (held s none))
    (w : Wait s.waiters b) (k : Link b) : Reached cfg { s with base := b } :=
  ⟨.of_parts (view_of_nil (s := { s with base := b }) hr.evs) a hr.inv.lists w k, hr.evs⟩

theorem inv_preOp_die (hr : Reached cfg s) (sid : Nat) : Reached cfg { s with base := preOp s.base (.die sid) } :=
  ⟨inv_of_view (s := s.emit (.closed sid)) (hr.inv.emit_closed sid) (b := preOp s.base (.die sid)) (e := s.evs) (by
    rw [view_emit, hr.view]; exact view_of_nil (s := { s with base := _ }) hr.evs), hr.evs⟩

theorem inv_preOp_request (hr : Reached cfg s) (ok lat : Bool) :
    Reached cfg { s with base := preOp s.base (.request ok lat) } := by
  have hC : CallSet s.base (preOp s.base (.request ok lat)) s.base.calls.length .arriving :=
    ⟨getElem?_concat_if s.base.calls .arriving⟩
  have hnone : s.base.calls[s.base.calls.length]? = none := List.getElem?_eq_none (Nat.le_refl _)
  refine hr.of_base (hr.acct.of_sinks rfl)
    (hr.wait.update hC (fun _ _ => .rfl) (fun hm => ?_) nofun)
    (hr.link.setCall rfl hC (by rw [hnone]; rfl) fun x hx => ?_)
  · rcases hr.wait.wStat _ hm with h1 | h1 <;> rw [hnone] at h1 <;> cases h1
  · rcases hx with h1 | h1 <;> rw [hnone] at h1 <;> cases h1

theorem sinkAt_preOp_opened (v : View) (sid : Nat) (ok : Bool) (j : Nat) :
    sinkAt (preOp v (.opened sid ok)).sinks j =
      if j = sid then (if (sinkAt v.sinks j).opening then { sinkAt v.sinks j with alive := ok } else sinkAt v.sinks j)
      else sinkAt v.sinks j :=
  sinkAt_modify_fix v.sinks sid j rfl

theorem holderOf_preOp (v : View) (op : Op) (j : Nat) : holderOf (preOp v op) j = holderOf v j := by
  cases op with
  | die sid => exact holderOf_closed v sid j
  | opened sid ok => simp only [holderOf_sinkAt, sinkAt_preOp_opened]; split_ifs <;> rfl
  | _ => rfl

theorem openFlag_preOp (v : View) (op : Op) (j : Nat) : openFlag (preOp v op) j = openFlag v j := by
  cases op with
  | die sid => exact openFlag_closed v sid j
  | opened sid ok => simp only [openFlag_sinkAt, sinkAt_preOp_opened]; split_ifs <;> rfl
  | _ => rfl

theorem inv_preOp_opened (hr : Reached cfg s) (sid : Nat) (ok : Bool) :
    Reached cfg { s with base := preOp s.base (.opened sid ok) } := by
  refine hr.of_base (hr.acct.congr (List.length_modify ..) (holderOf_preOp _ _) fun j hj => ?_) (hr.wait.congr rfl)
    (hr.link.congr (holderOf_preOp _ _) (openFlag_preOp _ _) rfl)
  rw [isAlive_sinkAt, sinkAt_preOp_opened] at hj
  split_ifs at hj with h1 h2
  · exact .inr (hr.link.openHeld j (by rw [openFlag_sinkAt]; exact h2))
  · exact .inl (by rw [isAlive_sinkAt]; exact hj)
  · exact .inl (by rw [isAlive_sinkAt]; exact hj)

end events

section consequences
variable {cfg : Cfg} {h : Option Nat} {s : St}

theorem Acct.aliveIds_le {max size : Nat} {v : View} {l : List Nat} (ha : Acct max v size l) :
    (aliveIds v).length ≤ size := by
  have h1 : (aliveIds v).length ≤ (lentIds v ++ l).length :=
    (nodup_ids _ _).length_le_of_subset fun x hx =>
      List.mem_append.2 ((ha.aliveHeld x (mem_aliveIds.1 hx)).imp_left mem_lentIds.2)
  rw [List.length_append, ← ha.size_eq] at h1
  exact h1

theorem Wait.pendingIds_le {w : List Nat} {v : View} (hw : Wait w v) : (pendingIds v).length ≤ w.length :=
  (nodup_ids _ _).length_le_of_subset fun x hx => hw.pendW x (mem_pendingIds.1 hx)

theorem pendingIds_eq_filter (hi : Inv cfg h s) : pendingIds s.view = s.waiters.filter (isPending s.view) :=
  eq_of_sorted_of_mem (sorted_ids _ _) (hi.wSorted.filter _) fun x => by
    rw [mem_pendingIds, List.mem_filter, isPending, beq_iff_eq]
    exact ⟨fun hx => ⟨hi.pendW x hx, hx⟩, And.right⟩

theorem pendingIds_nil_of_waiters_nil (hi : Inv cfg h s) (hw : s.waiters = []) : pendingIds s.view = [] := by
  rw [pendingIds_eq_filter hi, hw]; rfl

/-- the oldest waiting call is the first waiter that still waits (`pendingIds_eq_filter`): the queue in the form in
    which the equation of a hand-off, `run_skips`, takes it -/
theorem Reached.waiters_split {c : Nat} (hr : Reached cfg s) (hold : oldestPending s.base = some c) :
    s.view.calls[c]? = some .pending ∧
    ∃ w1 w2, s.waiters = w1 ++ c :: w2 ∧ ∀ x ∈ w1, s.view.calls[x]? ≠ some .pending := by
  rw [← hr.view, oldestPending, pendingIds_eq_filter hr.inv, List.head?_filter, List.find?_eq_some_iff_append] at hold
  obtain ⟨hp, w1, w2, hw, hgone⟩ := hold
  exact ⟨beq_iff_eq.1 hp, w1, w2, hw, fun x hx => by simpa [isPending] using hgone x hx⟩

end consequences

end Scales.Watermark
