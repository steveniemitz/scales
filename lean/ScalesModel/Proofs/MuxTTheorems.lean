/-
  Proofs/MuxTTheorems.lean — C08, the ThriftMux transport by itself (`St`, `Op`, `comp`): what a race
  leaves behind, and whole histories of `comp`.  Props/C08.lean states the property theorems over the
  transport with its blocked callers (`pcomp`); `race_mid_sequential` is stated there as `C08_mux_*` for `opening = false`.
-/
import ScalesModel.Proofs.MuxTSpecLemmas
namespace Scales.MuxT
open Scales.Transport

theorem inv_reachable (ops : List Op) : Inv (runOps St.init ops) :=
  ⟨inv0_stable.runOps ops _ inv0_init, pending_stable.runOps ops _ rfl⟩

theorem invO_reachable (ops : List Op) : InvO (runOps St.init ops) := invO_stable.runOps ops _ invO_init

/-- while `_OpenImpl` waits for the handshake's Rping the transport is `idle` (`InvO`), so its tag map is
    empty (`Inv0`) and the race hands out nothing (`race_idle`), whatever its reads, event and position -/
theorem race_handshake (s : St) (rs : List (IOOut × Frame)) (pos : Pos) (x : Hit) (hinv : Inv0 s)
    (hO : InvO s) (hop : s.opening = true) (hrl : s.rl ≠ .dead) (hok : hitOk s rs pos x = true) :
    s.race rs pos x = (s.shut [], { eff := { faults := if raceFails rs pos x then 1 else 0 } }) ∧
    (s.shut []).openRes = .failed := by
  obtain ⟨hpend, hidle, _⟩ := hO hop
  exact ⟨race_idle s rs pos x hinv hrl hok (hinv.2 (by simp [hidle])), if_pos hpend⟩

theorem race_answers (s : St) (rs : List (IOOut × Frame)) (pos : Pos) (x : Hit) (hinv : Inv0 s)
    (ht : (s.tagMap.map (·.1)).Nodup) (hi : (s.tagMap.map (·.2)).Nodup) (hrl : s.rl ≠ .dead)
    (hok : hitOk s rs pos x = true) (tag id : Nat) (hin : (tag, id) ∈ s.tagMap) :
    ∃ r, (id, r) ∈ (s.race rs pos x).2.eff.dels ∧ (r = Resp.stream ∨ r = Resp.cerr) := by
  obtain ⟨s1, d, e, F, _⟩ := race_shape s rs pos x hinv hrl hok
  rw [e]
  rcases settle_covers (F.settle ht hi []) (List.mem_map.mpr ⟨(tag, id), hin, rfl⟩) with h1 | h1
  · obtain ⟨p, hp, he⟩ := List.mem_map.mp h1
    exact ⟨.cerr, List.mem_append_right _ (List.mem_map.mpr ⟨p, hp, by rw [he]⟩), Or.inr rfl⟩
  · obtain ⟨p, hp, he⟩ := List.any_eq_true.mp h1
    have he' : p.1 = id := by simpa using he
    exact ⟨p.2, List.mem_append_left _ (he' ▸ hp), Or.inl (F.stream p hp)⟩

theorem race_mid_sequential (s : St) (rs : List (IOOut × Frame)) (x : Hit) (hno : (s.pingWait && s.opening) = false) :
    (s.race rs .mid x).1 = ((s.burst rs).1.hit x).1 ∧
    (s.race rs .mid x).2.eff = effApp (s.burst rs).2.eff ((s.burst rs).1.hit x).2 := by
  have hq : (s.rdMany rs).1.dispatchQ = ((s.rdMany rs).1.dispatch.1, (s.rdMany rs).1.dispatch.2, false) :=
    dispatchQGo_eq_dispatchGo _ _ false (no_wake_drains.rdMany rs s hno)
  simp only [St.race, St.burst, hq, St.resumeIf]
  refine ⟨trivial, ?_⟩
  cases (s.rdMany rs).2
  simp [effApp]

theorem sim : Sim comp id Rel (fun s seen ops => opsOk s seen ops = true) where
  step s a seen op ops hr hok := by
    simp only [opsOk, Bool.and_eq_true] at hok
    exact ⟨step_ok s a seen op hr hok.1, hok.2, fun id h => enabled_fresh s seen op id hok.1 h⟩

/-- `Sim.exactly_once` for `comp`, in the vocabulary of the property theorems -/
theorem comp_exactly_once (pre : List Op) (op : Op) (post : List Op) (h : comp.wf () (pre ++ op :: post) = true)
    (id : Nat) (r : Resp) (hmem : (id, r) ∈ (stepOut (runOps St.init pre) op).2.eff.dels) :
    responsesTo id (comp.modelTrace () (pre ++ op :: post)) = 1 := by
  simpa using sim.exactly_once pre op post rel_init h id r hmem

theorem runOps_append (s : St) (pre post : List Op) :
    runOps s (pre ++ post) = runOps (runOps s pre) post := by
  simp [runOps, List.foldl_append]

/-- `C08_mux_inflight_failed_exactly_once` for the transport without blocked callers (`comp`) -/
theorem inflight_failed_exactly_once (pre : List Op) (op : Op) (post : List Op)
    (h : comp.wf () (pre ++ op :: post) = true)
    (hf : connFailure (runOps St.init pre) op = true) (tag id : Nat)
    (hin : (tag, id) ∈ (runOps St.init pre).tagMap) :
    (id, Resp.cerr) ∈ (stepOut (runOps St.init pre) op).2.eff.dels ∧
    responsesTo id (comp.modelTrace () (pre ++ op :: post)) = 1 := by
  have hmem : (id, Resp.cerr) ∈ (stepOut (runOps St.init pre) op).2.eff.dels := by
    obtain ⟨u, p, c, e⟩ := failure_is_shutdown _ op (inv_reachable pre).1 hf
    rw [e]
    exact List.mem_map.mpr ⟨(tag, id), hin, rfl⟩
  exact ⟨hmem, comp_exactly_once pre op post h id _ hmem⟩

/-- `C08_mux_race_during_handshake_fails_open` for `comp` -/
theorem race_during_handshake_fails_open (ops : List Op) (rs : List (IOOut × Frame)) (pos : Pos)
    (x : Hit) (hop : (runOps St.init ops).opening = true)
    (hrl : (runOps St.init ops).rl ≠ .dead) (hok : hitOk (runOps St.init ops) rs pos x = true) :
    (stepOut (runOps St.init ops) (.race rs pos x)).1.cstate = .closed ∧
    (stepOut (runOps St.init ops) (.race rs pos x)).1.openRes = .failed ∧
    (stepOut (runOps St.init ops) (.race rs pos x)).2.eff.faults = (if raceFails rs pos x then 1 else 0) ∧
    (stepOut (runOps St.init ops) (.race rs pos x)).2.eff.dels = [] ∧
    ∀ id tag, (stepOut (runOps St.init ops) (.race rs pos x)).1.request id tag =
      ((stepOut (runOps St.init ops) (.race rs pos x)).1, { eff := { dels := [(id, .other)] } }) := by
  obtain ⟨e, c2⟩ := race_handshake _ rs pos x (inv_reachable ops).1 (invO_reachable ops) hop hrl hok
  rw [show stepOut (runOps St.init ops) (.race rs pos x) = _ from e]
  exact ⟨rfl, c2, rfl, rfl, fun id tag => request_rejected _ id tag nofun rfl⟩

/-- `C08_mux_race_inflight_answered_exactly_once` for `comp` -/
theorem race_inflight_answered_exactly_once (pre : List Op) (rs : List (IOOut × Frame)) (pos : Pos)
    (x : Hit) (post : List Op) (h : comp.wf () (pre ++ .race rs pos x :: post) = true) (tag id : Nat)
    (hin : (tag, id) ∈ (runOps St.init pre).tagMap) :
    (∃ r, (id, r) ∈ (stepOut (runOps St.init pre) (.race rs pos x)).2.eff.dels ∧
        (r = Resp.stream ∨ r = Resp.cerr)) ∧
    responsesTo id (comp.modelTrace () (pre ++ .race rs pos x :: post)) = 1 := by
  obtain ⟨a, seen, hrel, hok⟩ := sim.split pre (.race rs pos x :: post) St.init {} [] rel_init h
  simp only [opsOk, enabled, Bool.and_eq_true, decide_eq_true_eq] at hok
  obtain ⟨r, hmem, hr⟩ := race_answers _ rs pos x hrel.inv hrel.tags hrel.ids hok.1.1 hok.1.2 tag id hin
  exact ⟨⟨r, hmem, hr⟩, comp_exactly_once pre _ post h id r hmem⟩

end Scales.MuxT
