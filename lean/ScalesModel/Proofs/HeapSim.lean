import ScalesModel.Proofs.HeapFacts

/-! The abstract state `A0` that the specifications rebuild from the history simulates the model
    state (`Sim0`, preserved by every step of `A0.after` against `step`); under `Inv` and the
    simulation every `get` passes `c03Get` and every observation passes `c04Obs`. -/
namespace Scales.Heap

/-- `l` tabulates `f` on `0..n-1` (read with default `d`): the per-node lists of `A0` -/
def Tab (l : List Nat) (d n : Nat) (f : Nat → Nat) : Prop := l.length = n ∧ ∀ id, id < n → l.getD id d = f id

theorem Tab.congr {l : List Nat} {d n : Nat} {f g : Nat → Nat} (h : Tab l d n f) (e : ∀ id, id < n → g id = f id) :
    Tab l d n g :=
  ⟨h.1, fun id hl => (h.2 id hl).trans (e id hl).symm⟩

theorem Tab.append {l : List Nat} {d n : Nat} {f g : Nat → Nat} (h : Tab l d n f) (x : Nat)
    (e : ∀ id, id < n → g id = f id) (ex : g n = x) : Tab (l ++ [x]) d (n + 1) g := by
  refine ⟨by rw [List.length_append, h.1]; rfl, fun id hl => ?_⟩
  rcases Nat.lt_or_eq_of_le (Nat.le_of_lt_succ hl) with e' | e'
  · rw [e id e', ← h.2 id e', List.getD_eq_getElem?_getD, List.getD_eq_getElem?_getD,
      List.getElem?_append_left (h.1.symm ▸ e')]
  · rw [e', ex, List.getD_eq_getElem?_getD, List.getElem?_append_right (Nat.le_of_eq h.1), h.1, Nat.sub_self]
    rfl

theorem Tab.set {l : List Nat} {d n : Nat} {f g : Nat → Nat} (h : Tab l d n f) (i x : Nat)
    (e : ∀ id, id < n → id ≠ i → g id = f id) (ei : i < n → g i = x) : Tab (l.set i x) d n g := by
  refine ⟨by rw [List.length_set, h.1], fun id hl => ?_⟩
  rw [getD_set', h.1]
  by_cases e' : id = i
  · rw [if_pos ⟨e', e' ▸ hl⟩, e', ei (e' ▸ hl)]
  · rw [if_neg fun x => e' x.1, h.2 id hl, e id hl e']

theorem Tab.bump {l : List Nat} {n : Nat} {f g : Nat → Nat} (h : Tab l 0 n f) (i : Nat) (φ : Nat → Nat)
    (e : ∀ id, id < n → id ≠ i → g id = f id) (ei : i < n → g i = φ (f i)) : Tab (bump l i φ) 0 n g :=
  h.set i _ e fun hi => by rw [ei hi, h.2 i hi]

theorem any_eq_and (l : List Nat) (id : Nat) (q : Nat → Bool) :
    l.any (fun x => x == id && q x) = (decide (id ∈ l) && q id) := by
  induction l with
  | nil => simp
  | cons a l ih =>
    rw [List.any_cons, ih]
    by_cases e : a = id
    · subst e; simp
    · have e' : ¬ id = a := fun x => e x.symm
      simp [e, e']

/-- the simulation relation, without the `prev` component (that is `PrevOk`) -/
structure Sim0 (a : A0) (s : HS) : Prop where
  nextId : a.nextId = s.nodes.length
  mem : ∀ id ep, (id, ep) ∈ a.members ↔ (InHeap s id ∧ (s.node id).ep = ep)
  out : Tab a.out 0 s.nodes.length (outOf s)
  chan : Tab a.chan 4 s.nodes.length fun id => (s.node id).chan
  reqs : a.reqs = s.reqs
  wc : Tab a.wantClosed 0 s.nodes.length fun id => (s.node id).closed

/-- the previous observation tells which nodes are marked down -/
def PrevOk (a : A0) (s : HS) : Prop :=
  ∀ id, id < s.nodes.length → ∃ p, a.prev = some p ∧ penalisedIn p id = decide ((s.node id).load ≥ 0)

theorem Sim0.setPrev {a : A0} {s : HS} (h : Sim0 a s) (o : Option Obs) : Sim0 { a with prev := o } s :=
  ⟨h.nextId, h.mem, h.out, h.chan, h.reqs, h.wc⟩

theorem Sim0.outOf_eq {a : A0} {s : HS} (h : Sim0 a s) {id : Nat} (hl : id < s.nodes.length) : a.outOf id = outOf s id :=
  h.out.2 id hl

theorem Sim0.chanOf_eq {a : A0} {s : HS} (h : Sim0 a s) {id : Nat} (hl : id < s.nodes.length) :
    a.chanOf id = (s.node id).chan :=
  h.chan.2 id hl

theorem Sim0.isMember {a : A0} {s : HS} (h : Sim0 a s) (id : Nat) : a.isMember id = true ↔ InHeap s id := by
  unfold A0.isMember
  rw [List.any_eq_true]
  constructor
  · rintro ⟨⟨i, e⟩, hm, he⟩
    rw [← beq_iff_eq.mp he]
    exact ((h.mem i e).mp hm).1
  · intro hi
    exact ⟨(id, (s.node id).ep), (h.mem _ _).mpr ⟨hi, rfl⟩, beq_self_eq_true _⟩

theorem Sim0.mem_ep {a : A0} {s : HS} (h : Sim0 a s) (ep : Nat) (x : Nat × Nat) :
    (x ∈ a.members ∧ (x.2 == ep) = true) ↔ (InHeap s x.1 ∧ (s.node x.1).ep = ep ∧ x.2 = ep) := by
  obtain ⟨i, e⟩ := x
  rw [h.mem, beq_iff_eq]
  exact ⟨fun ⟨⟨a, b⟩, c⟩ => ⟨a, b.trans c, c⟩, fun ⟨a, b, c⟩ => ⟨⟨a, b.trans c.symm⟩, c⟩⟩

theorem penalisedIn_obsOf (s : HS) (res : Option GetRes) (id : Nat) (hl : id < s.nodes.length) :
    penalisedIn (obsOf s res) id = decide ((s.node id).load ≥ 0) := by
  unfold penalisedIn obsOf
  simp only [List.any_append, List.any_map]
  have h1 : ∀ l : List Nat, l.any ((fun v => v.id == id && decide (v.load ≥ 0)) ∘ viewOf s) =
      (decide (id ∈ l) && decide ((s.node id).load ≥ 0)) := by
    intro l
    exact any_eq_and l id (fun x => decide ((s.node x).load ≥ 0))
  rw [h1, h1]
  by_cases hm : id ∈ s.heap
  · simp [hm]
  · simp [hl, hm]

theorem view_mem (s : HS) (hw : WF s) (res : Option GetRes) (v : NodeView)
    (hv : v ∈ (obsOf s res).heap ++ (obsOf s res).off) : ∃ id, id < s.nodes.length ∧ v = viewOf s id := by
  unfold obsOf at hv
  simp only [List.mem_append, List.mem_map, List.mem_filter, List.mem_range] at hv
  rcases hv with ⟨id, hm, rfl⟩ | ⟨id, ⟨hl, _⟩, rfl⟩
  · exact ⟨id, inHeap_lt s hw id ((mem_heap_iff s id).mp hm), rfl⟩
  · exact ⟨id, hl, rfl⟩

theorem c04_ok (a : A0) (s : HS) (h : Inv s) (hs : Sim0 a s) (idx : Nat) (res : Option GetRes) :
    c04Obs a idx (obsOf s res) = .ok := by
  unfold c04Obs
  have h1 : ((obsOf s res).heap ++ (obsOf s res).off).all
      (fun v => decide (relLoad v = (a.outOf v.id : Int)) && decide (v.load ≥ Idle)) = true := by
    rw [List.all_eq_true]
    intro v hv
    obtain ⟨id, hl, rfl⟩ := view_mem s h.wf res v hv
    obtain ⟨a1, a2, a3, a4⟩ := h.book.pen_iff id hl
    rw [Bool.and_eq_true, decide_eq_true_eq, decide_eq_true_eq]
    refine ⟨?_, a3⟩
    show (if (s.node id).load ≥ 0 then (s.node id).load else (s.node id).load - Idle) = (a.outOf id : Int)
    rw [hs.outOf_eq hl]
    split
    · rename_i hp; exact a1.mp hp
    · rename_i hp; rw [a2.mp (Int.not_le.1 hp)]; exact add_sub_cancel_left _ _
  have h2 : ((obsOf s res).heap ++ (obsOf s res).off).all
      (fun v => v.closed == a.wantClosed.getD v.id 0) = true := by
    rw [List.all_eq_true]
    intro v hv
    obtain ⟨id, hl, rfl⟩ := view_mem s h.wf res v hv
    show ((s.node id).closed == a.wantClosed.getD id 0) = true
    rw [hs.wc.2 id hl]
    exact beq_self_eq_true _
  simp only [h1, h2]
  rfl

theorem c03Get_node (a : A0) (idx id ep r : Nat) (hne : a.members.isEmpty = false) (hm : a.isMember id = true)
    (hopen : a.openMembers.isEmpty = false →
      a.chanOf id = chOpen ∧ ∀ m ∈ a.openMembers, a.outOf id ≤ a.outOf m) :
    c03Get a idx (some (.node id ep r)) = .ok := by
  unfold c03Get
  simp only [hne, hm, Bool.false_eq_true, if_false, Bool.not_true]
  cases ho : a.openMembers.isEmpty with
  | true => rfl
  | false =>
    obtain ⟨h1, h2⟩ := hopen ho
    have hall : a.openMembers.all (fun m => decide (a.outOf id ≤ a.outOf m)) = true :=
      List.all_eq_true.mpr fun m hm => decide_eq_true (h2 m hm)
    simp only [h1, hall, bne_self_eq_false, Bool.false_eq_true, if_false, if_true]

theorem c03_ok {a : A0} {s s' : HS} {res : Option GetRes} (e : Eff s .get s' res) (h : Inv s) (hs : Sim0 a s)
    (idx : Nat) : c03Get a idx res = .ok := by
  cases e with
  | getNone hsz =>
    have : a.members = [] := by
      rw [List.eq_nil_iff_forall_not_mem]
      rintro ⟨id, ep⟩ hm
      exact Nat.ne_of_gt ((hs.mem id ep).mp hm).1.size_pos hsz
    simp [c03Get, this]
  | getNode gf =>
    rename_i nid
    have hin := gf.member
    have hl := inHeap_lt s h.wf nid hin
    have hopen : ∀ m, m ∈ a.openMembers → InHeap s m ∧ (s.node m).chan = chOpen := by
      intro m hm
      unfold A0.openMembers at hm
      simp only [List.mem_filter, List.mem_map, beq_iff_eq] at hm
      obtain ⟨⟨⟨i, e⟩, hme, rfl⟩, hc⟩ := hm
      have hi := ((hs.mem i e).mp hme).1
      exact ⟨hi, (hs.chanOf_eq (inHeap_lt s h.wf i hi)).symm.trans hc⟩
    refine c03Get_node a idx nid _ _ ?_ ((hs.isMember nid).mpr hin) fun ho => ?_
    · exact List.isEmpty_eq_false_iff_exists_mem.mpr ⟨_, (hs.mem nid _).mpr ⟨hin, rfl⟩⟩
    · obtain ⟨m, hm⟩ := List.isEmpty_eq_false_iff_exists_mem.mp ho
      obtain ⟨c1, c2⟩ := gf.least ⟨m, hopen m hm⟩
      refine ⟨(hs.chanOf_eq hl).trans c1, fun m' hm' => ?_⟩
      obtain ⟨x1, x2⟩ := hopen m' hm'
      rw [hs.outOf_eq hl, hs.outOf_eq (inHeap_lt s h.wf m' x1)]
      exact c2 m' x1 x2

theorem any_ep_iff {a : A0} {s : HS} (h : Inv s) (hs : Sim0 a s) (ep : Nat) :
    a.members.any (·.2 == ep) = true ↔ ep ∈ s.servers := by
  rw [List.any_eq_true, h.srv ep]
  constructor
  · rintro ⟨x, hx⟩
    exact ⟨x.1, ((hs.mem_ep ep x).mp hx).1, ((hs.mem_ep ep x).mp hx).2.1⟩
  · rintro ⟨id, hi, he⟩
    exact ⟨(id, ep), (hs.mem_ep ep (id, ep)).mpr ⟨hi, he, rfl⟩⟩

theorem sim_join {a : A0} {s s' : HS} {ep : Nat} {res : Option GetRes} (e : Eff s (.join ep) s' res) (h : Inv s)
    (hs : Sim0 a s) (o : Obs) : Sim0 (a.after (.join ep) o) s' := by
  unfold A0.after
  dsimp only
  cases e with
  | joinOld hin => rw [if_pos ((any_ep_iff h hs ep).mpr hin)]; exact hs.setPrev _
  | joinNew hin f =>
    rw [if_neg fun x => hin ((any_ep_iff h hs ep).mp x)]
    obtain ⟨f1, f2, f3, f4, f5⟩ := f
    refine ⟨by rw [f1, ← hs.nextId], fun id e => ?_, ?_, ?_, by rw [f2]; exact hs.reqs, ?_⟩
    · show (id, e) ∈ a.members ++ [(a.nextId, ep)] ↔ _
      rw [List.mem_append, hs.mem, f3, hs.nextId, List.mem_singleton, Prod.mk.injEq]
      constructor
      · rintro (⟨x1, x2⟩ | ⟨x1, x2⟩)
        · exact ⟨Or.inl x1, (f4 id (inHeap_lt s h.wf id x1)).2.1.trans x2⟩
        · rw [x1]; exact ⟨Or.inr rfl, f5.2.1.trans x2.symm⟩
      · rintro ⟨x1 | x1, x2⟩
        · exact Or.inl ⟨x1, (f4 id (inHeap_lt s h.wf id x1)).2.1.symm.trans x2⟩
        · rw [x1] at x2; exact Or.inr ⟨x1, x2.symm.trans f5.2.1⟩
    · rw [f1]
      refine hs.out.append 0 (fun id _ => outOf_congr f2 id) ?_
      rw [outOf_congr f2]
      exact outL_zero _ _ fun r hr => Nat.ne_of_lt (h.book.reqsOk r hr)
    · rw [f1]
      exact hs.chan.append 1 (fun id hl => (f4 id hl).2.2.1) f5.2.2.1
    · rw [f1]
      exact hs.wc.append 0 (fun id hl => (f4 id hl).2.2.2) f5.2.2.2

theorem sim_leave {a : A0} {s s' : HS} {ep : Nat} {res : Option GetRes} (e : Eff s (.leave ep) s' res) (h : Inv s)
    (hs : Sim0 a s) (hp : PrevOk a s) (o : Obs) : Sim0 (a.after (.leave ep) o) s' := by
  unfold A0.after
  dsimp only
  cases e with
  | leaveNone hf =>
    have : a.members.find? (·.2 == ep) = none := by
      rw [List.find?_eq_none]
      intro x hm he
      obtain ⟨x1, x2, _⟩ := (hs.mem_ep ep x).mp ⟨hm, he⟩
      exact findByEp_none s ep hf x.1 x1 x2
    rw [this]
    exact ⟨hs.nextId, hs.mem, hs.out, hs.chan, hs.reqs, hs.wc⟩
  | leaveSome hf lf =>
    rename_i nid
    obtain ⟨hin, hep⟩ := findByEp_some s ep nid hf
    obtain ⟨f1, f2, f3, f4⟩ := lf
    have hl := inHeap_lt s h.wf nid hin
    have hfa : ∃ e, a.members.find? (·.2 == ep) = some (nid, e) := by
      cases hfm : a.members.find? (·.2 == ep) with
      | none =>
        rw [List.find?_eq_none] at hfm
        exact absurd (beq_self_eq_true ep) (hfm (nid, ep) ((hs.mem nid ep).mpr ⟨hin, hep⟩))
      | some x =>
        obtain ⟨x1, x2, _⟩ := (hs.mem_ep ep x).mp ⟨List.mem_of_find?_eq_some hfm, List.find?_some (p := fun x : Nat × Nat => x.2 == ep) hfm⟩
        exact ⟨x.2, by rw [← h.book.epsInj x.1 nid x1 hin (x2.trans hep.symm)]⟩
    obtain ⟨e0, hfa⟩ := hfa
    rw [hfa]
    dsimp only
    -- the close decision agrees
    obtain ⟨p, hp1, hp2⟩ := hp nid hl
    rw [hp1]
    dsimp only
    have hnow : (a.outOf nid == 0 || penalisedIn p nid) = decide ((s.node nid).load = Idle ∨ (s.node nid).load ≥ 0) := by
      rw [hp2, hs.outOf_eq hl, Bool.eq_iff_iff, Bool.or_eq_true, beq_iff_eq, decide_eq_true_eq, decide_eq_true_eq]
      exact (h.book.idle_iff nid hl).symm
    rw [hnow]
    have hc0 : (s.node nid).closed = 0 := h.book.closedIn nid hin
    refine ⟨by rw [f1]; exact hs.nextId, fun id e => ?_, ?_, ?_, by rw [f2]; exact hs.reqs, ?_⟩
    · show (id, e) ∈ a.members.filter (·.2 != ep) ↔ _
      rw [List.mem_filter, hs.mem, f3, (f4 id).2.1, bne_iff_ne]
      constructor
      · rintro ⟨⟨x1, x2⟩, x3⟩
        exact ⟨⟨x1, fun e' => x3 (by rw [← x2, e', hep])⟩, x2⟩
      · rintro ⟨⟨x1, x2⟩, x3⟩
        exact ⟨⟨x1, x3⟩, fun e' => x2 (h.book.epsInj id nid x1 hin ((x3.trans e').trans hep.symm))⟩
    · rw [f1]; exact hs.out.congr fun id _ => outOf_congr f2 id
    · rw [f1]; exact hs.chan.congr fun id _ => (f4 id).2.2.1
    · rw [f1]
      by_cases hc : (s.node nid).load = Idle ∨ (s.node nid).load ≥ 0
      · rw [if_pos (decide_eq_true hc)]
        refine hs.wc.bump nid (· + 1) (fun id _ e' => by rw [(f4 id).2.2.2, if_neg e']) fun _ => ?_
        rw [(f4 nid).2.2.2, if_pos rfl, if_pos hc, hc0]
      · rw [if_neg fun x => hc (of_decide_eq_true x)]
        refine hs.wc.congr fun id _ => ?_
        rw [(f4 id).2.2.2]
        by_cases e' : id = nid
        · rw [if_pos e', if_neg hc, e', hc0]
        · rw [if_neg e']

theorem sim_get {a : A0} {s s' : HS} {res : Option GetRes} (e : Eff s .get s' res) (hs : Sim0 a s) (o : Obs)
    (ho : o.res = res) : Sim0 (a.after .get o) s' := by
  unfold A0.after
  dsimp only
  rw [ho]
  cases e with
  | getNone _ => exact hs.setPrev _
  | getNode gf =>
    rename_i nid
    obtain ⟨hin, f1, f2, f3, f4, _⟩ := gf
    have hout : ∀ id, outOf s' id = outOf s id + (if nid = id then 1 else 0) := by
      intro id; unfold outOf; rw [f1]; exact outL_append s.reqs nid id
    refine ⟨by rw [f2]; exact hs.nextId, fun id e => by rw [f3, (f4 id).1]; exact hs.mem id e, ?_, ?_, ?_, ?_⟩
    · rw [f2]
      exact hs.out.bump nid (· + 1) (fun id _ e' => by rw [hout, if_neg fun x => e' x.symm]; rfl)
        fun _ => by rw [hout, if_pos rfl]
    · rw [f2]; exact hs.chan.congr fun id _ => (f4 id).2.1
    · show a.reqs ++ [(nid, false)] = _; rw [f1, hs.reqs]
    · rw [f2]; exact hs.wc.congr fun id _ => (f4 id).2.2

/-- `A0.after` closes a channel at a completion iff `__Put` does: the node has left the heap and this
    completion empties it -/
theorem drain_iff (s : HS) (h : Inv s) (nid : Nat) (hl : nid < s.nodes.length) (hpos : 1 ≤ outOf s nid) :
    (¬ InHeap s nid ∧ outOf s nid - 1 = 0 ∧ (s.node nid).closed = 0) ↔
      ((s.node nid).index < 0 ∧ (s.node nid).load - 1 = Idle) := by
  have hlt := h.book.out_lt nid
  have hacc := h.book.acct nid hl
  by_cases hi : InHeap s nid
  · have := index_of_inHeap s h.wf nid hi
    exact ⟨fun x => absurd hi x.1, fun x => absurd x.1 (Int.not_lt.2 (Int.le_trans (by decide) this))⟩
  · have hidx := h.wf.off nid hl hi
    have hco := h.book.closedOff nid hl hi
    rw [and_iff_right hi, hidx, and_iff_right (show (-1 : Int) < 0 by decide)]
    unfold Idle Penalty at *
    -- closed already iff marked down (a dispatch is outstanding); healthy: drained iff this was the last one
    by_cases hc : outOf s nid = 0 ∨ (s.node nid).load ≥ 0
    · rw [if_pos hc] at hco; omega
    · rw [if_neg hc] at hco; omega

theorem sim_put {a : A0} {s s' : HS} {r j : Nat} {res : Option GetRes} (e : Eff s (.put r j) s' res) (h : Inv s)
    (hs : Sim0 a s) (o : Obs) : Sim0 (a.after (.put r j) o) s' := by
  unfold A0.after
  dsimp only
  rw [hs.reqs]
  cases e with
  | putNoop hno =>
    split
    · rename_i id hreq; exact absurd hreq (hno id)
    · exact hs.setPrev _
  | putNode hreq pe =>
    rename_i nid
    rw [hreq]
    dsimp only
    have hl : nid < s.nodes.length := h.book.reqsOk _ (List.mem_of_getElem? hreq)
    have hout := pe.outOf hreq
    have hout1 : outOf s' nid + 1 = outOf s nid := by have := hout nid; rwa [if_pos rfl] at this
    -- the drain decision agrees
    have hdr : (!a.isMember nid && (bump a.out nid (· - 1)).getD nid 0 == 0 && a.wantClosed.getD nid 0 == 0) =
        decide ((s.node nid).index < 0 ∧ (s.node nid).load - 1 = Idle) := by
      unfold bump
      rw [getD_set', hs.out.1, if_pos ⟨rfl, hl⟩, hs.out.2 nid hl, hs.wc.2 nid hl, Bool.eq_iff_iff, Bool.and_eq_true,
        Bool.and_eq_true, Bool.not_eq_true', beq_iff_eq, beq_iff_eq, decide_eq_true_eq,
        ← drain_iff s h nid hl (by omega), and_assoc]
      refine and_congr_left' ⟨fun x hi => ?_, fun x => ?_⟩
      · rw [(hs.isMember nid).mpr hi] at x; exact Bool.noConfusion x
      · cases hx : a.isMember nid with
        | false => rfl
        | true => exact absurd ((hs.isMember nid).mp hx) x
    rw [hdr]
    refine ⟨by rw [pe.len]; exact hs.nextId, fun id e => by rw [pe.inHeap, (pe.fields id).1]; exact hs.mem id e, ?_, ?_,
      pe.reqs.symm, ?_⟩
    · rw [pe.len]
      refine hs.out.bump nid (· - 1) (fun id _ e' => ?_) fun _ => ?_
      · have := hout id
        rwa [if_neg fun x => e' x.symm] at this
      · exact Nat.eq_sub_of_add_eq hout1
    · rw [pe.len]; exact hs.chan.congr fun id _ => (pe.fields id).2
    · rw [pe.len]
      by_cases hc : (s.node nid).index < 0 ∧ (s.node nid).load - 1 = Idle
      · rw [if_pos (decide_eq_true hc)]
        exact hs.wc.bump nid (· + 1) (fun id _ e' => by rw [pe.closed id, if_neg fun x => e' x.1]; rfl)
          fun _ => by rw [pe.closed nid, if_pos ⟨rfl, hc⟩]
      · rw [if_neg fun x => hc (of_decide_eq_true x)]
        exact hs.wc.congr fun id _ => by rw [pe.closed id, if_neg fun x => hc x.2]; rfl

theorem sim_chan {a : A0} {s s' : HS} {nid st : Nat} {res : Option GetRes} (e : Eff s (.chan nid st) s' res)
    (hs : Sim0 a s) (o : Obs) : Sim0 (a.after (.chan nid st) o) s' := by
  cases e with
  | chan f hc =>
    refine ⟨by rw [f.len]; exact hs.nextId, fun id e => by rw [f.inHeap, (f.fields id).2.1]; exact hs.mem id e, ?_, ?_,
      by rw [f.reqs]; exact hs.reqs, ?_⟩
    · rw [f.len]; exact hs.out.congr fun id _ => outOf_congr f.reqs id
    · rw [f.len]
      exact hs.chan.set nid st (fun id _ e' => by rw [hc id, if_neg fun x => e' x.1])
        fun hl => by rw [hc nid, if_pos ⟨rfl, hl⟩]
    · rw [f.len]; exact hs.wc.congr fun id _ => (f.fields id).2.2

end Scales.Heap
