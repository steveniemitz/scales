import ScalesModel.Proofs.HeapGet
import ScalesModel.Proofs.HeapPut
import ScalesModel.Proofs.HeapChans

/-! Field-level descriptions of what each operation changes (what the abstract state `A0` of the
    specification tracks), the choice made by `get`, and the relation `Eff` that collects them: the modules
    above this one reason about `Eff`, not about the functions of the model. -/
namespace Scales.Heap

theorem opOk_put (s : HS) (r j : Nat) (h : opsOk s [.put r j] = true) :
    ∀ nid, s.reqs[r]? = some (nid, false) → s.putDraws nid = true → 1 ≤ j ∧ j ≤ s.size := by
  intro nid hr hd
  simp only [opsOk, hr, hd, if_true, decide_eq_true_eq, Bool.and_true] at h
  exact h

def opGets : Op → Nat
  | .get => 1
  | _ => 0

theorem put_some (s : HS) (h : HInv s) (r j nid : Nat) (hreq : s.reqs[r]? = some (nid, false))
    (hj : s.putDraws nid = true → 1 ≤ j ∧ j ≤ s.size) : PutEff s (s.put r j) r nid := by
  unfold HS.put
  rw [hreq]
  exact (putNode_spec s h r nid j hreq hj).2.toPutEff

/-- `s'` is the outcome of a dispatch from `s` that went to node `nid` -/
structure GetFacts (s s' : HS) (nid : Nat) : Prop where
  member : InHeap s nid
  reqs : s'.reqs = s.reqs ++ [(nid, false)]
  len : s'.nodes.length = s.nodes.length
  inHeap : ∀ id, InHeap s' id ↔ InHeap s id
  fields : ∀ id, (s'.node id).ep = (s.node id).ep ∧ (s'.node id).chan = (s.node id).chan ∧
    (s'.node id).closed = (s.node id).closed
  least : (∃ m, InHeap s m ∧ (s.node m).chan = chOpen) →
    (s.node nid).chan = chOpen ∧ ∀ m, InHeap s m → (s.node m).chan = chOpen → outOf s nid ≤ outOf s m
  /-- the down list is as `__Get`'s last scan left it -/
  scanned : ∀ id ∈ s'.down, (s'.node id).chan ≠ chOpen

/-- what operation `op` does from `s`, in terms of the fields the specifications can see: the state `s'` it
    leads to and the answer `res` of a dispatch.  One row per branch of the interface of heap.py / base.py. -/
inductive Eff (s : HS) : Op → HS → Option GetRes → Prop
  | joinOld {ep : Nat} : ep ∈ s.servers → Eff s (.join ep) s none
  | joinNew {ep : Nat} {s' : HS} : ep ∉ s.servers → JoinFacts s s' ep → Eff s (.join ep) s' none
  | leaveNone {ep : Nat} : s.findByEp ep = none → Eff s (.leave ep) { s with servers := s.servers.filter (· ≠ ep) } none
  | leaveSome {ep nid : Nat} {s' : HS} : s.findByEp ep = some nid → LeaveFacts s s' nid → Eff s (.leave ep) s' none
  | getNone : s.size = 0 → Eff s .get s (some .noMembers)
  | getNode {nid : Nat} {s' : HS} : GetFacts s s' nid → Eff s .get s' (some (.node nid (s.node nid).ep s.reqs.length))
  | putNoop {r j : Nat} : (∀ nid, s.reqs[r]? ≠ some (nid, false)) → Eff s (.put r j) s none
  | putNode {r j nid : Nat} {s' : HS} : s.reqs[r]? = some (nid, false) → PutEff s s' r nid → Eff s (.put r j) s' none
  | chan {nid st : Nat} {s' : HS} : FrameW s s' →
      (∀ id, (s'.node id).chan = if id = nid ∧ nid < s.nodes.length then st else (s.node id).chan) →
      Eff s (.chan nid st) s' none

/-- the root after the last scan is a least-loaded Open member, if any member is Open (`choice_ok`); the booking
    changes its load, the arrangement and the dispatch records only -/
theorem get_eff (s : HS) (h : HInv s) : Eff s .get (s.get noHook).1 (some (s.get noHook).2) := by
  by_cases hsz : s.size = 0
  · rw [get_empty s hsz]; exact .getNone hsz
  obtain ⟨s1, nid, gk, hin1, heq⟩ := get_spec s h hsz
  obtain ⟨_, _, hch⟩ := choice_ok h.wf ⟨gk.hinv, .of_G gk.frame, gk.top, gk.ok, gk.scanned⟩ (Nat.pos_of_ne_zero hsz)
  obtain ⟨s3, g3, hd, _, _, _, e3⟩ := dispatch_frame s1 gk.hinv.wf nid hin1
  have g := gk.frame.trans g3
  rw [heq, e3, gk.frame.reqs, (gk.frame.fields nid).1]
  exact .getNode ⟨(gk.frame.inHeap nid).mp hin1, rfl,
    g.len, g.inHeap, g.fields, fun hm => (hch hm).2,
    fun id hm => by
      show (s3.node id).chan ≠ chOpen
      rw [(g3.fields id).2.1]; exact gk.scanned id (hd ▸ hm)⟩

theorem step_eff (s : HS) (op : Op) (h : Inv s) (hok : opsOk s [op] = true) (hb : s.reqs.length + opGets op < maxReqs) :
    ∃ res, (step () s op).2 = obsOf (step () s op).1 res ∧ Eff s op (step () s op).1 res ∧ Inv (step () s op).1 := by
  cases op with
  | join ep =>
    refine ⟨none, rfl, ?_, Inv_join s h ep⟩
    show Eff s (.join ep) (s.join ep) none
    by_cases hin : ep ∈ s.servers
    · rw [join_old s ep hin]; exact .joinOld hin
    · exact .joinNew hin (join_new s h ep hin).2
  | leave ep =>
    refine ⟨none, rfl, ?_, Inv_leave s h ep⟩
    show Eff s (.leave ep) (s.leave ep) none
    cases hf : s.findByEp ep with
    | none => rw [leave_none s ep hf]; exact .leaveNone hf
    | some nid => exact .leaveSome hf (leave_some s h ep nid hf).2
  | get => exact ⟨_, rfl, get_eff s (.of_inv h), Inv_get s h hb⟩
  | put r j =>
    refine ⟨none, rfl, ?_, Inv_put s h r j (opOk_put s r j hok)⟩
    show Eff s (.put r j) (s.put r j) none
    by_cases hreq : ∃ nid, s.reqs[r]? = some (nid, false)
    · obtain ⟨nid, hreq⟩ := hreq
      exact .putNode hreq (put_some s (.of_inv h) r j nid hreq (opOk_put s r j hok nid hreq))
    · have hno := fun nid e => hreq ⟨nid, e⟩
      unfold HS.put
      split
      · exact .putNoop hno
      · exact .putNoop hno
      · rename_i nid e; exact absurd e (hno nid)
  | chan nid st =>
    exact ⟨none, rfl, .chan (setChan_frameW s nid st).1 (setChan_frameW s nid st).2.2.2, Inv_setChan s h nid st⟩

theorem Eff.mono {s s' : HS} {op : Op} {res : Option GetRes} (e : Eff s op s' res) :
    s'.reqs.length ≤ s.reqs.length + opGets op ∧ s.nodes.length ≤ s'.nodes.length ∧
    ∀ id, id < s.nodes.length → InHeap s' id → InHeap s id := by
  cases e with
  | joinOld _ => exact ⟨Nat.le_refl _, Nat.le_refl _, fun _ _ x => x⟩
  | joinNew _ f =>
    rw [f.len, f.reqs]
    exact ⟨Nat.le_refl _, Nat.le_succ _, fun id hl x => ((f.inHeap id).mp x).resolve_right (Nat.ne_of_lt hl)⟩
  | leaveNone _ => exact ⟨Nat.le_refl _, Nat.le_refl _, fun _ _ x => x⟩
  | leaveSome _ lf => rw [lf.len, lf.reqs]; exact ⟨Nat.le_refl _, Nat.le_refl _, fun id _ x => ((lf.inHeap id).mp x).1⟩
  | getNone _ => exact ⟨Nat.le_add_right _ _, Nat.le_refl _, fun _ _ x => x⟩
  | getNode gf =>
    rw [gf.reqs, gf.len, List.length_append]
    exact ⟨Nat.le_refl _, Nat.le_refl _, fun id _ => (gf.inHeap id).mp⟩
  | putNoop _ => exact ⟨Nat.le_refl _, Nat.le_refl _, fun _ _ x => x⟩
  | putNode _ pe =>
    rw [pe.reqs, pe.len, List.length_set]
    exact ⟨Nat.le_refl _, Nat.le_refl _, fun id _ => (pe.inHeap id).mp⟩
  | chan cf _ => rw [cf.len, cf.reqs]; exact ⟨Nat.le_refl _, Nat.le_refl _, fun id _ => (cf.inHeap id).mp⟩

end Scales.Heap
