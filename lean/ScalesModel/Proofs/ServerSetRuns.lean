/-
  Proofs/ServerSetRuns.lean — C19: from single operations to operation lists.  `exec` skips an
  operation that is not enabled and `specTree` one that is not legal, so the invariant, the fit of the
  notifications and the tree the history built do not need the operations to be enabled (`step_or_skip`,
  `history_view`, `history_member_view`).  The executable specification `specGo` goes through an
  observation whose notifications fit and whose quiet clauses hold (`specGo_cons_ok`); the model's
  history is such a trace (`spec_trace`).
-/
import ScalesModel.Proofs.ServerSetKeys
namespace Scales.ServerSet

theorem exec_append (cfg : Cfg) (a b : List Op) (s : St) :
    exec cfg s (a ++ b) =
      ((exec cfg (exec cfg s a).1 b).1, (exec cfg s a).2 ++ (exec cfg (exec cfg s a).1 b).2) := by
  fun_induction exec cfg s a with
  | case1 s => rfl
  | case2 s op ops s' ns hn r ih => simp only [List.cons_append, exec, hn, r, ih, List.append_assoc]
  | case3 s op ops hn ih => simp only [List.cons_append, exec, hn, ih]

theorem wfGo_append (cfg : Cfg) (a b : List Op) (s : St) :
    wfGo cfg s (a ++ b) = (wfGo cfg s a && wfGo cfg (exec cfg s a).1 b) := by
  fun_induction wfGo cfg s a with
  | case1 s => rfl
  | case2 s op ops s' ns hn ih => simp only [List.cons_append, wfGo, exec, hn, ih]
  | case3 s op ops hn => simp only [List.cons_append, wfGo, hn, Bool.false_and]

theorem specTree_of_none {cfg : Cfg} {s : St} {op : Op} (hn : next cfg s op = none) :
    specTree s.tree op = s.tree := by
  cases op with
  | tree o =>
    by_cases hl : s.tree.legal o = true
    · cases (if_pos hl).symm.trans hn
    · exact if_neg hl
  | _ => rfl

/-- `op`, issued in `s`, leaves the state `s'` and delivers `ns` — whether it was enabled or skipped -/
structure Ran (cfg : Cfg) (s : St) (op : Op) (s' : St) (ns : List Note) : Prop where
  exec : ∀ ops, exec cfg s (op :: ops) = ((exec cfg s' ops).1, ns ++ (exec cfg s' ops).2)
  inv : Inv cfg s'
  tree : s'.tree = specTree s.tree op
  fits : Fits s.members ns s'.members
  fitsK : ∀ k, KInv k s → KD k (s.tree.kids.filter cfg.memberOk) →
    KInv k s' ∧ FitsK k s.members ns s'.members

theorem step_or_skip {cfg : Cfg} {s : St} (hi : Inv cfg s) (op : Op) : ∃ s' ns bad,
    step cfg s op = (s', obsOf cfg bad ns s') ∧ Ran cfg s op s' ns := by
  cases hn : next cfg s op with
  | none =>
    exact ⟨s, [], true, by rw [step, hn], fun ops => by rw [exec, hn]; rfl, hi,
      (specTree_of_none hn).symm, Fits.nil _, fun k hk _ => ⟨hk, FitsK.nil k rfl⟩⟩
  | some p =>
    obtain ⟨hinv, ht, hf⟩ := next_inv hi hn
    exact ⟨p.1, p.2, false, by rw [step, hn], fun ops => by rw [exec, hn], hinv, ht, hf,
      fun k hk hd => next_fits hk hd hn⟩

theorem distinctB_iff (l : List Nat) : distinctB l = true ↔ l.Nodup := by
  induction l with
  | nil => simp [distinctB]
  | cons x xs ih => simp [distinctB, ih, List.nodup_cons]

theorem keyDistinct_KD {cfg : Cfg} {t : Tree} (h : keyDistinct cfg t = true) :
    KD cfg.keyOf (t.kids.filter cfg.memberOk) :=
  (distinctB_iff _).mp h

theorem sameSet_of_iff {a b : List Nat} (h : ∀ n, n ∈ a ↔ n ∈ b) : sameSet a b = true := by
  simp only [sameSet, Bool.and_eq_true, List.all_eq_true, List.contains_iff_mem]
  exact ⟨fun x hx => (h x).mp hx, fun x hx => (h x).mpr hx⟩

theorem mem_map_iff {k : Nat → Nat} {a b : List Nat} (h : ∀ n, n ∈ a ↔ n ∈ b) (m : Nat) :
    m ∈ a.map k ↔ m ∈ b.map k := by
  simp only [List.mem_map, h]

theorem exec_run {cfg : Cfg} (ops : List Op) : ∀ (s : St), Inv cfg s →
    Inv cfg (exec cfg s ops).1 ∧ Fits s.members (exec cfg s ops).2 (exec cfg s ops).1.members ∧
    (exec cfg s ops).1.tree = ops.foldl specTree s.tree ∧
    (KInv cfg.keyOf s → keyDistinct cfg s.tree = true → distinctAlong cfg s.tree ops = true →
      KInv cfg.keyOf (exec cfg s ops).1 ∧
      FitsK cfg.keyOf s.members (exec cfg s ops).2 (exec cfg s ops).1.members) := by
  induction ops with
  | nil => exact fun s hi => ⟨hi, Fits.nil _, rfl, fun hk _ _ => ⟨hk, FitsK.nil _ rfl⟩⟩
  | cons op ops ih =>
    intro s hi
    obtain ⟨s', ns, _, _, r⟩ := step_or_skip hi op
    obtain ⟨i1, i2, i3, i4⟩ := ih s' r.inv
    rw [r.exec, List.foldl_cons, distinctAlong, Bool.and_eq_true, ← r.tree]
    refine ⟨i1, r.fits.append i2, i3, fun hk hd hda => ?_⟩
    obtain ⟨k1, k2⟩ := r.fitsK _ hk (keyDistinct_KD hd)
    obtain ⟨j1, j2⟩ := i4 k1 hda.1 hda.2
    exact ⟨j1, k2.append j2⟩

/-- For every operation list — not only those whose operations are all enabled: the notifications
    fit a consumer that starts with nothing and leave it holding `_members`; the model's tree is the
    one the history built; whenever nothing is on its way the consumer holds exactly the members
    present. -/
theorem history_view (cfg : Cfg) (ops : List Op) :
    Inv cfg (exec cfg St.init ops).1 ∧
    Fits [] (exec cfg St.init ops).2 (exec cfg St.init ops).1.members ∧
    (exec cfg St.init ops).1.tree = ops.foldl specTree Tree.init ∧
    ((exec cfg St.init ops).1.quiet = true →
      ∀ n, n ∈ viewOf [] (exec cfg St.init ops).2 ↔
           n ∈ (ops.foldl specTree Tree.init).present cfg.lim) := by
  obtain ⟨hi, hf, ht, _⟩ := exec_run ops St.init (Inv_init cfg)
  exact ⟨hi, hf, ht, fun hq n => hf.view ▸ ht ▸ quiet_members hi hq n⟩

/-- The same for the consumer that goes by `Cfg.keyOf`, as long as no two member znodes carry equal
    keys at the same time. -/
theorem history_member_view (cfg : Cfg) (ops : List Op) (hd : distinctAlong cfg Tree.init ops = true) :
    FitsK cfg.keyOf [] (exec cfg St.init ops).2 (exec cfg St.init ops).1.members ∧
    ((exec cfg St.init ops).1.quiet = true →
      ∀ m, m ∈ viewOf [] ((exec cfg St.init ops).2.map (keyNote cfg.keyOf)) ↔
           m ∈ ((ops.foldl specTree Tree.init).present cfg.lim).map cfg.keyOf) := by
  obtain ⟨hi, _, ht, hk⟩ := exec_run ops St.init (Inv_init cfg)
  obtain ⟨_, hf⟩ := hk (KInv_init _) rfl hd
  exact ⟨hf, fun hq => hf.view ▸ ht ▸ mem_map_iff (quiet_members hi hq)⟩

theorem firstBad_none {v : List Nat} {ns : List Note} (h : altOk v ns = true) : firstBad v ns = none := by
  induction ns generalizing v with
  | nil => rfl
  | cons e es ih =>
    simp only [altOk, Bool.and_eq_true] at h
    simp only [firstBad, h.1, if_true]
    exact ih h.2

theorem firstNotIn_none {a b : List Nat} (h : ∀ n ∈ a, n ∈ b) : firstNotIn a b = none := by
  simp only [firstNotIn, List.find?_eq_none]
  intro x hx
  simp [h x hx]

theorem viewVerdict_ok {idx : Nat} {view present : List Nat} (h : ∀ n, n ∈ view ↔ n ∈ present) :
    viewVerdict idx view present = .ok := by
  simp only [viewVerdict, firstNotIn_none (fun n hn => (h n).mpr hn),
    firstNotIn_none (fun n hn => (h n).mp hn)]

theorem viewVerdictK_ok {idx : Nat} {kview present : List Nat}
    (h : ∀ n, n ∈ kview ↔ n ∈ present) : viewVerdictK idx kview present = .ok := by
  simp only [viewVerdictK, firstNotIn_none (fun n hn => (h n).mpr hn),
    firstNotIn_none (fun n hn => (h n).mp hn)]

theorem specGo_cons_ok {cfg : Cfg} {t : Tree} {view kview : List Nat} {dist : Bool} {idx : Nat} {op : Op}
    {o : Obs} {rest : List (Op × Obs)} (h1 : altOk view o.notes = true)
    (h2 : (dist && keyDistinct cfg (specTree t op)) = true → altOk kview (keyedNotes o) = true)
    (h3 : o.quiet = true → ∀ n, n ∈ viewOf view o.notes ↔ n ∈ (specTree t op).present cfg.lim)
    (h4 : o.quiet = true → (dist && keyDistinct cfg (specTree t op)) = true →
      ∀ n, n ∈ viewOf kview (keyedNotes o) ↔ n ∈ ((specTree t op).present cfg.lim).map cfg.keyOf) :
    specGo cfg t view kview dist idx ((op, o) :: rest) =
      specGo cfg (specTree t op) (viewOf view o.notes) (viewOf kview (keyedNotes o))
        (dist && keyDistinct cfg (specTree t op)) (idx + 1) rest := by
  have e2 : (if (dist && keyDistinct cfg (specTree t op)) = true then firstBad kview (keyedNotes o) else none)
      = none := by
    cases hd : (dist && keyDistinct cfg (specTree t op)) with
    | false => rfl
    | true => exact firstBad_none (h2 hd)
  have e3 : (if o.quiet = true then
      viewVerdict idx (viewOf view o.notes) ((specTree t op).present cfg.lim) else .ok) = Verdict.ok := by
    cases hq : o.quiet with
    | false => rfl
    | true => exact viewVerdict_ok (h3 hq)
  have e4 : (if (o.quiet && (dist && keyDistinct cfg (specTree t op))) = true then
      viewVerdictK idx (viewOf kview (keyedNotes o)) (((specTree t op).present cfg.lim).map cfg.keyOf)
      else .ok) = Verdict.ok := by
    cases hq : o.quiet with
    | false => rfl
    | true =>
      cases hd : (dist && keyDistinct cfg (specTree t op)) with
      | false => rfl
      | true => exact viewVerdictK_ok (h4 hq hd)
  rw [specGo]
  simp only [firstBad_none h1, e2, e3, e4]

theorem keyedNotes_obsOf (cfg : Cfg) (bad : Bool) (ns : List Note) (s : St) :
    keyedNotes (obsOf cfg bad ns s) = ns.map (keyNote cfg.keyOf) := by
  simp only [keyedNotes, obsOf]
  induction ns with
  | nil => rfl
  | cons e es ih => simp [keyNote, ih]

theorem spec_trace (cfg : Cfg) (ops : List Op) : ∀ (s : St) (kview : List Nat) (dist : Bool)
    (idx : Nat), Inv cfg s →
    (dist = true → KInv cfg.keyOf s ∧ kview = s.members.map cfg.keyOf ∧
      keyDistinct cfg s.tree = true) →
    specGo cfg s.tree s.members kview dist idx (comp.trace cfg s ops) = .ok := by
  induction ops with
  | nil => intro s kview dist idx _ _; rfl
  | cons op ops ih =>
    intro s kview dist idx hi hkd
    obtain ⟨s', ns, bad, hs, r⟩ := step_or_skip hi op
    have hstep : comp.trace cfg s (op :: ops) = (op, obsOf cfg bad ns s') :: comp.trace cfg s' ops := by
      rw [TComp.trace, show comp.step cfg s op = _ from hs]
    have hK : (dist && keyDistinct cfg (specTree s.tree op)) = true →
        KInv cfg.keyOf s' ∧ Fits kview (ns.map (keyNote cfg.keyOf)) (s'.members.map cfg.keyOf) := by
      intro hd
      obtain ⟨h1, h2, h3⟩ := hkd (Bool.and_eq_true_iff.mp hd).1
      exact h2 ▸ r.fitsK _ h1 (keyDistinct_KD h3)
    rw [hstep, specGo_cons_ok r.fits.ok (fun hd => keyedNotes_obsOf cfg _ ns s' ▸ (hK hd).2.ok), ← r.tree]
    · refine r.fits.view ▸ ih s' _ _ (idx + 1) r.inv fun hd => ?_
      rw [← r.tree] at hK
      exact ⟨(hK hd).1, keyedNotes_obsOf cfg _ ns s' ▸ (hK hd).2.view, (Bool.and_eq_true_iff.mp hd).2⟩
    · intro hq n
      rw [← r.tree, show viewOf s.members (obsOf cfg bad ns s').notes = s'.members from r.fits.view]
      exact quiet_members r.inv hq n
    · intro hq hd n
      rw [← r.tree, keyedNotes_obsOf, (hK hd).2.view]
      exact mem_map_iff (quiet_members r.inv hq) n

end Scales.ServerSet
