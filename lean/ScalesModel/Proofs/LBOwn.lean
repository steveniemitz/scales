import ScalesModel.Proofs.LBCalls

/-!
  C06 "the smoothed load is this balancer's own": the Ema of the model (`AS.ema`) moves only in
  `_AdjustAperture`, which appends one record to the log of the operation: the record's `prev` is the value
  held before, its `avg` the value held afterwards.  So the records of an operation, in call order, form a
  chain from the value held when the operation began to the value held when it ended.
-/
namespace Scales.LB
open Scales.Heap Scales.Aperture Scales.LBBase

/-- the chain of `c06Own`, as a Boolean -/
def chainB : Option Rat → List AdjRec → Bool
  | _, [] => true
  | held, r :: rs => decide (r.prev = held) && chainB (some r.avg) rs

theorem chainB_append (l1 : List AdjRec) : ∀ (h : Option Rat) (l2 : List AdjRec),
    chainB h (l1 ++ l2) = (chainB h l1 && chainB (heldAfter h l1) l2) := by
  induction l1 with
  | nil => intro h l2; simp [chainB, heldAfter]
  | cons r rs ih => intro h l2; simp only [List.cons_append, chainB, heldAfter, ih, Bool.and_assoc]

theorem heldAfter_append (l1 : List AdjRec) : ∀ (h : Option Rat) (l2 : List AdjRec),
    heldAfter h (l1 ++ l2) = heldAfter (heldAfter h l1) l2 := by
  induction l1 with
  | nil => intro h l2; rfl
  | cons r rs ih => intro h l2; simp only [List.cons_append, heldAfter, ih]

theorem c06Own_ok (idx : Nat) (l : List AdjRec) : ∀ (h : Option Rat), chainB h l = true → c06Own idx h l = .ok := by
  induction l with
  | nil => intro h _; rfl
  | cons r rs ih =>
    intro h hc
    simp only [chainB, Bool.and_eq_true, decide_eq_true_eq] at hc
    simp only [c06Own, if_pos hc.1]
    exact ih _ hc.2

/-- the log grew by a chain that leads from the Ema value of `a` to the Ema value of `a'` -/
def Ext (a a' : AS) : Prop :=
  ∃ l, a'.adjLog = a.adjLog ++ l ∧ chainB a.ema l = true ∧ a'.ema = heldAfter a.ema l

theorem _root_.Scales.Aperture.Unadjusted.ext {a a' : AS} (h : Unadjusted a a') : Ext a a' :=
  ⟨[], by rw [h.adjLog, List.append_nil], rfl, h.ema⟩

theorem Ext.refl (a : AS) : Ext a a := (Calm.refl a).toUnadjusted.ext

theorem Ext.trans {a b c : AS} (h1 : Ext a b) (h2 : Ext b c) : Ext a c := by
  obtain ⟨l1, e1, c1, v1⟩ := h1
  obtain ⟨l2, e2, c2, v2⟩ := h2
  refine ⟨l1 ++ l2, by rw [e2, e1, List.append_assoc], ?_, ?_⟩
  · rw [chainB_append, c1, ← v1, c2]; rfl
  · rw [heldAfter_append, ← v1, v2]

theorem onMove_ext (cfg : Cfg) (a : AS) (k : Int) : Ext a (if cfg.aperture then a.adjust cfg k else a) := by
  split
  · obtain ⟨_, _, r, h1, h2, h3⟩ := adjust_book cfg a k
    refine ⟨[r], h1, ?_, h3⟩
    unfold chainB; rw [h2, decide_eq_true rfl]; rfl
  · exact Ext.refl a

theorem get_ext (cfg : Cfg) (a : AS) : Ext a (a.get cfg).1 := by
  rcases get_book cfg a with h | ⟨nid, ep, a2, u, _, h⟩ <;> rw [h]
  · exact Ext.refl a
  · exact u.ext.trans (onMove_ext cfg a2 1)

theorem put_ext (cfg : Cfg) (a : AS) (r j : Nat) : Ext a (a.put cfg r j) := by
  rcases put_shape cfg a r j with ⟨nid, b, _, e⟩ | ⟨_, b, e⟩ <;> rw [e]
  · exact Ext.trans (Unadjusted.ext ⟨rfl, rfl, rfl, rfl⟩) (onMove_ext cfg { a with hs := _, bad := b } (-1))
  · exact Unadjusted.ext ⟨rfl, rfl, rfl, rfl⟩

theorem own_step (cfg : Cfg) (lb : St) (op : Op) :
    chainB lb.sub.ema (stepSt cfg lb op).1.sub.adjLog = true ∧
    (stepSt cfg lb op).1.sub.ema = heldAfter lb.sub.ema (stepSt cfg lb op).1.sub.adjLog := by
  -- every operation, `Open()` included, starts with an empty log
  have h0 : Ext { lb.sub with adjLog := [] } (entry cfg lb op) := by
    cases op with
    | put r j e => exact (Unadjusted.ext (a' := (feed lb e).sub) ⟨rfl, rfl, rfl, rfl⟩).trans (put_ext cfg _ r j)
    | chan nid st =>
      have c := setChan_calm (feed lb ⟨[], []⟩).sub nid st
      exact Unadjusted.ext ⟨c.total, c.ema, c.clock, c.adjLog⟩
    | _ => exact Unadjusted.ext ⟨rfl, rfl, rfl, rfl⟩
  obtain ⟨l, e, c, v⟩ := h0.trans ((stepSt_calls lb op).fold (fun a _ a' => Ext a a')
    (fun c => c.toUnadjusted.ext) (get_ext cfg) Ext.refl Ext.trans)
  rw [e]
  exact ⟨c, v⟩

end Scales.LB
