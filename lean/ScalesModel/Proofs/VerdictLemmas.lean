/-
  Proofs/VerdictLemmas.lean — how `Verdict.and`, `Verdict.all` (Core/Val.lean: first failure wins) and a
  test that fails or goes on (`if … then fail … else …`) read; the executable specifications put their clauses
  together with these (five of them thread the verdict through their steps by a `match` of their own).
-/
import ScalesModel.Core.Val
namespace Scales.Verdict

@[simp] theorem ok_and (f : Unit → Verdict) : Verdict.ok.and f = f () := rfl

@[simp] theorem fail_and (c : String) (ps : List V) (f : Unit → Verdict) :
    (Verdict.fail c ps).and f = .fail c ps := rfl

theorem and_eq_ok {a : Verdict} {f : Unit → Verdict} : a.and f = .ok ↔ a = .ok ∧ f () = .ok := by
  cases a <;> simp [Verdict.and]

theorem and_ok {a : Verdict} {f : Unit → Verdict} (h1 : a = .ok) (h2 : f () = .ok) : a.and f = .ok :=
  and_eq_ok.2 ⟨h1, h2⟩

theorem and_eq_fail {a : Verdict} {f : Unit → Verdict} {c : String} {ps : List V} :
    a.and f = .fail c ps ↔ a = .fail c ps ∨ (a = .ok ∧ f () = .fail c ps) := by
  cases a <;> simp [Verdict.and]

theorem all_eq_ok {l : List Verdict} : Verdict.all l = .ok ↔ ∀ v ∈ l, v = .ok := by
  induction l with
  | nil => simp [Verdict.all]
  | cons v l ih => cases v <;> simp [Verdict.all, ih]

theorem ite_fail_eq_ok {c : Prop} [Decidable c] {n : String} {ps : List V} {v : Verdict} :
    (if c then .fail n ps else v) = .ok ↔ ¬ c ∧ v = .ok := by
  split
  · rename_i h; exact ⟨nofun, fun h' => absurd h h'.1⟩
  · rename_i h; exact ⟨fun h' => ⟨h, h'⟩, fun h' => h'.2⟩

theorem ite_fail_eq_fail {c : Prop} [Decidable c] {n cl : String} {ps qs : List V} {v : Verdict} :
    (if c then .fail n ps else v) = .fail cl qs ↔ (c ∧ n = cl ∧ ps = qs) ∨ (¬ c ∧ v = .fail cl qs) := by
  split <;> simp [*]

end Scales.Verdict
