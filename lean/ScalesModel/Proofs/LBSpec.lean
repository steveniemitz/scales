import ScalesModel.Proofs.LBInv
import ScalesModel.Proofs.LBTotal
import ScalesModel.Proofs.LBOwn
import ScalesModel.Proofs.VerdictLemmas
import ScalesModel.Proofs.RunLemmas
import Mathlib.Data.List.Perm.Subperm

/-!
  The executable specifications `specC05` / `specC06` (Adapter/LB.lean) hold on every history of the
  model: the reference server set and the gated callbacks (`gated_replay`), the run invariant `RInv`
  tying the protocol state of `wf` to the balancer state, and the evaluation of the spec clauses on
  the observations of a state satisfying `Full`.
-/
namespace Scales.LB
open Scales.Heap Scales.Aperture Scales.LBBase

theorem mem_stepRef (ref : List Nat) (n : Notif) (x : Nat) :
    x ∈ stepRef ref n ↔ (match n with
      | .join ep => x ∈ ref ∨ x = ep
      | .leave ep => x ∈ ref ∧ x ≠ ep) := by
  cases n with
  | join ep =>
    show x ∈ (if ep ∈ ref then ref else ref ++ [ep]) ↔ x ∈ ref ∨ x = ep
    split
    · rename_i h; exact ⟨Or.inl, fun h' => h'.elim id fun e => e ▸ h⟩
    · rw [List.mem_append, List.mem_singleton]
  | leave ep =>
    show x ∈ ref.filter (· ≠ ep) ↔ x ∈ ref ∧ x ≠ ep
    rw [List.mem_filter, decide_eq_true_eq]

theorem stepRef_congr {A B : List Nat} (h : ∀ x, x ∈ A ↔ x ∈ B) (n : Notif) :
    ∀ x, x ∈ stepRef A n ↔ x ∈ stepRef B n := by
  intro x; rw [mem_stepRef, mem_stepRef]; cases n <;> simp only [h]

theorem applyRef_cons (n : Notif) (ns : List Notif) (S : List Nat) :
    applyRef (n :: ns) S = applyRef ns (stepRef S n) := rfl

/-- what a list of callbacks does to the membership of one endpoint: it is cut to a condition `Q` and then
    widened by a condition `P`, neither of which depends on the set the callbacks are applied to -/
theorem mem_applyRef (ns : List Notif) (x : Nat) :
    ∃ P Q : Prop, ∀ S, x ∈ applyRef ns S ↔ (x ∈ S ∧ Q) ∨ P := by
  induction ns with
  | nil => exact ⟨False, True, fun S => ⟨fun h => Or.inl ⟨h, trivial⟩, fun h => h.elim (·.1) False.elim⟩⟩
  | cons n ns ih =>
    obtain ⟨P, Q, h⟩ := ih
    cases n with
    | join ep =>
      refine ⟨(x = ep ∧ Q) ∨ P, Q, fun S => ?_⟩
      rw [applyRef_cons, h, mem_stepRef, or_and_right, or_assoc]
    | leave ep =>
      refine ⟨P, x ≠ ep ∧ Q, fun S => ?_⟩
      rw [applyRef_cons, h, mem_stepRef, and_assoc]

theorem mem_applyRef_joins (l : List Nat) : ∀ (S : List Nat) (x : Nat),
    x ∈ applyRef (l.map Notif.join) S ↔ (x ∈ S ∨ x ∈ l) := by
  induction l with
  | nil => exact fun S x => (or_iff_left List.not_mem_nil).symm
  | cons a l ih =>
    intro S x
    rw [List.map_cons, applyRef_cons, ih, mem_stepRef, List.mem_cons, or_assoc]

/-- the list `GetServers` returned was the server set at some moment after `Open()`; replaying every
    callback since `Open()` on top of it gives the current server set: what the callbacks up to that
    moment do to an endpoint they do again, to no effect -/
theorem gated_replay (blocked pre : List Notif) (X0 l : List Nat) (hp : pre <+: blocked)
    (hl : ∀ x, x ∈ l ↔ x ∈ applyRef pre X0) :
    ∀ x, x ∈ applyRef blocked (applyRef (l.map Notif.join) []) ↔ x ∈ applyRef blocked X0 := by
  intro x
  obtain ⟨post, rfl⟩ := hp
  obtain ⟨P1, Q1, h1⟩ := mem_applyRef pre x
  obtain ⟨P2, Q2, h2⟩ := mem_applyRef post x
  rw [applyRef_append, applyRef_append, h2, h2, h1, mem_applyRef_joins, hl, h1]
  have : (((False ∨ (x ∈ X0 ∧ Q1) ∨ P1) ∧ Q1) ∨ P1) ↔ (x ∈ X0 ∧ Q1) ∨ P1 :=
    ⟨fun h => h.elim (fun h => (h.1.elim False.elim id)) Or.inr, fun h => h.elim (fun h => Or.inl ⟨Or.inr (Or.inl h), h.2⟩) Or.inr⟩
  rw [show (x ∈ ([] : List Nat)) = False from eq_false List.not_mem_nil, this]

def notifOf : Op → Option Notif
  | .join ep _ => some (.join ep)
  | .leave ep _ => some (.leave ep)
  | _ => none

theorem sameSet_iff (a b : List Nat) : sameSet a b = true ↔ ∀ x, x ∈ a ↔ x ∈ b := by
  unfold sameSet
  simp only [Bool.and_eq_true, List.all_eq_true, List.contains_iff_mem]
  constructor
  · rintro ⟨h1, h2⟩ x; exact ⟨h1 x, h2 x⟩
  · intro h; exact ⟨fun x hx => (h x).1 hx, fun x hx => (h x).2 hx⟩

/-- how the protocol state of `wf` and the balancer state hang together -/
structure RInv (cfg : Cfg) (p : Proto) (lb : St) : Prop where
  full : Full cfg lb.sub
  phase : p.phase ≤ 2
  p0 : p.phase = 0 → lb.initDone = false ∧ lb.blocked = [] ∧ lb.sub.hs.servers = [] ∧ p.ref = cfg.initial
  p1 : p.phase = 1 → lb.initDone = false ∧ lb.sub.hs.servers = [] ∧ p.ref = applyRef lb.blocked cfg.initial ∧
    ∀ c ∈ p.cands, ∃ pre, pre <+: lb.blocked ∧ c = applyRef pre cfg.initial
  p2 : p.phase = 2 → lb.initDone = true ∧ lb.blocked = [] ∧ ∀ x, x ∈ lb.sub.hs.servers ↔ x ∈ p.ref

theorem RInv.init (cfg : Cfg) : RInv cfg { ref := cfg.initial } (init cfg) :=
  ⟨Full.init cfg, Nat.zero_le _, fun _ => ⟨rfl, rfl, rfl, rfl⟩, (fun h => by cases h), (fun h => by cases h)⟩

theorem RInv.of_phase1 {cfg : Cfg} {p : Proto} {lb : St} (f : Full cfg lb.sub) (hp : p.phase = 1)
    (h : lb.initDone = false ∧ lb.sub.hs.servers = [] ∧ p.ref = applyRef lb.blocked cfg.initial ∧
      ∀ c ∈ p.cands, ∃ pre, pre <+: lb.blocked ∧ c = applyRef pre cfg.initial) : RInv cfg p lb :=
  ⟨f, by omega, fun h0 => by omega, fun _ => h, fun h2 => by omega⟩

theorem RInv.of_phase2 {cfg : Cfg} {p : Proto} {lb : St} (f : Full cfg lb.sub) (hp : p.phase = 2)
    (h : lb.initDone = true ∧ lb.blocked = [] ∧ ∀ x, x ∈ lb.sub.hs.servers ↔ x ∈ p.ref) : RInv cfg p lb :=
  ⟨f, by omega, fun h0 => by omega, fun h1 => by omega, fun _ => h⟩

theorem RInv.gate {cfg : Cfg} {p : Proto} {lb : St} (h : RInv cfg p lb) (hi : lb.initDone = true) : p.phase = 2 := by
  have hp : p.phase = 0 ∨ p.phase = 1 ∨ p.phase = 2 := by have := h.phase; omega
  rcases hp with h0 | h1 | h2
  · exact absurd ((h.p0 h0).1.symm.trans hi) Bool.false_ne_true
  · exact absurd ((h.p1 h1).1.symm.trans hi) Bool.false_ne_true
  · exact h2

theorem protoStep_shape {p p' : Proto} {op : Op} (h : protoStep p op = some p') :
    (op = .opn ∧ p.phase = 0 ∧ p' = { p with phase := 1, cands := [p.ref] }) ∨
    (∃ l e, op = .loaded l e ∧ p.phase = 1 ∧ p.cands.any (sameSet l) = true ∧ p' = { p with phase := 2, cands := [] }) ∨
    (∃ n, notifOf op = some n ∧ p.phase = 1 ∧
      p' = { p with ref := stepRef p.ref n, cands := p.cands ++ [stepRef p.ref n] }) ∨
    (∃ n, notifOf op = some n ∧ p.phase = 2 ∧ p' = { p with ref := stepRef p.ref n }) ∨
    (notifOf op = none ∧ (∀ l e, op ≠ .loaded l e) ∧ p.phase ≠ 0 ∧ p' = p) := by
  have notif : ∀ n : Notif, (if p.phase = 1 then some { p with ref := stepRef p.ref n, cands := p.cands ++ [stepRef p.ref n] }
      else if p.phase = 2 then some { p with ref := stepRef p.ref n } else none) = some p' →
      (p.phase = 1 ∧ p' = { p with ref := stepRef p.ref n, cands := p.cands ++ [stepRef p.ref n] }) ∨
      (p.phase = 2 ∧ p' = { p with ref := stepRef p.ref n }) := by
    intro n h
    split at h
    · rename_i h1; exact Or.inl ⟨h1, (Option.some.inj h).symm⟩
    · split at h
      · rename_i h2; exact Or.inr ⟨h2, (Option.some.inj h).symm⟩
      · cases h
  have other : (if p.phase = 0 then none else some p) = some p' → p.phase ≠ 0 ∧ p' = p := by
    intro h
    split at h
    · cases h
    · rename_i h0; exact ⟨h0, (Option.some.inj h).symm⟩
  cases op with
  | opn =>
    rw [protoStep] at h
    split at h
    · rename_i h0; exact Or.inl ⟨rfl, h0, (Option.some.inj h).symm⟩
    · rename_i h0
      exact Or.inr (Or.inr (Or.inr (Or.inr ⟨rfl, fun _ _ => Op.noConfusion, h0, (Option.some.inj h).symm⟩)))
  | loaded l e =>
    rw [protoStep] at h
    split at h
    · rename_i hc; exact Or.inr (Or.inl ⟨l, e, rfl, hc.1, hc.2, (Option.some.inj h).symm⟩)
    · cases h
  | join ep e => exact Or.inr (Or.inr ((notif (.join ep) h).imp (fun h => ⟨_, rfl, h⟩) (fun h => Or.inl ⟨_, rfl, h⟩)))
  | leave ep e => exact Or.inr (Or.inr ((notif (.leave ep) h).imp (fun h => ⟨_, rfl, h⟩) (fun h => Or.inl ⟨_, rfl, h⟩)))
  | _ => exact Or.inr (Or.inr (Or.inr (Or.inr ⟨rfl, fun _ _ => Op.noConfusion, other h⟩)))

theorem protoStep_phase {p p' : Proto} {op : Op} (h : protoStep p op = some p') : p'.phase ≠ 0 := by
  rcases protoStep_shape h with ⟨_, _, e⟩ | ⟨_, _, _, _, _, e⟩ | ⟨_, _, h1, e⟩ | ⟨_, _, h2, e⟩ | ⟨_, _, h0, e⟩ <;> rw [e]
  · exact Nat.one_ne_zero
  · exact Nat.succ_ne_zero 1
  · exact fun h => Nat.one_ne_zero (h1.symm.trans h)
  · exact fun h => Nat.succ_ne_zero 1 (h2.symm.trans h)
  · exact h0

theorem refAfter_notif {op : Op} {n : Notif} (h : notifOf op = some n) (ref : List Nat) :
    refAfter ref op = stepRef ref n := by
  cases op <;> cases h <;> rfl

theorem refAfter_other {op : Op} (h : notifOf op = none) (ref : List Nat) : refAfter ref op = ref := by
  cases op <;> first | rfl | cases h

theorem after_notif {op : Op} {n : Notif} (h : notifOf op = some n) (lb : St) :
    applied lb op = (if lb.initDone then [n] else []) ∧
    blockedAfter lb op = (if lb.initDone then lb.blocked else lb.blocked ++ [n]) ∧ initDoneAfter lb op = lb.initDone := by
  cases op <;> cases h <;> exact ⟨rfl, rfl, rfl⟩

theorem after_other {op : Op} (h : notifOf op = none) (hl : ∀ l e, op ≠ .loaded l e) (lb : St) :
    applied lb op = [] ∧ blockedAfter lb op = lb.blocked ∧ initDoneAfter lb op = lb.initDone := by
  cases op with
  | loaded l e' => exact absurd rfl (hl l e')
  | join | leave => cases h
  | _ => exact ⟨rfl, rfl, rfl⟩

/-- the initial list is loaded in phase 1 only, when `_servers` is still empty -/
theorem RInv.loaded {cfg : Cfg} {p p' : Proto} {lb : St} (h : RInv cfg p lb) {op : Op}
    (hp : protoStep p op = some p') : ∀ l e, op = .loaded l e → lb.sub.hs.servers = [] := by
  rintro l e rfl
  rw [protoStep] at hp
  split at hp
  · rename_i hc; exact (h.p1 hc.1).2.1
  · cases hp

theorem RInv.step {cfg : Cfg} {p p' : Proto} {lb : St} (h : RInv cfg p lb) (op : Op) (hp : protoStep p op = some p') :
    RInv cfg p' (stepSt cfg lb op).1 ∧ p'.ref = refAfter p.ref op ∧
    (∀ ep ∈ resEps (stepSt cfg lb op).2, ep ∈ E (stepSt cfg lb op).1.sub) := by
  obtain ⟨f, e3, rs⟩ := stepSt_full cfg lb op h.full (h.loaded hp)
  obtain ⟨e1, e2⟩ := stepSt_gateFields (cfg := cfg) lb op
  refine (?_ : _ ∧ _).imp_right fun h => ⟨h, rs⟩
  generalize (stepSt cfg lb op).1 = lb' at f e1 e2 e3
  rcases protoStep_shape hp with ⟨rfl, h0, e⟩ | ⟨l, _, rfl, h1, hc, e⟩ | ⟨n, hn, h1, e⟩ | ⟨n, hn, h2, e⟩ | ⟨hn, hl, h0, e⟩ <;>
    rw [e]
  · -- the first `Open()`
    obtain ⟨a, b, c, d⟩ := h.p0 h0
    refine ⟨RInv.of_phase1 f rfl ⟨e1.trans a, e3.trans c, ?_, ?_⟩, rfl⟩
    · rw [e2]; show p.ref = applyRef lb.blocked _; rw [b]; exact d
    · intro c hc
      exact ⟨[], List.nil_prefix, (List.mem_singleton.1 hc).trans d⟩
  · -- the initial list arrives: some server set seen since `Open()`, with the callbacks since replayed on it
    obtain ⟨a, b, c, d⟩ := h.p1 h1
    obtain ⟨cd, hcd, hss⟩ := List.any_eq_true.1 hc
    obtain ⟨pre, hpre, hcd'⟩ := d cd hcd
    refine ⟨RInv.of_phase2 f rfl ⟨e1, e2, fun x => ?_⟩, rfl⟩
    rw [e3, c, b]
    show x ∈ applyRef (l.map Notif.join ++ lb.blocked) [] ↔ _
    rw [applyRef_append]
    exact gated_replay lb.blocked pre cfg.initial l hpre (fun y => hcd' ▸ (sameSet_iff l cd).1 hss y) x
  · -- a callback while the initial list is loading waits
    obtain ⟨a, b, c, d⟩ := h.p1 h1
    obtain ⟨k1, k2, k3⟩ := after_notif hn lb
    rw [k1, a] at e3; rw [k2, a] at e2; rw [k3] at e1
    have hb : lb'.blocked = lb.blocked ++ [n] := e2
    have hs : lb'.sub.hs.servers = lb.sub.hs.servers := e3
    have hi : lb'.initDone = false := e1.trans a
    have hr : stepRef p.ref n = applyRef (lb.blocked ++ [n]) cfg.initial := by rw [applyRef_append, ← c]; rfl
    refine ⟨RInv.of_phase1 f h1 ⟨hi, hs.trans b, hb ▸ hr, fun cc hcc => ?_⟩, (refAfter_notif hn _).symm⟩
    rw [hb]
    rcases List.mem_append.1 hcc with hcc | hcc
    · obtain ⟨pre, hp1, hp2⟩ := d cc hcc
      exact ⟨pre, hp1.trans (List.prefix_append _ _), hp2⟩
    · exact ⟨_, List.prefix_refl _, (List.mem_singleton.1 hcc).trans hr⟩
  · -- a callback after the initial load is applied at once
    obtain ⟨a, b, c⟩ := h.p2 h2
    obtain ⟨k1, k2, k3⟩ := after_notif hn lb
    rw [k1, a] at e3; rw [k2, a] at e2; rw [k3] at e1
    have hb : lb'.blocked = lb.blocked := e2
    have hs : lb'.sub.hs.servers = stepRef lb.sub.hs.servers n := e3
    have hi : lb'.initDone = true := e1.trans a
    refine ⟨RInv.of_phase2 f h2 ⟨hi, hb.trans b, fun x => ?_⟩, (refAfter_notif hn _).symm⟩
    rw [hs]
    exact stepRef_congr c n x
  · -- anything else leaves the gate and `_servers` alone
    obtain ⟨k1, k2, k3⟩ := after_other hn hl lb
    rw [k1] at e3; rw [k2] at e2; rw [k3] at e1
    have e1' : lb'.initDone = lb.initDone := e1
    have e2' : lb'.blocked = lb.blocked := e2
    have e3' : lb'.sub.hs.servers = lb.sub.hs.servers := e3
    exact ⟨⟨f, h.phase, fun hc => absurd hc h0, fun h1 => by rw [e1', e2', e3']; exact h.p1 h1,
      fun h2 => by rw [e1', e2', e3']; exact h.p2 h2⟩, (refAfter_other hn _).symm⟩

theorem protoOk_step {p : Proto} {op : Op} {ops : List Op} (h : protoOk p (op :: ops) = true) :
    ∃ p', protoStep p op = some p' ∧ protoOk p' ops = true := by
  rw [protoOk] at h
  cases hps : protoStep p op with
  | none => rw [hps] at h; cases h
  | some p' => rw [hps] at h; exact ⟨p', rfl, h⟩

theorem RInv.cons {cfg : Cfg} {p : Proto} {lb : St} {op : Op} {ops : List Op} (h : RInv cfg p lb)
    (hp : protoOk p (op :: ops) = true) :
    ∃ p', protoOk p' ops = true ∧ RInv cfg p' (stepSt cfg lb op).1 ∧ p'.ref = refAfter p.ref op ∧
      ∀ ep ∈ resEps (stepSt cfg lb op).2, ep ∈ E (stepSt cfg lb op).1.sub := by
  obtain ⟨p', hps, hp'⟩ := protoOk_step hp
  exact ⟨p', hp', h.step op hps⟩

theorem nodupB_iff (l : List Nat) : nodupB l = true ↔ l.Nodup := by
  induction l with
  | nil => exact iff_of_true rfl List.nodup_nil
  | cons x xs ih =>
    rw [nodupB, Bool.and_eq_true, ih, List.nodup_cons, Bool.not_eq_true', ← Bool.not_eq_true, List.contains_iff_mem]

theorem sortNat_perm (l : List Nat) : (sortNat l).Perm l := List.mergeSort_perm _ _

theorem obs_eligible (lb : St) (res : List ResV) : (obsOf lb res).eligible.Perm (E lb.sub) := by
  show ((lb.sub.hs.heap.map (viewOf lb.sub)).map (·.ep) ++ sortNat lb.sub.idle).Perm _
  rw [List.map_map]
  exact (sortNat_perm _).append_left _

theorem obs_servers (lb : St) (res : List ResV) : (obsOf lb res).servers.Perm lb.sub.hs.servers := sortNat_perm _

theorem obs_adj (lb : St) (res : List ResV) : (obsOf lb res).adj = lb.sub.adjLog := rfl

theorem obs_heap_length (lb : St) (res : List ResV) : (obsOf lb res).heap.length = lb.sub.hs.size :=
  List.length_map _

theorem find?_not_contains {l m : List Nat} (h : ∀ x ∈ l, x ∈ m) : l.find? (fun x => !m.contains x) = none := by
  rw [List.find?_eq_none]
  intro x hx
  rw [Bool.not_eq_true, Bool.not_eq_false', List.contains_iff_mem]
  exact h x hx

/-- the membership clauses C05 and C06 share -/
theorem eligible_ok {cfg : Cfg} (lb : St) (res : List ResV) (h : Full cfg lb.sub) (m : List Nat)
    (hm : ∀ x, x ∈ lb.sub.hs.servers ↔ x ∈ m) :
    nodupB (obsOf lb res).eligible = true ∧
    m.find? (fun x => !(obsOf lb res).eligible.contains x) = none ∧
    (obsOf lb res).eligible.find? (fun x => !m.contains x) = none :=
  have hp := obs_eligible lb res
  ⟨(nodupB_iff _).2 (hp.nodup_iff.2 h.inv.nodup),
   find?_not_contains fun x hx => hp.mem_iff.2 ((h.part x).2 ((hm x).2 hx)),
   find?_not_contains fun x hx => (hm x).1 ((h.part x).1 (hp.mem_iff.1 hx))⟩

theorem Full.lower_bound {cfg : Cfg} {a : AS} (h : Full cfg a) : min cfg.minSize a.hs.servers.length ≤ a.hs.size := by
  rcases h.lbd with hl | hl
  · exact le_trans (Nat.min_le_left _ _) hl
  · -- nothing idle: every member is active
    have hsub : a.hs.servers ⊆ heapEps a.hs := fun x hx => by
      have := (h.part x).2 hx
      unfold E at this; rwa [hl, List.append_nil] at this
    exact le_trans (Nat.min_le_right _ _) (heapEps_length a.hs ▸ (List.Nodup.subperm h.snodup hsub).length_le)

theorem ratAbs_eq (x : Rat) : ratAbs x = |x| := by
  unfold ratAbs
  split
  · rename_i h; rw [abs_of_neg h]
  · rename_i h; rw [abs_of_nonneg (not_lt.1 h)]

theorem ratMin_eq (a b : Rat) : ratMin a b = min a b := by
  unfold ratMin
  split
  · rename_i h; rw [min_eq_left h]
  · rename_i h; rw [min_eq_right (le_of_lt (not_le.1 h))]

theorem ratMax_eq (a b : Rat) : ratMax a b = max a b := by
  unfold ratMax
  split
  · rename_i h; rw [max_eq_right h]
  · rename_i h; rw [max_eq_left (le_of_lt (not_le.1 h))]

theorem emaTol_nonneg : (0 : Rat) ≤ emaTol := by unfold emaTol; norm_num

theorem close_between {p s e avg : Rat} (hlo : min p s ≤ e) (hhi : e ≤ max p s)
    (hc : |e - avg| ≤ emaTol * (1 + |e|)) :
    min p s - emaTol * (1 + max |p| |s|) ≤ avg ∧ avg ≤ max p s + emaTol * (1 + max |p| |s|) := by
  have habs : |e| ≤ max |p| |s| := by
    rcases le_total p s with h | h
    · rw [min_eq_left h] at hlo; rw [max_eq_right h] at hhi
      exact abs_le_max_abs_abs hlo hhi
    · rw [min_eq_right h] at hlo; rw [max_eq_left h] at hhi
      rw [max_comm]; exact abs_le_max_abs_abs hlo hhi
  have hsl : emaTol * (1 + |e|) ≤ emaTol * (1 + max |p| |s|) :=
    mul_le_mul_of_nonneg_left (add_le_add (le_refl 1) habs) emaTol_nonneg
  obtain ⟨c1, c2⟩ := abs_le.1 (le_trans hc hsl)
  exact ⟨le_trans (sub_le_sub_right hlo _) (sub_le_comm.1 c2),
    le_trans (neg_le_sub_iff_le_add.1 c1) (add_le_add hhi (le_refl _))⟩

theorem recLegal_smooth {r : AdjRec} (hdt : 0 ≤ r.dt) (hl : recLegal r = true) :
    (r.prev.isSome = true → 0 ≤ r.w ∧ r.w ≤ 1) ∧ emaBetween r = true := by
  unfold recLegal at hl
  simp only [Bool.and_eq_true, Bool.or_eq_true, decide_eq_true_eq, ratAbs_eq] at hl
  obtain ⟨hc, hw⟩ := hl
  unfold emaBetween
  simp only [Bool.and_eq_true, decide_eq_true_eq, ratAbs_eq, ratMin_eq, ratMax_eq]
  cases hp : r.prev with
  | none =>
    rw [hp] at hc
    simp only [Ema.update] at hc
    refine ⟨fun h => by simp at h, ?_⟩
    simp only [Option.getD_none]
    exact close_between (by simp) (by simp) hc
  | some p =>
    rw [hp] at hc hw
    simp only [Option.isNone_some, Bool.false_eq_true, false_or] at hw
    have hu := Ema.weightLegal_unit hw hdt
    refine ⟨fun _ => hu, ?_⟩
    simp only [Option.getD_some]
    obtain ⟨b1, b2⟩ := Ema.step_between r.w p (r.sample : Rat) hu.1 hu.2
    exact close_between b1 b2 hc

theorem c06Ema_ok (idx : Nat) (r : AdjRec) (hdt : 0 ≤ r.dt) (hl : recLegal r = true) : c06Ema idx r = .ok := by
  obtain ⟨hw, hb⟩ := recLegal_smooth hdt hl
  unfold c06Ema
  rw [if_neg (not_lt.2 hdt), if_neg (by rintro ⟨hs, h | h⟩ <;> linarith [(hw hs).1, (hw hs).2]), if_pos hb]

theorem c06Adj_ok (cfg : Cfg) (idx : Nat) (r : AdjRec) (h : adjGood cfg r) : c06Adj cfg idx r = .ok := by
  obtain ⟨h1, h2, h3, h4, _⟩ := h
  unfold c06Adj
  rw [if_neg fun hc => Nat.not_le.2 hc.2 (h1 hc.1)]
  cases he : tableExpand cfg r
  · rw [if_neg Bool.false_ne_true]
    cases hc : tableContract cfg r
    · rw [if_neg Bool.false_ne_true, if_pos (h4 he hc)]
    · rw [if_pos rfl, if_pos (h3 he hc)]
  · rw [if_pos rfl, if_pos (h2 he)]

theorem c06At_ok (cfg : Cfg) (idx : Nat) (lb : St) (res : List ResV) (h : Full cfg lb.sub)
    (hl : lb.sub.adjLog.all recLegal = true) : c06At cfg idx (obsOf lb res) = .ok := by
  have hs := obs_servers lb res
  obtain ⟨h1, h2, h3⟩ := eligible_ok lb res h (obsOf lb res).servers fun x => hs.mem_iff.symm
  have h4 : ¬ ((obsOf lb res).heap.length < min cfg.minSize (obsOf lb res).servers.length) := by
    rw [obs_heap_length, hs.length_eq]; exact Nat.not_lt.2 h.lower_bound
  have he : Verdict.all ((obsOf lb res).adj.map (c06Ema idx)) = .ok := by
    refine Verdict.all_eq_ok.2 fun v hv => ?_
    obtain ⟨r, hr, rfl⟩ := List.mem_map.1 hv
    exact c06Ema_ok idx r (h.log r hr).2.2.2.2 (List.all_eq_true.1 hl r hr)
  have ha : Verdict.all ((obsOf lb res).adj.map (c06Adj cfg idx)) = .ok := by
    refine Verdict.all_eq_ok.2 fun v hv => ?_
    obtain ⟨r, hr, rfl⟩ := List.mem_map.1 hv
    exact c06Adj_ok cfg idx r (h.log r hr)
  unfold c06At
  dsimp only
  rw [h1, h2, h3, if_neg h4, he, ha]
  rfl

theorem c06Total_ok (cfg : Cfg) (idx : Nat) (lb : St) (res : List ResV) (t : TInv cfg lb.sub) :
    c06Total cfg idx (flagsOf lb.sub.hs) (obsOf lb res) = .ok :=
  if_pos t

theorem specC06_trace (cfg : Cfg) (ops : List Op) : ∀ (p : Proto) (lb : St) (idx : Nat), RInv cfg p lb →
    TInv cfg lb.sub → protoOk p ops = true → logsLegal cfg lb ops = true →
    specC06Go cfg idx (flagsOf lb.sub.hs) lb.sub.ema (comp6.trace cfg lb ops) = .ok := by
  induction ops with
  | nil => intro p lb idx _ _ _ _; rfl
  | cons op ops ih =>
    intro p lb idx h t hp hlg
    rw [logsLegal, Bool.and_eq_true] at hlg
    obtain ⟨p', hp', h', _, _⟩ := h.cons hp
    obtain ⟨t1, t2⟩ := total_step cfg lb op
    obtain ⟨o1, o2⟩ := own_step cfg lb op
    rw [TComp.trace_cons comp6 step, specC06Go]
    dsimp only [step, obs_adj]
    rw [c06At_ok cfg idx _ _ h'.full hlg.1, Verdict.ok_and, c06Own_ok idx _ _ o1, Verdict.ok_and,
      ← t1, c06Total_ok cfg idx _ _ (t2 t), Verdict.ok_and, ← o2]
    exact ih p' _ (idx + 1) h' (t2 t) hp' hlg.2

/-- the `_AdjustAperture` records of a whole history, in call order -/
def adjRecords (h : List (Op × Obs)) : List AdjRec := h.flatMap (fun q => q.2.adj)

theorem trace_chain (cfg : Cfg) (ops : List Op) : ∀ lb : St,
    chainB lb.sub.ema (adjRecords (comp6.trace cfg lb ops)) = true ∧
    (runSt cfg lb ops).sub.ema = heldAfter lb.sub.ema (adjRecords (comp6.trace cfg lb ops)) := by
  induction ops with
  | nil => exact fun lb => ⟨rfl, rfl⟩
  | cons op ops ih =>
    intro lb
    obtain ⟨o1, o2⟩ := own_step cfg lb op
    obtain ⟨i1, i2⟩ := ih (stepSt cfg lb op).1
    rw [TComp.trace_cons comp6 step, adjRecords, List.flatMap_cons, chainB_append, heldAfter_append]
    dsimp only [step, obs_adj]
    rw [o1, ← o2]
    exact ⟨i1, i2⟩

/-- holds from any state and for any list (`trace_chain`): `p` and the two hypotheses are not needed -/
theorem trace_own (cfg : Cfg) (ops : List Op) : ∀ (p : Proto) (lb : St),
    (p.phase = 0 → lb.sub.adjLog = []) → protoOk p ops = true →
    chainB lb.sub.ema (adjRecords (comp6.trace cfg lb ops)) = true ∧
    (runSt cfg lb ops).sub.ema = heldAfter lb.sub.ema (adjRecords (comp6.trace cfg lb ops)) :=
  fun _ lb _ _ => trace_chain cfg ops lb

theorem chainB_head {h : Option Rat} {r : AdjRec} {rest : List AdjRec} (hc : chainB h (r :: rest) = true) :
    r.prev = h := by
  rw [chainB, Bool.and_eq_true, decide_eq_true_eq] at hc; exact hc.1

theorem chainB_pair {h : Option Rat} {pre post : List AdjRec} {r r' : AdjRec}
    (hc : chainB h (pre ++ r :: r' :: post) = true) : r'.prev = some r.avg := by
  rw [chainB_append, chainB, Bool.and_eq_true, Bool.and_eq_true] at hc
  exact chainB_head hc.2.2

theorem TInv.init (cfg : Cfg) : TInv cfg (init cfg).sub := by
  show (0 : Int) = if cfg.aperture = true then (((([] : List Bool)).count false : Nat) : Int) else 0
  split <;> rfl

theorem run_TInv (cfg : Cfg) (ops : List Op) : ∀ (lb : St), TInv cfg lb.sub → TInv cfg (runSt cfg lb ops).sub := by
  induction ops with
  | nil => exact fun _ t => t
  | cons op ops ih => exact fun lb t => ih _ ((total_step cfg lb op).2 t)

theorem RInv.quiescent {cfg : Cfg} {p : Proto} {lb : St} (h : RInv cfg p lb) (hi : lb.initDone = true) :
    ∀ x, x ∈ lb.sub.hs.servers ↔ x ∈ p.ref :=
  (h.p2 (h.gate hi)).2.2

theorem c05At_ok {cfg : Cfg} (idx : Nat) (ref : List Nat) (lb : St) (res : List ResV) (h : Full cfg lb.sub)
    (hq : lb.initDone = true → ∀ x, x ∈ lb.sub.hs.servers ↔ x ∈ ref)
    (hres : ∀ ep ∈ resEps res, ep ∈ E lb.sub) : c05At idx ref (obsOf lb res) = .ok := by
  unfold c05At
  split
  · rename_i hc
    have hq := hq (Bool.and_eq_true_iff.1 hc).1
    obtain ⟨h1, h2, h3⟩ := eligible_ok lb res h ref hq
    have h4 : (resEps (obsOf lb res).res).find? (fun x => !ref.contains x) = none :=
      find?_not_contains fun x hx => (hq x).1 ((h.part x).1 (hres x hx))
    dsimp only
    rw [h1, h2, h3, h4]
    rfl
  · rfl

theorem specC05_trace (cfg : Cfg) (ops : List Op) : ∀ (p : Proto) (lb : St) (idx : Nat), RInv cfg p lb →
    protoOk p ops = true → specC05Go idx p.ref (comp5.trace cfg lb ops) = .ok := by
  induction ops with
  | nil => intro p lb idx _ _; rfl
  | cons op ops ih =>
    intro p lb idx h hp
    obtain ⟨p', hp', h', href, hres⟩ := h.cons hp
    rw [TComp.trace_cons comp5 step, specC05Go]
    dsimp only [step]
    rw [← href, c05At_ok idx p'.ref _ _ h'.full (fun hi => h'.quiescent hi) hres, Verdict.ok_and]
    exact ih p' _ (idx + 1) h' hp'

/-- the reference server set after a list of operations -/
def refOf (cfg : Cfg) (ops : List Op) : List Nat := ops.foldl refAfter cfg.initial

theorem run_RInv (cfg : Cfg) (ops : List Op) : ∀ (p : Proto) (lb : St), RInv cfg p lb → protoOk p ops = true →
    ∃ p', RInv cfg p' (runSt cfg lb ops) ∧ p'.ref = ops.foldl refAfter p.ref := by
  induction ops with
  | nil => exact fun p lb h _ => ⟨p, h, rfl⟩
  | cons op ops ih =>
    intro p lb h hp
    obtain ⟨p1, hp1, h1, href, _⟩ := h.cons hp
    obtain ⟨p', h', e'⟩ := ih p1 _ h1 hp1
    exact ⟨p', h', e'.trans (congrArg (ops.foldl refAfter) href)⟩

theorem wf_proto {cfg : Cfg} {ops : List Op} (h : wf cfg ops = true) :
    protoOk { ref := cfg.initial } ops = true :=
  (Bool.and_eq_true_iff.1 h).1

theorem wf6_wf {cfg : Cfg} {ops : List Op} (h : wf6 cfg ops = true) : wf cfg ops = true :=
  (Bool.and_eq_true_iff.1 h).1

theorem wf6_legal {cfg : Cfg} {ops : List Op} (h : wf6 cfg ops = true) : logsLegal cfg (init cfg) ops = true :=
  (Bool.and_eq_true_iff.1 h).2

theorem trace_records {cfg : Cfg} {P : AdjRec → Prop} {I : St → List Op → Prop}
    (step : ∀ lb op ops, I lb (op :: ops) →
      (∀ r ∈ (stepSt cfg lb op).1.sub.adjLog, P r) ∧ I (stepSt cfg lb op).1 ops) :
    ∀ (ops : List Op) (lb : St), I lb ops → ∀ q ∈ comp6.trace cfg lb ops, ∀ r ∈ q.2.adj, P r := by
  intro ops
  induction ops with
  | nil => intro lb _ q hq; cases hq
  | cons op ops ih =>
    intro lb hi q hq r hr
    obtain ⟨h1, h2⟩ := step lb op ops hi
    rcases List.mem_cons.1 hq with rfl | hq
    · exact h1 r hr
    · exact ih _ h2 q hq r hr

theorem trace_legal (cfg : Cfg) (ops : List Op) : ∀ lb : St, logsLegal cfg lb ops = true →
    ∀ p ∈ comp6.trace cfg lb ops, ∀ r ∈ p.2.adj, recLegal r = true :=
  trace_records (I := fun lb ops => logsLegal cfg lb ops = true) (fun lb op ops h => by
    rw [logsLegal, Bool.and_eq_true] at h
    exact ⟨fun r hr => List.all_eq_true.1 h.1 r hr, h.2⟩) ops

theorem trace_adjGood (cfg : Cfg) (ops : List Op) : ∀ (p : Proto) (lb : St), RInv cfg p lb → protoOk p ops = true →
    ∀ q ∈ comp6.trace cfg lb ops, ∀ r ∈ q.2.adj, adjGood cfg r :=
  fun p lb h hp => trace_records (I := fun lb ops => ∃ p, RInv cfg p lb ∧ protoOk p ops = true)
    (fun _ _ _ ⟨_, h, hp⟩ =>
      have ⟨p', hp', h', _, _⟩ := h.cons hp
      ⟨h'.full.log, p', h', hp'⟩) ops lb ⟨p, h, hp⟩

end Scales.LB
