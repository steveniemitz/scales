/-
  Proofs/AsyncLemmas.lean — C17 (Model/Async.lean, Adapter/Async.lean): the model's trace satisfies
  `spec` by one induction over the operations (`specGo_of_rel_step`), given a relation between what
  the specification remembers and the model state: for WhenAll the invariant `WAInv`, for WhenAny
  the closed form `anyState`, for Unwrap `UWInv`, for ContinueWith and Map together `OnceRel`.
-/
import ScalesModel.Adapter.Async
import ScalesModel.Proofs.VerdictLemmas
import ScalesModel.Proofs.RunLemmas
import Mathlib.Data.List.Perm.Subperm

namespace Scales.Async

/-- a completion order of `n` inputs, or a prefix of one: gevent calls each link once -/
structure Deliv (n : Nat) (ds : List Nat) : Prop where
  nodup : ds.Nodup
  lt : ∀ x ∈ ds, x < n

namespace Deliv
variable {n : Nat} {ds : List Nat}

theorem nil : Deliv n [] := ⟨List.nodup_nil, fun _ h => nomatch h⟩

theorem snoc {i : Nat} (h : Deliv n ds) (hi : i < n) (hni : i ∉ ds) : Deliv n (ds ++ [i]) where
  nodup := List.nodup_append.mpr ⟨h.nodup, List.pairwise_singleton _ i, fun _ ha _ hb hab =>
    hni (List.mem_singleton.mp hb ▸ hab ▸ ha)⟩
  lt x hx := (List.mem_append.mp hx).elim (h.lt x) fun hx => List.mem_singleton.mp hx ▸ hi

theorem left {l₁ l₂ : List Nat} (h : Deliv n (l₁ ++ l₂)) : Deliv n l₁ :=
  ⟨(List.nodup_append.mp h.nodup).1, fun x hx => h.lt x (List.mem_append_left _ hx)⟩

theorem subperm (h : Deliv n ds) : ds.Subperm (List.range n) :=
  h.nodup.subperm fun x hx => List.mem_range.mpr (h.lt x hx)

theorem length_le (h : Deliv n ds) : ds.length ≤ n :=
  List.length_range (n := n) ▸ h.subperm.length_le

theorem mem_of_full (h : Deliv n ds) (hlen : ds.length = n) {i : Nat} (hi : i < n) : i ∈ ds :=
  (h.subperm.perm_of_length_le (Nat.le_of_eq (List.length_range.trans hlen.symm))).mem_iff.mpr
    (List.mem_range.mpr hi)

end Deliv

theorem countdown_zero {n d : Nat} (h : d + 1 ≤ n) : n - (d + 1) = 0 ↔ d + 1 = n :=
  Nat.sub_eq_zero_iff_le.trans ⟨Nat.le_antisymm h, fun e => Nat.le_of_eq e.symm⟩

theorem getLast?_of_full {n : Nat} {ds : List Nat} (hn : 1 ≤ n) (hl : ds.length = n) :
    ∃ d, ds.getLast? = some d := by
  cases ds with
  | nil => exact absurd hn (hl ▸ Nat.not_succ_le_zero 0)
  | cons x xs => exact ⟨_, List.getLast?_eq_some_getLast (List.cons_ne_nil x xs)⟩

/-- Induction over a delivery sequence for `WA.run` and `WAny.run` alike: both have the shape
    `hnil`, `hcons` (deliveries in order, an index out of range skipped). -/
theorem run_deliv {σ : Type} (outs : List Out) (run : σ → List Nat → σ) (step : σ → Nat → Out → σ)
    (hnil : ∀ s, run s [] = s)
    (hcons : ∀ s d ds, run s (d :: ds) =
      match outs[d]? with | some o => run (step s d o) ds | none => run s ds)
    (P : List Nat → σ → Prop)
    (hstep : ∀ {done s d o}, outs[d]? = some o → Deliv outs.length (done ++ [d]) → P done s →
      P (done ++ [d]) (step s d o)) :
    ∀ (ds done : List Nat) (s : σ), Deliv outs.length (done ++ ds) → P done s →
      P (done ++ ds) (run s ds) := by
  intro ds
  induction ds with
  | nil => intro done s _ h; rwa [List.append_nil, hnil]
  | cons d ds ih =>
    intro done s hdl h
    rw [List.append_cons] at hdl ⊢
    have hlt : d < outs.length := hdl.lt d (by simp)
    have hd : outs[d]? = some outs[d] := List.getElem?_eq_getElem hlt
    rw [hcons, hd]
    exact ih _ _ hdl (hstep hd hdl.left h)

theorem isErrAt_of {outs : List Out} {d : Nat} {o : Out} (h : outs[d]? = some o) :
    isErrAt outs d = !o.isOk := by
  cases o <;> simp [isErrAt, h, Out.isOk]

theorem isOkAt_of {outs : List Out} {d : Nat} {o : Out} (h : outs[d]? = some o) :
    isOkAt outs d = o.isOk := by
  cases o <;> simp [isOkAt, h, Out.isOk]

theorem isErr_of_not_isOk {outs : List Out} {i : Nat} (hi : i < outs.length)
    (h : isOkAt outs i = false) : isErrAt outs i = true := by
  rw [isOkAt_of (List.getElem?_eq_getElem hi)] at h
  rw [isErrAt_of (List.getElem?_eq_getElem hi), h]; rfl

theorem failsIn_snoc (outs : List Out) (done : List Nat) (d : Nat) :
    failsIn outs (done ++ [d]) = if isErrAt outs d then failsIn outs done ++ [d] else failsIn outs done := by
  unfold failsIn
  rw [List.filter_append, List.filter_cons, List.filter_nil]
  split <;> simp

/-- WhenAll after the deliveries `done`.  `total` and `results` are stated only while nothing has
    failed: from the first failure on `WA.complete` leaves them as they are while `done` grows.  Of
    the slots only the delivered positions: they are read once, when the count reaches zero, and by
    then every position has been delivered. -/
def WAInv (outs : List Out) (done : List Nat) (s : WA) : Prop :=
  s.ret = allExpected outs done ∧
  (failsIn outs done = [] → s.total = outs.length - done.length ∧
    s.results.length = outs.length ∧ ∀ i ∈ done, s.results[i]? = (outs[i]?).map valOf)

theorem WAInv_init (outs : List Out) (hn : 1 ≤ outs.length) : WAInv outs [] (WA.init outs.length) :=
  ⟨(if_neg (Nat.ne_of_lt hn)).symm, fun _ => ⟨rfl, List.length_replicate, nofun⟩⟩

theorem WAInv_step {outs : List Out} {done : List Nat} {s : WA} {d : Nat} {o : Out}
    (hd : outs[d]? = some o) (hdl : Deliv outs.length (done ++ [d])) (h : WAInv outs done s) :
    WAInv outs (done ++ [d]) (s.complete d o) := by
  have hlen : done.length + 1 ≤ outs.length := by simpa using hdl.length_le
  obtain ⟨hret, hcnt⟩ := h
  unfold WAInv allExpected
  rw [failsIn_snoc, isErrAt_of hd]
  cases o with
  | err e =>
    simp only [Out.isOk, Bool.not_false, if_true, List.getLast?_concat]
    exact ⟨by simp [WA.complete, errAt, hd], fun h => absurd h (by simp)⟩
  | ok v =>
    simp only [Out.isOk, Bool.not_true, Bool.false_eq_true, if_false]
    unfold allExpected at hret
    cases hf : failsIn outs done with
    | cons f fs =>
      -- a failure was delivered before: the result is set and stays
      rw [hf, List.getLast?_eq_some_getLast (List.cons_ne_nil f fs)] at hret
      simp only [WA.complete, hret, Res.ready, if_true]
      exact ⟨by rw [List.getLast?_eq_some_getLast (List.cons_ne_nil f fs)], nofun⟩
    | nil =>
      obtain ⟨ht, hl, hr⟩ := hcnt hf
      -- nothing failed and `d` is still missing, so the result is pending and `complete` counts (`hc`)
      rw [hf, List.getLast?_nil, if_neg (Nat.ne_of_lt hlen)] at hret
      have hr' : ∀ i ∈ done ++ [d], (s.results.set d (some v))[i]? = (outs[i]?).map valOf := by
        intro i hi
        rw [List.getElem?_set]
        split
        · next hid => rw [← hid, hd, if_pos (hl ▸ hdl.lt d (by simp))]; rfl
        · next hid => exact hr i ((List.mem_append.mp hi).resolve_right fun h => hid (List.mem_singleton.mp h).symm)
      have hc : s.complete d (.ok v) =
          ⟨outs.length - (done.length + 1), s.results.set d (some v),
            if done.length + 1 = outs.length then .vals (s.results.set d (some v)) else .pending⟩ := by
        simp only [WA.complete, hret, Res.ready, Bool.false_eq_true, if_false, ht,
          Nat.sub_sub, beq_iff_eq, countdown_zero hlen]
        split <;> rfl
      rw [hc]
      refine ⟨?_, fun _ => ⟨by rw [List.length_append]; rfl, by rw [List.length_set, hl], hr'⟩⟩
      simp only [List.getLast?_nil, List.length_append, List.length_singleton]
      -- with every input delivered the slots are the inputs' values
      by_cases hfull : done.length + 1 = outs.length
      · rw [if_pos hfull, if_pos hfull]
        congr 1
        refine List.ext_getElem? fun i => ?_
        by_cases hi : i < outs.length
        · rw [hr' i (hdl.mem_of_full (List.length_append.trans hfull) hi), List.getElem?_map]
        · rw [List.getElem?_eq_none (by rw [List.length_set, hl]; exact Nat.le_of_not_lt hi),
            List.getElem?_eq_none (by rw [List.length_map]; exact Nat.le_of_not_lt hi)]
      · rw [if_neg hfull, if_neg hfull]

theorem WA_run_ret {outs : List Out} {ds : List Nat} (hn : 1 ≤ outs.length)
    (hdl : Deliv outs.length ds) :
    (WA.run outs (WA.init outs.length) ds).ret = allExpected outs ds :=
  (run_deliv outs (WA.run outs) WA.complete (fun _ => rfl) (fun _ _ _ => rfl) (WAInv outs) WAInv_step
    ds [] _ hdl (WAInv_init outs hn)).1

theorem accAll_expected (outs : List Out) (ds : List Nat) :
    accAll outs ds (allExpected outs ds) = true := by
  unfold accAll allExpected
  cases hf : failsIn outs ds with
  | nil => simp only [List.getLast?_nil]; split <;> simp
  | cons d fs =>
    have hne : (d :: fs) ≠ [] := List.cons_ne_nil d fs
    rw [List.getLast?_eq_some_getLast hne]
    simp only [List.any_eq_true, beq_iff_eq]
    exact ⟨_, List.getLast_mem hne, rfl⟩

/-- the state of WhenAny after the deliveries `ds`, in closed form -/
def anyState (outs : List Out) (pre : List Bool) (ds : List Nat) : AnyRet :=
  match firstReadyOk outs pre with
  | some i => .same i
  | none => .fresh (outs.length - ds.length) (anyExpected outs ds)

theorem anyState_nil (outs : List Out) (pre : List Bool) : anyState outs pre [] = WAny.init outs pre := by
  unfold anyState WAny.init
  cases firstReadyOk outs pre <;> simp [anyExpected]

theorem anyState_snoc {outs : List Out} (pre : List Bool) {done : List Nat} {d : Nat} {o : Out}
    (hd : outs[d]? = some o) (hdl : Deliv outs.length (done ++ [d])) :
    WAny.complete (anyState outs pre done) o = anyState outs pre (done ++ [d]) := by
  have hlen : done.length + 1 ≤ outs.length := by simpa using hdl.length_le
  unfold anyState
  split
  · rfl
  · simp only [WAny.complete, List.length_append, List.length_singleton, Nat.sub_sub,
      AnyRet.fresh.injEq, true_and]
    unfold anyExpected WAny.newRet
    rw [List.find?_append]
    cases hf : done.find? (isOkAt outs) with
    | some d' => rfl
    | none =>
      simp only [Option.none_or, List.find?_singleton, isOkAt_of hd, if_neg (Nat.ne_of_lt hlen),
        Res.ready, Bool.false_eq_true, if_false, List.length_append, List.length_singleton,
        List.getLast?_concat]
      cases o with
      | ok v => simp [Out.isOk, valAt, hd]
      | err e =>
        simp only [Out.isOk, Bool.false_eq_true, if_false, errAt, hd, beq_iff_eq]
        by_cases hfull : done.length + 1 = outs.length
        · rw [if_pos ((countdown_zero hlen).mpr hfull), if_pos hfull]
        · rw [if_neg (mt (countdown_zero hlen).mp hfull), if_neg hfull]

theorem WAny_run_init (outs : List Out) (pre : List Bool) {ds : List Nat}
    (hdl : Deliv outs.length ds) : WAny.run outs (WAny.init outs pre) ds = anyState outs pre ds :=
  run_deliv outs (WAny.run outs) (fun s _ o => WAny.complete s o) (fun _ => rfl) (fun _ _ _ => rfl)
    (fun done s => s = anyState outs pre done) (fun hd hdl h => h ▸ anyState_snoc pre hd hdl)
    ds [] _ hdl (anyState_nil outs pre).symm

theorem WAny_run_same (outs : List Out) (i : Nat) (ds : List Nat) :
    WAny.run outs (.same i) ds = .same i := by
  induction ds with
  | nil => rfl
  | cons d ds ih =>
    simp only [WAny.run]
    split <;> simp [WAny.complete, ih]

theorem accAny_expected {outs : List Out} (pre : List Bool) {ds : List Nat} (hn : 1 ≤ outs.length)
    (hdl : Deliv outs.length ds) :
    accAny outs pre ds (anyExpected outs ds) = true := by
  unfold anyExpected
  cases hf : ds.find? (isOkAt outs) with
  | some d => simp [accAny, hf]
  | none =>
    by_cases hl : ds.length = outs.length
    · simp only [hl, if_true]
      obtain ⟨d, hg⟩ := getLast?_of_full hn hl
      rw [List.find?_eq_none] at hf
      simp only [accAny, hg, Bool.and_eq_true, List.all_eq_true,
        List.mem_range, Bool.or_eq_true]
      refine ⟨fun i hi => ?_, ?_⟩
      · have hm := hdl.mem_of_full hl hi
        exact ⟨isErr_of_not_isOk hi (by simpa using hf i hm), Or.inr (by simpa using hm)⟩
      · split
        · simp
        · simp only [List.any_eq_true, List.mem_range, beq_iff_eq]
          exact ⟨d, hdl.lt d (List.mem_of_getLast? hg), rfl⟩
    · simp [accAny, hf, hl]

theorem firstReadyOk_some {outs : List Out} {pre : List Bool} {i : Nat}
    (h : firstReadyOk outs pre = some i) :
    pre.getD i false = true ∧ ∃ v, outs[i]? = some (.ok v) := by
  unfold firstReadyOk at h
  have hsome := List.find?_some h
  have hi : i < outs.length := List.mem_range.mp (List.mem_of_find?_eq_some h)
  rw [Bool.and_eq_true, List.getD_eq_getElem?_getD (l := outs), List.getElem?_eq_getElem hi]
    at hsome
  refine ⟨hsome.1, ?_⟩
  rw [List.getElem?_eq_getElem hi]
  cases ho : outs[i] with
  | ok v => exact ⟨v, rfl⟩
  | err e => rw [ho] at hsome; exact absurd hsome.2 nofun

theorem view_same {outs : List Out} {pre : List Bool} (ds : List Nat) {i v : Nat}
    (hp : pre.getD i false = true) (ho : outs[i]? = some (.ok v)) :
    WAny.view outs pre ds (.same i) = .val v := by
  simp only [WAny.view, ho, hp, Bool.true_or, if_true]

theorem accAny_same {outs : List Out} {pre : List Bool} (ds : List Nat) {i : Nat}
    (h : firstReadyOk outs pre = some i) :
    accAny outs pre ds (WAny.view outs pre ds (.same i)) = true := by
  obtain ⟨hp, v, ho⟩ := firstReadyOk_some h
  have hi : i < outs.length := (List.getElem?_eq_some_iff.mp ho).1
  rw [view_same ds hp ho]
  simp only [accAny, Bool.or_eq_true, List.any_eq_true, List.mem_range, Bool.and_eq_true,
    beq_iff_eq]
  exact Or.inr ⟨i, hi, ⟨hp, by rw [isOkAt_of ho]; rfl⟩, by simp [valAt, ho]⟩

theorem accAny_anyState {outs : List Out} (pre : List Bool) {ds : List Nat} (hn : 1 ≤ outs.length)
    (hdl : Deliv outs.length ds) :
    accAny outs pre ds (WAny.view outs pre ds (anyState outs pre ds)) = true := by
  unfold anyState
  split
  · next i hf => exact accAny_same ds hf
  · exact accAny_expected pre hn hdl

/-- a well-formed chain by index, which is how `UW.walk` reads it -/
theorem termIdx_spec {c : List Lvl} (h : chainWF c = true) :
    (∀ j, j < termIdx c → c[j]? = some .inner) ∧
    ∃ x, c[termIdx c]? = some x ∧ x ≠ .inner ∧ chainOutcome c = chainOutcome [x] := by
  induction c with
  | nil => cases h
  | cons x r ih =>
    cases x with
    | inner =>
      have hr : chainWF r = true := by
        cases r with
        | nil => cases h
        | cons y r' => exact h
      obtain ⟨h2, h3⟩ := ih hr
      refine ⟨fun j hj => ?_, h3⟩
      cases j with
      | zero => rfl
      | succ j => exact h2 j (Nat.lt_of_succ_lt_succ hj)
    | plain v => exact ⟨nofun, _, rfl, nofun, rfl⟩
    | fail e => exact ⟨nofun, _, rfl, nofun, rfl⟩

theorem chainOutcome_ready {c : List Lvl} (h : chainWF c = true) : (chainOutcome c).ready = true := by
  obtain ⟨_, x, _, hne, ho⟩ := termIdx_spec h
  rw [ho]
  cases x with
  | inner => exact absurd rfl hne
  | _ => rfl

/-- Unwrap's invariant, indexed by the state record so that `cases` puts the record in place of the
    state.  `wait`: the helper is linked to level `p`, every level below it is complete, the target
    untouched.  `done`: the helper stopped at the terminal level, every level up to it is complete,
    the target was set once, to the chain's outcome. -/
inductive UWInv : UW → Prop
  | wait {c : List Lvl} {r : List Bool} {p : Nat} (wf : chainWF c = true) (posle : p ≤ termIdx c)
      (below : ∀ j, j < p → r.getD j false = true) : UWInv ⟨c, r, p, true, .pending, 0⟩
  | done {c : List Lvl} {r : List Bool} (wf : chainWF c = true)
      (upto : ∀ j, j ≤ termIdx c → r.getD j false = true) :
      UWInv ⟨c, r, termIdx c, false, chainOutcome c, 1⟩

theorem settle_chain (s : UW) (k : Nat) :
    (UW.settle s k).chain = s.chain ∧ (UW.settle s k).ready = s.ready := by
  unfold UW.settle
  split
  split <;> exact ⟨rfl, rfl⟩

theorem deliver_chain (s : UW) : s.deliver.chain = s.chain ∧ s.deliver.ready = s.ready := by
  unfold UW.deliver
  split
  · exact settle_chain s s.pos
  · exact ⟨rfl, rfl⟩

theorem settle_inv {c : List Lvl} {r : List Bool} {p0 : Nat} {w0 : Bool} (k : Nat)
    (hwf : chainWF c = true) (hk : k ≤ termIdx c) (hbelow : ∀ j, j < k → r.getD j false = true) :
    UWInv (UW.settle ⟨c, r, p0, w0, .pending, 0⟩ k) ∧
      (UW.settle ⟨c, r, p0, w0, .pending, 0⟩ k).deliverEnabled = false := by
  obtain ⟨ht2, x, hx, hne, hout⟩ := termIdx_spec hwf
  have ht1 := (List.getElem?_eq_some_iff.mp hx).1
  have hf : termIdx c + 1 - k ≤ c.length + 1 - k :=
    Nat.sub_le_sub_right (Nat.succ_le_succ (Nat.le_of_lt ht1)) k
  unfold UW.settle
  dsimp only
  generalize c.length + 1 - k = fuel at hf
  fun_induction UW.walk c r fuel k with
  | case1 k => exact absurd (Nat.sub_pos_of_lt (Nat.lt_succ_of_le hk)) (Nat.not_lt.mpr hf)
  | case2 fuel k hr e hc | case3 fuel k hr v hc =>
    -- a level that is not `inner` is the terminal one
    have hkt : k = termIdx c :=
      Nat.le_antisymm hk (Nat.le_of_not_lt fun hlt => by rw [ht2 k hlt] at hc; cases hc)
    subst hkt
    cases hx.symm.trans hc
    -- the `done` record carries the chain's outcome; `hout` makes it this level's, the rest computes
    have hd := UWInv.done (r := r) hwf fun j hj => (Nat.lt_or_eq_of_le hj).elim (hbelow j) (· ▸ hr)
    rw [hout] at hd
    exact ⟨hd, rfl⟩
  | case4 fuel k hr hc ih =>
    have hklt : k < termIdx c :=
      Nat.lt_of_le_of_ne hk fun hkt => hne (Option.some.inj (hx.symm.trans (hkt ▸ hc)))
    exact ih hklt (fun j hj => (Nat.lt_succ_iff_lt_or_eq.mp hj).elim (hbelow j) (· ▸ hr))
      (by rw [Nat.sub_add_eq]; exact Nat.sub_le_of_le_add hf)
  | case5 fuel k hr hc =>
    exact absurd hc (by rw [List.getElem?_eq_getElem (Nat.lt_of_le_of_lt hk ht1)]; nofun)
  | case6 fuel k hr =>
    exact ⟨.wait hwf hk hbelow, by simpa [UW.deliverEnabled] using hr⟩

theorem UW_init_inv (chain : List Lvl) (pre : List Bool) (hwf : chainWF chain = true) :
    UWInv (UW.init chain pre) :=
  (settle_inv 0 hwf (Nat.zero_le _) nofun).1

theorem getD_set_mono {l : List Bool} (k : Nat) {j : Nat} (h : l.getD j false = true) :
    (l.set k true).getD j false = true := by
  rw [List.getD_eq_getElem?_getD, List.getElem?_set] at *
  split
  · next hjk =>
    subst hjk
    split
    · rfl
    · next hlt => rw [List.getElem?_eq_none (Nat.le_of_not_lt hlt)] at h; cases h
  · exact h

theorem UW_setLevel_inv {s : UW} (k : Nat) (h : UWInv s) : UWInv (s.setLevel k) := by
  cases h with
  | wait wf posle below => exact .wait wf posle fun j hj => getD_set_mono k (below j hj)
  | done wf upto => exact .done wf fun j hj => getD_set_mono k (upto j hj)

theorem UW_deliver_inv {s : UW} (h : UWInv s) : UWInv s.deliver ∧ s.deliver.deliverEnabled = false := by
  cases h with
  | wait wf posle below =>
    unfold UW.deliver
    split
    · exact settle_inv _ wf posle below
    · next he => exact ⟨.wait wf posle below, Bool.eq_false_iff.mpr he⟩
  | done wf upto => exact ⟨.done wf upto, rfl⟩

theorem readyOf_set (pre : List Bool) (n : Nat) (sets : List Nat) (k : Nat) :
    (readyOf pre n sets).set k true = readyOf pre n (sets ++ [k]) := by
  apply List.ext_getElem
  · simp only [readyOf, List.length_set, List.length_map]
  · intro i h1 h2
    simp only [readyOf, List.getElem_set, List.getElem_map, List.getElem_range, List.contains_eq_mem,
      List.mem_append, List.mem_singleton]
    split
    · next h => simp only [h, or_true, decide_true, Bool.or_true]
    · next h => simp only [Ne.symm h, or_false]

theorem allReadyUpTo_iff (ready : List Bool) (t : Nat) :
    allReadyUpTo ready t = true ↔ ∀ j, j ≤ t → ready.getD j false = true := by
  simp only [allReadyUpTo, List.all_eq_true, List.mem_range, Nat.lt_succ_iff]

/-- One induction over the operations for a relation `R` between what the specification remembers
    and the model state.  Relation and verdict of a step are asked for together, which Unwrap needs:
    the verdict after `drain` uses what `deliver` has just established. -/
theorem specGo_of_rel_step (cfg : Cfg) (R : Acc → St → Prop)
    (hstep : ∀ a st op, R a st → opOk cfg a op = true →
      R (a.after op) (stepSt cfg st op) ∧
        ∀ idx, specObs cfg (a.after op) idx op (obsOf cfg (stepSt cfg st op)) = .ok) :
    ∀ (ops : List Op) (a : Acc) (st : St) (idx : Nat), R a st → opsOk cfg a ops = true →
      specGo cfg a idx (comp.trace cfg st ops) = .ok := by
  intro ops
  induction ops with
  | nil => intros; rfl
  | cons op ops ih =>
    intro a st idx h hok
    obtain ⟨hop, hrest⟩ := Bool.and_eq_true_iff.mp hok
    obtain ⟨h', hobs⟩ := hstep a st op h hop
    rw [TComp.trace_cons comp step, specGo]
    exact Verdict.and_ok (hobs idx) (ih _ _ _ h' hrest)

theorem specGo_of_rel (cfg : Cfg) (R : Acc → St → Prop)
    (hpres : ∀ a st op, R a st → opOk cfg a op = true → R (a.after op) (stepSt cfg st op))
    (hobs : ∀ a st idx op, R a st → specObs cfg a idx op (obsOf cfg st) = .ok) :
    ∀ (ops : List Op) (a : Acc) (st : St) (idx : Nat), R a st → opsOk cfg a ops = true →
      specGo cfg a idx (comp.trace cfg st ops) = .ok :=
  specGo_of_rel_step cfg R fun a st op h hop =>
    ⟨hpres a st op h hop, fun idx => hobs _ _ idx op (hpres a st op h hop)⟩

theorem opOk_deliver {outs : List Out} {i : Nat} {ds : List Nat} (hdl : Deliv outs.length ds)
    (h : (decide (i < outs.length) && !ds.contains i) = true) :
    ∃ o, outs[i]? = some o ∧ Deliv outs.length (ds ++ [i]) := by
  obtain ⟨hi, hni⟩ : i < outs.length ∧ i ∉ ds := by simpa using h
  exact ⟨_, List.getElem?_eq_getElem hi, hdl.snoc hi hni⟩

def WhenAllRel (outs : List Out) (a : Acc) (st : St) : Prop :=
  ∃ s, st = .wa s a.ds ∧ Deliv outs.length a.ds ∧ WAInv outs a.ds s

theorem whenAll_pres (outs : List Out) (a : Acc) (st : St) (op : Op) (h : WhenAllRel outs a st)
    (hop : opOk (.whenAll outs) a op = true) :
    WhenAllRel outs (a.after op) (stepSt (.whenAll outs) st op) := by
  obtain ⟨s, rfl, hdl, hinv⟩ := h
  cases op with
  | look => exact ⟨s, rfl, hdl, hinv⟩
  | deliver i =>
    obtain ⟨o, hd, hdl'⟩ := opOk_deliver hdl hop
    exact ⟨_, by simp only [stepSt, hd]; rfl, hdl', WAInv_step hd hdl' hinv⟩
  | set _ | drain => cases hop

theorem whenAll_obs (outs : List Out) (a : Acc) (st : St) (idx : Nat) (op : Op)
    (h : WhenAllRel outs a st) : specObs (.whenAll outs) a idx op (obsOf (.whenAll outs) st) = .ok := by
  obtain ⟨s, rfl, _, hinv⟩ := h
  simp only [specObs, obsOf, hinv.1, accAll_expected, if_true]

def WhenAnyRel (outs : List Out) (pre : List Bool) (a : Acc) (st : St) : Prop :=
  st = .wany (anyState outs pre a.ds) a.ds ∧ Deliv outs.length a.ds

theorem whenAny_pres (outs : List Out) (pre : List Bool) (a : Acc) (st : St) (op : Op)
    (h : WhenAnyRel outs pre a st) (hop : opOk (.whenAny outs pre) a op = true) :
    WhenAnyRel outs pre (a.after op) (stepSt (.whenAny outs pre) st op) := by
  obtain ⟨rfl, hdl⟩ := h
  cases op with
  | look => exact ⟨rfl, hdl⟩
  | deliver i =>
    obtain ⟨o, hd, hdl'⟩ := opOk_deliver hdl hop
    exact ⟨by simp only [stepSt, hd, anyState_snoc pre hd hdl']; rfl, hdl'⟩
  | set _ | drain => cases hop

theorem whenAny_obs (outs : List Out) (pre : List Bool) (hn : 1 ≤ outs.length) (a : Acc) (st : St)
    (idx : Nat) (op : Op) (h : WhenAnyRel outs pre a st) :
    specObs (.whenAny outs pre) a idx op (obsOf (.whenAny outs pre) st) = .ok := by
  obtain ⟨rfl, hdl⟩ := h
  simp only [specObs, obsOf, accAny_anyState pre hn hdl, if_true]

def UnwrapRel (chain : List Lvl) (pre : List Bool) (a : Acc) (st : St) : Prop :=
  ∃ u, st = .uw u ∧ UWInv u ∧ u.chain = chain ∧ u.ready = readyOf pre chain.length a.sets

/-- `hdrain`: right after a link delivery none is outstanding -/
theorem unwrap_obs {chain : List Lvl} {pre : List Bool} {a : Acc} {u : UW} (op : Op)
    (hinv : UWInv u) (hc : u.chain = chain) (hr : u.ready = readyOf pre chain.length a.sets)
    (hdrain : op = .drain → u.deliverEnabled = false) :
    UnwrapRel chain pre a (.uw u) ∧
      ∀ idx, specObs (.unwrap chain pre) a idx op ⟨u.target, u.sets⟩ = .ok := by
  refine ⟨⟨u, rfl, hinv, hc, hr⟩, fun idx => ?_⟩
  subst hc
  unfold specObs
  simp only
  rw [← hr]
  cases hinv with
  | @wait c r p wf posle below =>
    by_cases hop : op = .drain
    · have : allReadyUpTo r (termIdx c) = false :=
        Bool.eq_false_iff.mpr fun ha => Bool.false_ne_true
          ((hdrain hop).symm.trans ((allReadyUpTo_iff _ _).mp ha _ posle))
      simp [this]
    · simp [hop]
  | @done c r wf upto =>
    have hne : chainOutcome c ≠ .pending := fun h => nomatch h ▸ chainOutcome_ready wf
    simp [hne, (allReadyUpTo_iff _ _).mpr upto]

theorem unwrap_step (chain : List Lvl) (pre : List Bool) (a : Acc) (st : St) (op : Op)
    (h : UnwrapRel chain pre a st) (hop : opOk (.unwrap chain pre) a op = true) :
    UnwrapRel chain pre (a.after op) (stepSt (.unwrap chain pre) st op) ∧
      ∀ idx, specObs (.unwrap chain pre) (a.after op) idx op
        (obsOf (.unwrap chain pre) (stepSt (.unwrap chain pre) st op)) = .ok := by
  obtain ⟨u, rfl, hinv, hc, hr⟩ := h
  cases op with
  | look => exact unwrap_obs _ hinv hc hr nofun
  | deliver i => cases hop
  | set k =>
    exact unwrap_obs _ (UW_setLevel_inv k hinv) hc
      (by rw [UW.setLevel, hr]; exact readyOf_set pre chain.length a.sets k) nofun
  | drain =>
    obtain ⟨hinv', hwait⟩ := UW_deliver_inv hinv
    exact unwrap_obs _ hinv' ((deliver_chain u).1.trans hc) ((deliver_chain u).2.trans hr)
      fun _ => hwait

/-- the combinators with a single source -/
def Cfg.once : Cfg → Bool
  | .cw _ | .map _ _ => true
  | _ => false

/-- ContinueWith and Map (`Cfg.once`) see at most one delivery, so the state is the initial one or
    the one after that delivery.  The second is written as the model's own step (which ignores the
    index), so the relation says nothing about `CW` or `mapDeliver` and serves both combinators;
    `once_obs` then checks the finitely many closed cases. -/
def OnceRel (cfg : Cfg) (a : Acc) (st : St) : Prop :=
  (a.ds.length = 0 ∧ st = initSt cfg) ∨
    (a.ds.length = 1 ∧ st = stepSt cfg (initSt cfg) (.deliver 0))

theorem once_pres (cfg : Cfg) (hc : cfg.once = true) (a : Acc) (st : St) (op : Op)
    (h : OnceRel cfg a st) (hop : opOk cfg a op = true) :
    OnceRel cfg (a.after op) (stepSt cfg st op) := by
  cases cfg with
  | whenAll _ | whenAny _ _ | unwrap _ _ => cases hc
  | cw _ | map _ _ =>
    cases op with
    | look => rcases h with ⟨h1, rfl⟩ | ⟨h1, rfl⟩ <;> [exact .inl ⟨h1, rfl⟩; exact .inr ⟨h1, rfl⟩]
    | deliver i =>
      have hds : a.ds = [] := List.isEmpty_iff.mp hop
      rcases h with ⟨_, rfl⟩ | ⟨h1, _⟩
      · exact .inr ⟨by rw [Acc.after, hds]; rfl, rfl⟩
      · rw [hds] at h1; cases h1
    | set _ | drain => cases hop

theorem once_obs (cfg : Cfg) (hc : cfg.once = true) (a : Acc) (st : St) (idx : Nat) (op : Op)
    (h : OnceRel cfg a st) : specObs cfg a idx op (obsOf cfg st) = .ok := by
  cases cfg with
  | whenAll _ | whenAny _ _ | unwrap _ _ => cases hc
  | cw f =>
    rcases h with ⟨h1, rfl⟩ | ⟨h1, rfl⟩ <;>
      simp only [specObs, h1, if_true, Nat.one_ne_zero, if_false]
    · exact if_pos ⟨rfl, rfl⟩
    · cases f <;> exact if_pos ⟨rfl, rfl⟩
  | map o f =>
    rcases h with ⟨h1, rfl⟩ | ⟨h1, rfl⟩ <;>
      simp only [specObs, h1, if_true, Nat.one_ne_zero, if_false]
    · exact if_pos ⟨rfl, rfl⟩
    · cases o <;> cases f <;> exact if_pos ⟨rfl, rfl⟩

end Scales.Async
