/-
  Proofs/MuxTParkedSpec.lean — C08, ThriftMux transport with the callers blocked on its open
  result (`PSt`, `POp`): what the blocked callers do when they resume at the end of a drain
  (`parkedGo`, `PSt.finish`), the invariant `InvP` of the combined state, and its simulation `RelP` by
  the accumulator of the executable specification, which runs the transport's own `step_ok` (`RelP.core`).
-/
import ScalesModel.Proofs.MuxTSpecLemmas
namespace Scales.MuxT
open Scales.Transport

theorem request_eq_step (t : St) (id tag : Nat) : t.request id tag = stepOut t (.req id tag) := rfl

theorem parkedGo_cons (p : Nat × Nat) (rest : List (Nat × Nat)) (t : St) :
    parkedGo (p :: rest) t =
      ((parkedGo rest (t.request p.1 p.2).1).1,
       (t.request p.1 p.2).2.eff.dels ++ (parkedGo rest (t.request p.1 p.2).1).2) := rfl

theorem Stable.parkedGo {P : St → Prop} (h : Stable P) : ∀ (X : List (Nat × Nat)) (t : St), P t →
    P (parkedGo X t).1
  | [], _, hp => hp
  | p :: rest, t, hp => h.parkedGo rest _ (h.step t (.req p.1 p.2) hp)

theorem parkedGo_rejects : ∀ (X : List (Nat × Nat)) (t : St), t.cstate ≠ .opened → t.opening = false →
    parkedGo X t = (t, X.map (fun p => (p.1, Resp.other)))
  | [], _, _, _ => rfl
  | p :: rest, t, hc, ho => by
    rw [parkedGo_cons, request_rejected t p.1 p.2 hc ho, parkedGo_rejects rest t hc ho]; rfl

theorem parkedGo_accepts : ∀ (X : List (Nat × Nat)) (t : St), t.cstate = .opened → t.opening = false →
    (parkedGo X t).2 = [] ∧
    (parkedGo X t).1.tagMap = t.tagMap ++ X.map (fun p => (p.2, p.1)) ∧
    qItems (parkedGo X t).1 = qItems t ++ X.map (fun p => Item.req p.2 p.1) ∧
    (parkedGo X t).1.cstate = .opened ∧ (parkedGo X t).1.opening = false
  | [], t, hc, ho => by simp [parkedGo, hc, ho]
  | p :: rest, t, hc, ho => by
    rw [parkedGo_cons, request_opened t p.1 p.2 hc ho]
    obtain ⟨h1, h2, h3, h4, h5⟩ :=
      parkedGo_accepts rest ({ t with tagMap := t.tagMap ++ [(p.2, p.1)], sendQ := t.sendQ ++ [.req p.2 p.1] } : St).pump
        (by simp [hc]) (by simp [ho])
    refine ⟨by simp [h1], ?_, ?_, h4, h5⟩
    · rw [h2]; simp
    · rw [h3, qItems_pump]; simp [qItems, List.append_assoc]

theorem parkedGo_qIds (X : List (Nat × Nat)) (t : St) (hc : t.cstate = .opened) (ho : t.opening = false) :
    qIds (parkedGo X t).1 = qIds t ++ X.map (·.1) := by
  simp only [qIds, (parkedGo_accepts X t hc ho).2.2.1, List.filterMap_append]
  congr 1
  induction X with
  | nil => rfl
  | cons p rest ih => simp [ih]

theorem not_waiting (t : St) (c : Bool) (X : List (Nat × Nat))
    (h : ({ t := t, connecting := c, parked := X } : PSt).waiting = false) :
    t.opening = false ∧ ∀ Y, ({ t := t, connecting := c, parked := Y } : PSt).waiting = false := by
  simp only [PSt.waiting, Bool.or_eq_false_iff] at h ⊢
  exact ⟨h.1, fun _ => h⟩

theorem finish_waiting (ps : PSt) (t' : St) (c' : Bool) (o : Out)
    (h : ({ t := t', connecting := c', parked := ps.parked } : PSt).waiting = true) :
    ps.finish t' c' o = ({ t := t', connecting := c', parked := ps.parked }, o) := by
  simp [PSt.finish, h]

theorem finish_resume (ps : PSt) (t' : St) (c' : Bool) (o : Out)
    (h : ({ t := t', connecting := c', parked := ps.parked } : PSt).waiting = false) :
    ps.finish t' c' o =
      ({ t := (parkedGo ps.parked t').1, connecting := c', parked := [] },
       { o with eff := { o.eff with dels := o.eff.dels ++ (parkedGo ps.parked t').2 } }) := by
  simp [PSt.finish, h]

theorem finish_nil (ps : PSt) (t' : St) (c' : Bool) (o : Out) (h : ps.parked = []) :
    ps.finish t' c' o = ({ t := t', connecting := c', parked := [] }, o) := by
  simp only [PSt.finish, h, parkedGo, List.append_nil]
  split <;> rfl

theorem finish_rejects (ps : PSt) (t' : St) (c' : Bool) (o : Out)
    (h : ({ t := t', connecting := c', parked := ps.parked } : PSt).waiting = false)
    (hc : t'.cstate ≠ .opened) :
    ps.finish t' c' o =
      ({ t := t', connecting := c', parked := [] },
       { o with eff := { o.eff with dels := o.eff.dels ++ ps.parked.map (fun p => (p.1, Resp.other)) } }) := by
  rw [finish_resume ps t' c' o h, parkedGo_rejects ps.parked t' hc (not_waiting _ _ _ h).1]

theorem finish_closed (ps : PSt) (t' : St) (c' : Bool) (o : Out) (hc : t'.cstate = .closed) (hop : t'.opening = false) :
    ps.finish t' c' o =
      ({ t := t', connecting := c', parked := [] },
       { o with eff := { o.eff with dels := o.eff.dels ++ ps.parked.map (fun p => (p.1, Resp.other)) } }) :=
  finish_rejects ps t' c' o (by simp [PSt.waiting, hop, hc]) (by simp [hc])

theorem connected_eq (ps : PSt) (r : Conn) (rs : List (IOOut × Frame)) (hcn : ps.connecting = true)
    (hnc : ps.t.cstate ≠ .closed) :
    stepOutP ps (.connected r rs) =
      ps.finish (stepOut St.init (POp.connected r rs).view).1 false (stepOut St.init (POp.connected r rs).view).2 := by
  cases r <;> simp [stepOutP, PSt.connected, hcn, hnc, stepOut, POp.view]

/-- the transport after a `Close()` that came while the connect was in progress -/
def St.connecting0x : St := (St.connecting0.shutdown false).1

structure InvP (ps : PSt) : Prop where
  inv : Inv ps.t
  invO : InvO ps.t
  conn : ps.connecting = true → ps.t = St.connecting0 ∨ ps.t = St.connecting0x
  wait : ps.parked ≠ [] → ps.waiting = true

theorem invP_init : InvP PSt.init :=
  ⟨inv_init, invO_init, (by intro h; cases h), (by intro h; exact absurd rfl h)⟩

theorem inv_connecting0 : Inv St.connecting0 := by
  refine ⟨⟨?_, ?_⟩, rfl⟩ <;> simp [St.connecting0, St.init]

theorem dead_drains (u : St) (hrl : u.rl = .dead) (hp : u.pending = []) :
    u.dispatch = (u, []) ∧ u.dispatchQ = (u, [], false) ∧ ∀ rs, u.burst rs = (u, {}) := by
  have hd : u.dispatch = (u, []) := by rw [St.dispatch, hp, with_pending_nil u hp]; rfl
  refine ⟨hd, by rw [St.dispatchQ, hp, with_pending_nil u hp]; rfl, fun rs => ?_⟩
  simp only [St.burst, rdMany_dead rs u hrl, hd]; rfl

/-- while the connect is in progress — the transport is as `Open()` left it, or as a `Close()` left
    that: no loop, no ping helper, `_OpenImpl` not waiting for a ping — no operation of the
    transport does anything but `Close()` -/
theorem conn_stable : Stable (fun t => t = St.connecting0 ∨ t = St.connecting0x) where
  burst s rs h := by
    rcases h with h | h <;> subst h
    · exact Or.inl (congrArg Prod.fst ((dead_drains _ rfl rfl).2.2 rs))
    · exact Or.inr (congrArg Prod.fst ((dead_drains _ (by decide) (by decide)).2.2 rs))
  race s rs pos x h := by
    have hx : (St.connecting0.shutdown false).1 = St.connecting0x := rfl
    have key : ∀ t : St, t.rl = .dead → t.sl = .dead → t.pending = [] → (t.shutdown false).1 = St.connecting0x →
        (t.race rs pos x).1 = t ∨ (t.race rs pos x).1 = St.connecting0x := by
      intro t h1 h2 h6 hs
      obtain ⟨d1, d2, d3⟩ := dead_drains t h1 h6
      obtain ⟨e1, e2, e3⟩ := dead_drains St.connecting0x (by decide) (by decide)
      cases x with
      | close =>
        right
        cases pos <;> simp only [St.race, St.hit, hs, e3, rdMany_dead rs t h1, d2, e1, St.resumeIf]
      | _ => left; cases pos <;> simp only [St.race, St.hit, h1, h2, if_true, d3, rdMany_dead rs t h1, d1, d2, St.resumeIf]
    rcases h with h | h <;> subst h
    · exact key _ rfl rfl rfl rfl
    · exact Or.inr ((key _ (by decide) (by decide) (by decide) (by decide)).elim id id)
  shutdown s b h := by rcases h with h | h <;> subst h <;> cases b <;> exact Or.inr (by decide)
  pump s h := by
    rcases h with h | h <;> subst h
    · exact Or.inl (by decide)
    · exact Or.inr (by decide)
  openOk s h hc hn := by
    rcases h with h | h <;> subst h
    · cases hn
    · exact absurd hc (by decide)
  openRefuse s h hc hn := by
    rcases h with h | h <;> subst h
    · cases hn
    · exact absurd hc (by decide)
  request s _ _ h _ hc := by rcases h with h | h <;> subst h <;> cases hc
  wrOk s _ h hsl := by rcases h with h | h <;> subst h <;> cases hsl
  pingDue s h hc := by rcases h with h | h <;> subst h <;> cases hc

theorem waiting_idle (ps : PSt) (hO : InvO ps.t) (h : ps.waiting = true) : ps.t.cstate = .idle := by
  simp only [PSt.waiting, Bool.or_eq_true, Bool.and_eq_true, decide_eq_true_eq] at h
  exact h.elim (fun h => (hO h).2.1) (·.2)

theorem waiting_tagMap (ps : PSt) (hinv : Inv ps.t) (hO : InvO ps.t) (h : ps.waiting = true) :
    ps.t.tagMap = [] :=
  hinv.1.2 (by rw [waiting_idle ps hO h]; simp)

theorem invP_openStart (ps : PSt) : InvP { ps with t := St.connecting0, connecting := true } :=
  ⟨inv_connecting0, invO_of_not_opening _ rfl, fun _ => Or.inl rfl, fun _ => rfl⟩

theorem invP_finish (ps : PSt) (t' : St) (c' : Bool) (o : Out) (h1 : Inv t') (h2 : InvO t')
    (hc : c' = true → t' = St.connecting0 ∨ t' = St.connecting0x) : InvP (ps.finish t' c' o).1 := by
  cases hw : ({ t := t', connecting := c', parked := ps.parked } : PSt).waiting with
  | true => rw [finish_waiting ps t' c' o hw]; exact ⟨h1, h2, hc, fun _ => hw⟩
  | false =>
    rw [finish_resume ps t' c' o hw]
    refine ⟨⟨inv0_stable.parkedGo _ _ h1.1, pending_stable.parkedGo _ _ h1.2⟩, invO_stable.parkedGo _ _ h2,
      fun hc' => ?_, fun h => absurd rfl h⟩
    rcases hc hc' with e | e <;> subst e
    · subst hc'; cases hw
    · right; exact congrArg Prod.fst (parkedGo_rejects ps.parked St.connecting0x (by decide) (by decide))

theorem invP_step (ps : PSt) (op : POp) (h : InvP ps) : InvP (stepOutP ps op).1 := by
  cases op with
  | tr op =>
    exact invP_finish ps _ _ _ (inv_step ps.t op h.inv) (invO_step ps.t op h.invO)
      (fun hc => conn_stable.step ps.t op (h.conn hc))
  | openStart =>
    simp only [stepOutP, PSt.openStart]
    split
    · exact invP_openStart ps
    · exact h
  | connected r rs =>
    simp only [stepOutP, PSt.connected]
    split
    · split
      · rename_i hcl
        refine ⟨h.inv, h.invO, nofun, fun hp => ?_⟩
        have := waiting_idle ps h.invO (h.wait hp)
        rw [this] at hcl; cases hcl
      · cases r with
        | refuse =>
          exact invP_finish ps _ _ _ (inv_step St.init (.openT .refuse) inv_init)
            (invO_step St.init (.openT .refuse) invO_init) nofun
        | ok =>
          exact invP_finish ps _ _ _ (inv_step St.init (.openBurst rs) inv_init)
            (invO_step St.init (.openBurst rs) invO_init) nofun
    · exact h
  | park id tag =>
    simp only [stepOutP, PSt.park]
    split
    · rename_i hw; exact ⟨h.inv, h.invO, h.conn, fun _ => hw⟩
    · exact h

theorem invP_reachable (ops : List POp) : InvP (runOpsP PSt.init ops) := by
  have : ∀ ps, InvP ps → InvP (runOpsP ps ops) := by
    induction ops with
    | nil => intro ps h; exact h
    | cons op ops ih => intro ps h; exact ih _ (invP_step ps op h)
  exact this _ invP_init

/-- Frame of the specification's step in the callers blocked on the open result.  The specification
    accepts `o₀`, which hands out nothing, when nothing is owed; `o` reports the same state, fault signals,
    frames sent and connects while exactly the blocked callers `X` are owed.  Then `o` is a failure only if it
    reports `closed`, and is accepted if it hands out nothing and is no failure (`X` stays owed), or hands
    each of `X` the 'not open' error. -/
theorem specStep_frame (a : Acc) (op : Op) (o₀ o : Obs) (X : List Nat) (hreq : isReq op = none)
    (howed : a.owed = X) (hd₀ : o₀.dels = []) (h1 : o₀.state = o.state) (h2 : o₀.faults = o.faults)
    (h3 : o₀.sent = o.sent) (h4 : o₀.conns = o.conns)
    (h0 : (specStep { a with owed := [] } op o₀).1 = .ok) :
    (o.state ≠ .closed → isFailure op o = false) ∧
    (o.dels = [] → isFailure op o = false → specStep a op o = (.ok, nextAcc a op o X a.abandoned)) ∧
    (o.dels = X.map (fun i => (i, Resp.other)) → specStep a op o = (.ok, nextAcc a op o [] a.abandoned)) := by
  obtain ⟨_, _, _, hv0, hc0, _⟩ := of_specStep_ok _ op _ h0
  -- `isFailure` reads the connects only, `vCarry` (not a request) the state and the frames sent
  have hfl : isFailure op o₀ = isFailure op o := by
    cases o; cases o₀; simp only at h4; subst h4; rfl
  have hc : vCarry a op o = .ok := by
    rw [← hc0]
    cases o; cases o₀; simp only at h1 h3; subst h1 h3
    cases op with
    | req id tag => simp [isReq] at hreq
    | wr o' => cases o' <;> rfl
    | race rs pos x => cases x <;> rfl
    | _ => rfl
  -- what `vFail` asks of an accepted failure beyond "everybody owed is failed"
  have hv : isFailure op o = true →
      (if o.state ≠ .closed then Verdict.fail "not-closed-after-failure" [V.ofNat a.idx, encCS o.state]
       else if a.prev ≠ .closed ∧ o.faults = 0 then .fail "no-fault-signal" [V.ofNat a.idx] else .ok) = .ok := by
    intro h
    have hnn : firstUnfailed op [] ([] : List (Nat × Resp)) = none := by
      cases op <;> simp [firstUnfailed, firstNotFailed]
    simp only [vFail, hfl, h, if_true, owedWith, hreq, hd₀, hnn, h1, h2] at hv0
    exact hv0
  refine ⟨fun hcl => ?_, fun hd hnf => ?_, fun hd => ?_⟩
  · cases h : isFailure op o with
    | false => rfl
    | true => have := hv h; simp [hcl] at this
  · exact specStep_ok a op o _ _ (by rw [owedWith_noreq a op hreq, hd, howed]; rfl) (vFail_quiet a op o hnf) hc
  · have hnf : firstUnfailed op (owedWith a op) o.dels = none := by
      rw [owedWith_noreq a op hreq, howed, hd]
      exact firstUnfailed_none _ _ _ (firstNotFailed_all X Resp.other rfl)
    have hvf : vFail a op o = .ok := by
      cases h : isFailure op o with
      | false => exact vFail_quiet a op o h
      | true => simp only [vFail, h, if_true, hnf]; exact hv h
    exact specStep_ok a op o _ _
      (by rw [owedWith_noreq a op hreq, hd, howed]; exact settle_all X a.abandoned (fun _ => Resp.other)) hvf hc

theorem specStep_parked (a : Acc) (op : Op) (o : Obs) (X : List Nat) (hreq : isReq op = none)
    (howed : a.owed = X)
    (h0 : (specStep { a with owed := [] } op { o with dels := [] }).1 = .ok) :
    (o.dels = [] → isFailure op o = false →
       specStep a op o = (.ok, nextAcc a op o X a.abandoned)) ∧
    (o.dels = X.map (fun i => (i, Resp.other)) →
       specStep a op o = (.ok, nextAcc a op o [] a.abandoned)) :=
  (specStep_frame a op { o with dels := [] } o X hreq howed rfl rfl rfl rfl rfl h0).2

theorem enabled_seen (t : St) (seen seen' : List Nat) (op : Op) (hreq : isReq op = none) :
    enabled t seen op = enabled t seen' op := by
  cases op <;> first | rfl | (simp [isReq] at hreq)

theorem core_facts (t : St) (b : Acc) (seen : List Nat) (op : Op) (hrel : Rel t b seen)
    (hreq : isReq op = none) (hen : enabled t seen op = true) :
    (∀ id ∈ qIds (stepOut t op).1, id ∈ qIds t) ∧
    (t.tagMap = [] → (stepOut t op).2.eff.dels = [] ∧ (stepOut t op).1.tagMap = []) :=
  have h := step_facts t seen op hrel.inv hreq hen
  ⟨h.1, h.2.1⟩

/-- the callers `X` blocked on the open result of `t`, as the accumulator knows them -/
structure Blocked (X : List (Nat × Nat)) (t : St) (a : Acc) (seen : List Nat) : Prop where
  unsent : ∀ id ∈ X.map (·.1), id ∈ a.unsent
  seen : ∀ id ∈ X.map (·.1), id ∈ seen
  ids : (X.map (·.1)).Nodup
  tags : (X.map (·.2)).Nodup
  disj : ∀ id ∈ X.map (·.1), id ∉ qIds t

theorem Blocked.nil (t : St) (a : Acc) (seen : List Nat) : Blocked [] t a seen :=
  ⟨nofun, nofun, .nil, .nil, nofun⟩

/-- the accumulator of the specification owes a response to the requests in the tag map and to
    the blocked callers; apart from that it is related to the transport by `Rel` -/
structure RelP (ps : PSt) (a : Acc) (seen : List Nat) : Prop where
  -- with the blocked callers masked out of `owed` the accumulator is one of the transport alone: `finish_ok` runs
  -- the transport's `step_ok` against it and puts the callers back by the frame lemma `specStep_frame`
  core : Rel ps.t { a with owed := ps.t.tagMap.map (·.2) } seen
  owed : a.owed = ps.t.tagMap.map (·.2) ++ ps.parked.map (·.1)
  blocked : Blocked ps.parked ps.t a seen

theorem relP_init : InvP PSt.init ∧ RelP PSt.init {} [] := ⟨invP_init, rel_init, rfl, .nil _ _ _⟩

theorem relP_of_rel {t : St} {a : Acc} {seen : List Nat} (c : Bool) (h : Rel t a seen) :
    RelP { t := t, connecting := c, parked := [] } a seen :=
  ⟨h.mono h.owed.symm rfl (fun _ h => h) (fun _ h => h), by rw [h.owed]; simp, .nil _ _ _⟩

theorem acc_with_owed (a : Acc) (l : List Nat) (h : a.owed = l) : ({ a with owed := l } : Acc) = a := by
  cases a; simp_all

/-- The end of a drain, seen from the specification: `op` (a request only if nobody is blocked) is applied
    to `t0` and the drain ends (`finish`).  `t0` need not be `ps.t`: a connect that concludes runs on the
    fresh transport. -/
theorem finish_ok (ps : PSt) (a : Acc) (seen : List Nat) (t0 : St) (op : Op) (c' : Bool)
    (hcore : Rel t0 { a with owed := t0.tagMap.map (·.2) } seen)
    (howed : a.owed = t0.tagMap.map (·.2) ++ ps.parked.map (·.1))
    (hO : InvO t0) (hp : ps.parked ≠ [] → t0.tagMap = [] ∧ isReq op = none) (hen : enabled t0 seen op = true)
    (hB : Blocked ps.parked t0 a seen) :
    Accepts RelP a op (obsOfP (ps.finish (stepOut t0 op).1 c' (stepOut t0 op).2).1
      (ps.finish (stepOut t0 op).1 c' (stepOut t0 op).2).2) (ps.finish (stepOut t0 op).1 c' (stepOut t0 op).2).1
      (seenAfter op seen) := by
  have S := step_ok t0 _ seen op hcore hen
  by_cases hX : ps.parked = []
  · -- nobody is blocked: the end of the drain adds nothing, and the step is the transport's
    rw [acc_with_owed a _ (by rw [howed, hX]; simp)] at S
    rw [finish_nil ps _ c' _ hX]
    exact ⟨S.1, relP_of_rel c' S.2⟩
  · -- callers are blocked: the open was pending, nothing is in the tag map, `op` is no request
    obtain ⟨htm0, hreq⟩ := hp hX
    rw [show seenAfter op seen = seen by simp only [seenAfter, hreq]] at S ⊢
    obtain ⟨CF1, CF2, SS, CL⟩ := step_facts t0 seen op hcore.inv hreq hen
    have I2 := invO_step t0 op hO
    generalize stepOut t0 op = r at *
    obtain ⟨t', o⟩ := r
    simp only at S CF1 CF2 I2 SS CL ⊢
    obtain ⟨hd, htm'⟩ := CF2 htm0
    rw [htm0] at S howed
    simp only [List.map_nil, List.nil_append] at S howed
    have key := fun O h1 h2 h3 h4 => specStep_frame a op (obsOf t' o) O _ hreq howed hd h1 h2 h3 h4 S.1
    obtain ⟨w, b, _, _, _, hS1⟩ := of_specStep_ok _ op _ S.1
    rw [hS1] at S
    have hr := S.2
    have hnotsent : ∀ id ∈ ps.parked.map (·.1), (o.sent.any (fun it => itemId it == some id)) = false := by
      intro id hid
      rcases SS with e | ⟨it, hsl, e⟩ <;> rw [e]
      · rfl
      · simp only [List.any_cons, List.any_nil, Bool.or_false, beq_eq_false_iff_ne, ne_eq]
        intro hi
        refine hB.disj id hid ?_
        simp only [qIds, qItems, hsl, List.filterMap_append, List.filterMap_cons, hi]
        simp
    have hunsent : ∀ O : Obs, O.sent = o.sent → ∀ id ∈ ps.parked.map (·.1), id ∈ nextUnsent a op O := by
      intro O hs id hid
      rw [nextUnsent_noreq _ _ _ hreq, List.mem_filter, hs]
      exact ⟨hB.unsent id hid, by simp [hnotsent id hid]⟩
    have hun : ∀ O : Obs, O.sent = o.sent → ∀ id,
        id ∈ nextUnsent { a with owed := [] } op (obsOf t' o) → id ∈ nextUnsent a op O :=
      fun O hs id h => by rw [nextUnsent_noreq _ _ _ hreq] at h ⊢; rwa [hs]
    have hncl : t'.cstate ≠ .closed → isClose op = false := fun hc => by
      cases hcl : isClose op with
      | false => rfl
      | true => exact absurd (CL hcl) hc
    cases hw : ({ t := t', connecting := c', parked := ps.parked } : PSt).waiting with
    | true =>
      -- the open is still pending: everybody stays blocked
      rw [finish_waiting ps t' c' o hw]
      have hidle : t'.cstate ≠ .closed := by rw [waiting_idle _ I2 hw]; simp
      obtain ⟨k0, k1, _⟩ := key (obsOfP ⟨t', c', ps.parked⟩ o) rfl rfl rfl rfl
      refine .of_eq (k1 hd (k0 hidle))
        ⟨hr.mono hr.owed.symm rfl (hun _ rfl) (fun _ h => h), ?_,
          fun id hid => hunsent _ rfl id hid, hB.seen, hB.ids, hB.tags, fun id hid hq => hB.disj id hid (CF1 id hq)⟩
      simp [hncl hidle, htm']
    | false =>
      obtain ⟨hop', _⟩ := not_waiting _ _ _ hw
      by_cases hopn : t'.cstate = .opened
      · -- on an Open transport: tag map, send queue
        rw [finish_resume ps t' c' o hw]
        obtain ⟨g1, g2, _, g4, _⟩ := parkedGo_accepts ps.parked t' hopn hop'
        have hq'' := parkedGo_qIds ps.parked t' hopn hop'
        have hi'' := inv0_stable.parkedGo ps.parked t' hr.inv
        generalize parkedGo ps.parked t' = pg at *
        obtain ⟨t'', wd⟩ := pg
        simp only at g1 g2 g4 hq'' hi'' ⊢
        subst g1
        have hne : t'.cstate ≠ .closed := by simp [hopn]
        have htm'' : t''.tagMap.map (·.2) = ps.parked.map (·.1) := by
          rw [g2, htm']; simp [List.map_map]
        obtain ⟨k0, k1, _⟩ := key (obsOfP ⟨t'', c', []⟩ ⟨{ o.eff with dels := o.eff.dels ++ [] }, o.sent⟩)
          (g4.trans hopn.symm).symm rfl rfl rfl
        refine .of_eq (k1 (by simp [obsOfP, obsOf, hd]) (k0 (by simp [obsOfP, obsOf, g4])))
          ⟨⟨rfl, rfl, ?_, fun id hid => hB.seen id (htm'' ▸ hid), ?_, ?_, ?_, htm'' ▸ hB.ids, hi''⟩,
            by simp [hncl hne, htm''], .nil _ _ _⟩
        · intro id hid
          rw [hq''] at hid
          exact (List.mem_append.mp hid).elim (fun hid => hun _ rfl id (hr.unsent id hid)) (hunsent _ rfl id)
        · intro id hid
          rw [hq''] at hid
          exact (List.mem_append.mp hid).elim (hr.seenQ id) (hB.seen id)
        · rw [hq'', List.nodup_append]
          exact ⟨hr.qnodup, hB.ids, fun x hx y hy e => hB.disj x (e ▸ hy) (CF1 x hx)⟩
        · rw [g2, htm', List.nil_append, List.map_map]; exact hB.tags
      · -- on a transport that is not Open: the 'Sink not open.' error, nothing is queued
        rw [finish_rejects ps t' c' o hw hopn]
        obtain ⟨_, _, k2⟩ := key (obsOfP ⟨t', c', []⟩
          ⟨{ o.eff with dels := o.eff.dels ++ ps.parked.map (fun p => (p.1, Resp.other)) }, o.sent⟩) rfl rfl rfl rfl
        exact .of_eq (k2 (by simp [obsOfP, obsOf, hd, List.map_map]))
          ⟨hr.mono hr.owed.symm rfl (hun _ rfl) (fun _ h => h), by simp [htm'], .nil _ _ _⟩

theorem step_okP (ps : PSt) (a : Acc) (seen : List Nat) (op : POp) (hi : InvP ps) (h : RelP ps a seen)
    (hen : enabledP ps seen op = true) :
    Accepts RelP a op.view (obsOfP (stepOutP ps op).1 (stepOutP ps op).2) (stepOutP ps op).1
      (seenAfter op.view seen) := by
  cases op with
  | tr op =>
    simp only [enabledP, Bool.and_eq_true, Bool.or_eq_true, Bool.not_eq_true'] at hen
    exact finish_ok ps a seen ps.t op ps.connecting h.core h.owed hi.invO
      (fun hp => ⟨waiting_tagMap ps hi.inv hi.invO (hi.wait hp), by simpa [hi.wait hp] using hen.2⟩) hen.1 h.blocked
  | openStart =>
    simp only [enabledP, Bool.and_eq_true, decide_eq_true_eq, Bool.not_eq_true'] at hen
    obtain ⟨⟨hidle, hnor⟩, hnc⟩ := hen
    have htm : ps.t.tagMap = [] := hi.inv.1.2 (by simp [hidle])
    rw [show stepOutP ps .openStart = ({ ps with t := St.connecting0, connecting := true }, {}) by
      simp [stepOutP, PSt.openStart, hidle, hnor, hnc]]
    refine .of_eq (specStep_ok a .look _ a.owed a.abandoned rfl rfl rfl) ⟨.of_empty rfl rfl rfl rfl inv_connecting0.1, by rw [h.owed, htm]; rfl,
      fun id hid => by simpa [nextUnsent, obsOfP, obsOf] using h.blocked.unsent id hid, h.blocked.seen,
      h.blocked.ids, h.blocked.tags, nofun⟩
  | connected r rs =>
    have hcn : ps.connecting = true := by simpa [enabledP] using hen
    rcases hi.conn hcn with ht | ht
    · -- the connect concludes on a transport that is still waiting for it
      have hnc : ps.t.cstate ≠ .closed := by rw [ht]; decide
      -- `St.connecting0` and the fresh transport have nothing in the tag map and nothing queued
      have hcore : Rel St.init { a with owed := St.init.tagMap.map (·.2) } seen :=
        .of_empty rfl rfl rfl (by rw [h.core.prev, ht]; rfl) inv0_init
      have howed : a.owed = St.init.tagMap.map (·.2) ++ ps.parked.map (·.1) := by rw [h.owed, ht]; rfl
      have hB : Blocked ps.parked St.init a seen :=
        ⟨h.blocked.unsent, h.blocked.seen, h.blocked.ids, h.blocked.tags, fun _ _ hq => by cases hq⟩
      rw [connected_eq ps r rs hcn hnc]
      exact finish_ok ps a seen St.init _ false hcore howed invO_init (fun _ => ⟨rfl, by cases r <;> rfl⟩)
        (by cases r <;> rfl) hB
    · -- `Close()` came first: the connect concludes on a transport that is shut down
      have hcl : ps.t.cstate = .closed := by rw [ht]; decide
      have hX : ps.parked = [] := Decidable.byContradiction fun hp => by
        have := waiting_idle ps hi.invO (hi.wait hp)
        rw [hcl] at this; cases this
      have htm : ps.t.tagMap = [] := by rw [ht]; decide
      have hao : a.owed = [] := by rw [h.owed, htm, hX]; rfl
      have hprev : a.prev = .closed := h.core.prev.trans hcl
      have hreq : isReq (POp.connected r rs).view = none := by cases r <;> rfl
      rw [show stepOutP ps (.connected r rs) = ({ ps with connecting := false }, { eff := { conns := 1 } }) by
        simp [stepOutP, PSt.connected, hcn, hcl]]
      rw [show seenAfter (POp.connected r rs).view seen = seen by simp only [seenAfter, hreq]]
      -- no `_Shutdown` happens here; `specStep_shutdown` applies because the observation reports `closed` and nothing is owed
      have hspec := specStep_shutdown a (POp.connected r rs).view
        (obsOfP ({ ps with connecting := false } : PSt) { eff := { conns := 1 } }) [] [] hreq (by rw [hao]; rfl) rfl
        (Or.inl rfl) hcl (fun _ => Or.inl hprev) (by cases r <;> simp [POp.view])
      refine .of_eq hspec ⟨h.core.mono rfl (hprev.trans hcl.symm).symm (fun id hid => ?_) (fun _ h => h),
        by simp [htm, hX], hX ▸ .nil _ _ _⟩
      rw [nextAcc_unsent, nextUnsent_noreq _ _ _ hreq]
      simpa [obsOfP, obsOf] using hid
  | park id tag =>
    simp only [enabledP, Bool.and_eq_true, Bool.not_eq_true', decide_eq_true_eq] at hen
    obtain ⟨⟨⟨hfresh, hw⟩, htag2⟩, htag⟩ := hen
    have hfresh : id ∉ seen := by simpa using hfresh
    rw [show stepOutP ps (.park id tag) = ({ ps with parked := ps.parked ++ [(id, tag)] }, {}) by
      simp [stepOutP, PSt.park, hw]]
    have hun : ∀ j, j ∈ a.unsent ∨ j = id →
        j ∈ (nextAcc a (.req id tag) (obsOfP ({ ps with parked := ps.parked ++ [(id, tag)] } : PSt) {})
          (a.owed ++ [id]) a.abandoned).unsent := by
      intro j hj
      simpa [nextUnsent, obsOfP, obsOf] using hj
    have hmem : ∀ j, j ∈ (ps.parked ++ [(id, tag)]).map (·.1) → j ∈ ps.parked.map (·.1) ∨ j = id := by
      intro j hj
      rw [List.map_append] at hj
      exact (List.mem_append.mp hj).imp_right List.mem_singleton.mp
    refine .of_eq (specStep_ok a (.req id tag) _ (a.owed ++ [id]) a.abandoned rfl rfl (by simp [vCarry, obsOfP, obsOf]))
      ⟨h.core.mono rfl h.core.prev.symm (fun j hj => hun j (Or.inl hj)) (fun j hj => List.mem_cons_of_mem _ hj),
        by simp [isClose, h.owed], ?_, ?_, ?_, ?_, ?_⟩
    · exact fun j hj => (hmem j hj).elim (fun hj => hun j (Or.inl (h.blocked.unsent j hj))) (fun hj => hun j (Or.inr hj))
    · exact fun j hj => (hmem j hj).elim (fun hj => List.mem_cons_of_mem _ (h.blocked.seen j hj))
        (fun hj => hj ▸ List.mem_cons_self)
    · rw [List.map_append]; exact nodup_snoc h.blocked.ids (fun hm => hfresh (h.blocked.seen _ hm))
    · rw [List.map_append]
      refine nodup_snoc h.blocked.tags (fun hm => ?_)
      obtain ⟨p, hp, he⟩ := List.mem_map.mp hm
      have : (ps.parked.any fun p => p.2 == tag) = true := List.any_eq_true.mpr ⟨p, hp, by simpa using he⟩
      rw [htag] at this; cases this
    · exact fun j hj hq => (hmem j hj).elim (fun hj => h.blocked.disj j hj hq)
        (fun hj => hfresh (h.core.seenQ _ (hj ▸ hq)))

theorem enabledP_fresh (ps : PSt) (seen : List Nat) (op : POp) (id : Nat) (hen : enabledP ps seen op = true)
    (h : isReq op.view = some id) : id ∉ seen := by
  cases op with
  | tr op =>
    simp only [enabledP, Bool.and_eq_true] at hen
    exact enabled_fresh ps.t seen op id hen.1 h
  | openStart => cases h
  | connected r rs => cases r <;> cases h
  | park j tag =>
    cases h
    simp only [enabledP, Bool.and_eq_true, Bool.not_eq_true'] at hen
    simpa using hen.1.1.1

/-- the invariant of the combined state goes beside the relation: `invP_step` keeps it whatever the accumulator -/
theorem simP : Sim pcomp POp.view (fun ps a seen => InvP ps ∧ RelP ps a seen)
    (fun ps seen ops => opsOkP ps seen ops = true) where
  step ps a seen op ops hr hok := by
    simp only [opsOkP, Bool.and_eq_true] at hok
    obtain ⟨hv, hr'⟩ := step_okP ps a seen op hr.1 hr.2 hok.1
    exact ⟨⟨hv, invP_step ps op hr.1, hr'⟩, hok.2, fun id h => enabledP_fresh ps seen op id hok.1 h⟩

theorem finish_dels_sub (ps : PSt) (t' : St) (c' : Bool) (o : Out) :
    ∀ d ∈ o.eff.dels, d ∈ (ps.finish t' c' o).2.eff.dels := by
  intro d hd
  simp only [PSt.finish]
  split
  · exact hd
  · exact List.mem_append_left _ hd

theorem responsesTo_view (id : Nat) (h : List (POp × Obs)) :
    responsesTo id (viewH h) = responsesToP id h := by
  simp [responsesTo, responsesToP, viewH, List.map_map, Function.comp_def]

/-- `Sim.exactly_once` for `pcomp`, in the vocabulary of the property theorems -/
theorem pcomp_exactly_once (pre : List POp) (op : POp) (post : List POp)
    (h : pcomp.wf () (pre ++ op :: post) = true) (id : Nat) (r : Resp)
    (hmem : (id, r) ∈ (stepOutP (runOpsP PSt.init pre) op).2.eff.dels) :
    responsesToP id (pcomp.modelTrace () (pre ++ op :: post)) = 1 := by
  rw [← responsesTo_view]
  exact simP.exactly_once pre op post relP_init h id r hmem

theorem runOpsP_append (ps : PSt) (pre post : List POp) :
    runOpsP ps (pre ++ post) = runOpsP (runOpsP ps pre) post := by
  simp [runOpsP, List.foldl_append]

end Scales.MuxT
