import ScalesModel.Proofs.LBCalls
import ScalesModel.Proofs.RunLemmas

/-!
  C12, balancer hop: the gate in front of the open result (`LoadBalancerSink.AsyncProcessRequest`,
  `_on_open_done`).  `flush` drops exactly the waiting requests whose deadline event is set and
  forwards the others once each, in arrival order; every history of the model satisfies `specGate`.
  None of this depends on the heap or aperture invariants.
-/
namespace Scales.LB
open Scales.Heap Scales.Aperture Scales.LBBase

/-- the list starts at or above `n` and grows -/
def IncFrom : Nat → List Nat → Prop
  | _, [] => True
  | n, a :: l => n ≤ a ∧ IncFrom (a + 1) l

theorem IncFrom.mono {n m : Nat} (h : m ≤ n) : ∀ {l : List Nat}, IncFrom n l → IncFrom m l
  | [], _ => trivial
  | _ :: _, ⟨h1, h2⟩ => ⟨le_trans h h1, h2⟩

theorem IncFrom.increasing : ∀ {n : Nat} {l : List Nat}, IncFrom n l → increasing l = true
  | _, [], _ => rfl
  | _, [_], _ => rfl
  | n, a :: b :: rest, ⟨_, h2⟩ => by
    have h3 : IncFrom (a + 1) (b :: rest) := h2
    have h4 : a < b := h3.1
    have h5 := IncFrom.increasing h3
    unfold LB.increasing
    simp [h4, h5]

theorem flush_gate (cfg : Cfg) (q : List (Option Bool)) : ∀ (a : AS),
    dropOk q ((flush (sub cfg) q a).2.map ResV.ofFlush) = true ∧
    liveOk q ((flush (sub cfg) q a).2.map ResV.ofFlush) = true ∧
    IncFrom a.hs.reqs.length (dispatchIds ((flush (sub cfg) q a).2.map ResV.ofFlush)) := by
  induction q with
  | nil => intro a; exact ⟨rfl, rfl, trivial⟩
  | cons e q ih =>
    intro a
    by_cases hl : live e = true
    · rw [flush_live _ hl]
      obtain ⟨i1, i2, i3⟩ := ih (a.get cfg).1
      obtain ⟨g1, g2⟩ := get_reqs cfg a
      have hne := ofGet_ne_queued (a.get cfg).2
      rw [show (sub cfg).request a = a.get cfg from rfl, List.map_cons, dropOk, liveOk, hl, i1, i2]
      rw [g1, List.length_append] at i3
      refine ⟨rfl, ?_, ?_⟩
      · cases hg : (a.get cfg).2 <;> rfl
      · change IncFrom _ (dispatchIds (ResV.ofGet (a.get cfg).2 :: _))
        cases hg : (a.get cfg).2 with
        | noMembers => rw [hg] at i3; exact i3
        | node nid ep r => rw [hg] at i3; exact ⟨(g2 nid ep r hg).ge, g2 nid ep r hg ▸ i3⟩
    · rw [flush_dead _ hl]
      obtain ⟨i1, i2, i3⟩ := ih a
      rw [List.map_cons, dropOk, liveOk, Bool.eq_false_iff.2 hl, i1, i2]
      exact ⟨rfl, rfl, i3⟩

def GInv (lb : St) : Prop := lb.sub.openAr = true → lb.queued = []

theorem filter_eq_queued_map (fr : List (Option GetRes)) :
    (fr.map ResV.ofFlush).filter (· = .queued) = [] := by
  rw [List.filter_eq_nil_iff]
  intro x hx
  obtain ⟨g, _, rfl⟩ := List.mem_map.1 hx
  exact fun h => ofFlush_ne_queued g (of_decide_eq_true h)

theorem results_queued (l : List ResV) (fr : List (Option GetRes)) :
    (l.filter (· ≠ .queued) ++ fr.map ResV.ofFlush ++ l.filter (· = .queued)).contains .queued = l.contains .queued := by
  rw [Bool.eq_iff_iff, List.contains_iff_mem, List.contains_iff_mem, List.mem_append, List.mem_append,
    List.mem_filter, List.mem_filter, decide_eq_true_eq, decide_eq_true_eq]
  constructor
  · rintro ((⟨h, _⟩ | h) | ⟨h, _⟩)
    · exact h
    · obtain ⟨g, _, e⟩ := List.mem_map.1 h; exact absurd e (ofFlush_ne_queued g)
    · exact h
  · exact fun h => Or.inr ⟨h, rfl⟩

theorem gateAt_ok (which idx : Nat) (q : List (Option Bool)) (o : Obs)
    (h : o.queued = 0 → q ≠ [] → dropOk q o.flushed = true ∧ liveOk q o.flushed = true ∧
      increasing (dispatchIds o.flushed) = true) : gateAt which idx q o = .ok := by
  unfold gateAt
  split
  · rename_i hc
    rw [Bool.and_eq_true, beq_iff_eq, Bool.not_eq_true', List.isEmpty_eq_false_iff] at hc
    obtain ⟨d1, d2, d3⟩ := h hc.1 hc.2
    rw [d1, d2, d3, if_neg (fun h => Bool.noConfusion h.2), if_neg (fun h => Bool.noConfusion h.2),
      if_neg (fun h => Bool.noConfusion h.2)]
  · rfl

theorem gateNext_eq {q q' : List (Option Bool)} {o : Obs} (ho : o.queued = q'.length) (h : q' = [] ∨ q' = q) :
    gateNext q o = q' := by
  unfold gateNext
  rw [ho]
  rcases h with h | h
  · rw [h]; rfl
  · rw [h]; cases q <;> rfl

theorem finish_gate (cfg : Cfg) (lb : St) :
    GInv (lb.finish (sub cfg)).1 ∧
    (((lb.finish (sub cfg)).1.queued = [] ∧ lb.queued ≠ [] ∧
        ∃ a : AS, (lb.finish (sub cfg)).2 = (flush (sub cfg) lb.queued a).2) ∨
     ((lb.finish (sub cfg)).1.queued = lb.queued ∧ (lb.finish (sub cfg)).2 = [])) := by
  rcases finish_cases (sub cfg) lb with ⟨s0, _, _, hq, e⟩ | ⟨hq, e⟩ <;> rw [e]
  · exact ⟨fun _ => rfl, Or.inl ⟨rfl, hq, s0, rfl⟩⟩
  · exact ⟨hq, Or.inr ⟨rfl, rfl⟩⟩

theorem gate_step (cfg : Cfg) (lb : St) (op : Op) (which idx : Nat) (hg : GInv lb) :
    GInv (stepSt cfg lb op).1 ∧
    gateAt which idx (gateArrive lb.queued op (obsOf (stepSt cfg lb op).1 (stepSt cfg lb op).2))
      (obsOf (stepSt cfg lb op).1 (stepSt cfg lb op).2) = .ok ∧
    gateNext (gateArrive lb.queued op (obsOf (stepSt cfg lb op).1 (stepSt cfg lb op).2))
      (obsOf (stepSt cfg lb op).1 (stepSt cfg lb op).2) = (stepSt cfg lb op).1.queued := by
  obtain ⟨⟨_, _, a1⟩, a2⟩ := act_base (cfg := cfg) lb op
  obtain ⟨f1, f2⟩ := finish_gate cfg (act cfg lb op).1
  have hc := results_queued (act cfg lb op).2 ((act cfg lb op).1.finish (sub cfg)).2
  have t1 : (stepSt cfg lb op).1.queued = ((act cfg lb op).1.finish (sub cfg)).1.queued := (tapesRead_frame _).2.2.1
  have t2 : (stepSt cfg lb op).1.sub.openAr = ((act cfg lb op).1.finish (sub cfg)).1.sub.openAr :=
    (tapesRead_frame _).2.2.2
  have harr : gateArrive lb.queued op (obsOf (stepSt cfg lb op).1 (stepSt cfg lb op).2) = (act cfg lb op).1.queued :=
    (congrArg (gateArriveB lb.queued op) hc).trans a1.symm
  have hoq : (obsOf (stepSt cfg lb op).1 (stepSt cfg lb op).2).queued = (stepSt cfg lb op).1.queued.length := rfl
  have hfl : (obsOf (stepSt cfg lb op).1 (stepSt cfg lb op).2).flushed = _ :=
    flushed_results (act cfg lb op).2 ((act cfg lb op).1.finish (sub cfg)).2
  rw [harr]
  refine ⟨fun h => t1 ▸ f1 (t2 ▸ h), gateAt_ok _ _ _ _ fun h0 hne => ?_, gateNext_eq hoq (t1 ▸ f2.imp (·.1) (·.1))⟩
  rcases f2 with ⟨_, _, a, e⟩ | ⟨e, _⟩
  · -- the open result completed in this operation: the waiting requests were served
    obtain ⟨g1, g2, g3⟩ := flush_gate cfg (act cfg lb op).1.queued a
    have hd : (act cfg lb op).2.filter (· ≠ .queued) = [] := Classical.not_not.1 fun h => hne ((a2 h).2.trans (hg (a2 h).1))
    rw [hfl, hd, e]
    exact ⟨g1, g2, g3.increasing⟩
  · exact absurd (List.eq_nil_of_length_eq_zero ((hoq.symm.trans h0) ▸ congrArg List.length (t1.trans e)).symm) hne

theorem specGate_trace (cfg : Cfg) (which : Nat) (ops : List Op) : ∀ (lb : St) (idx : Nat), GInv lb →
    specGateGo which idx lb.queued (compGate.trace cfg lb ops) = .ok := by
  induction ops with
  | nil => intro lb idx _; rfl
  | cons op ops ih =>
    intro lb idx hg
    obtain ⟨g1, g2, g3⟩ := gate_step cfg lb op which idx hg
    rw [TComp.trace_cons compGate step, specGateGo]
    dsimp only [step]
    rw [g2, g3]
    exact ih _ (idx + 1) g1

theorem GInv.init (cfg : Cfg) : GInv (init cfg) := fun _ => rfl

end Scales.LB
