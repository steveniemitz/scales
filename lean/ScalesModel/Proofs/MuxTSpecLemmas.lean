/-
  Proofs/MuxTSpecLemmas.lean — the simulation between the ThriftMux transport model and the
  accumulator of its executable specification (`Rel`, `step_ok`): one case per constructor of `Shape`
  and one for a request.  `Sim` carries a simulated step over whole histories, and with the
  specification's count of responses (`spec_count`) gives at most one, and exactly one, response.
-/
import ScalesModel.Proofs.MuxTLemmas
import ScalesModel.Proofs.VerdictLemmas
namespace Scales.MuxT
open Scales.Transport

/-- The accumulator `a` of the specification against the transport `s`, `seen` the request ids issued
    so far: `a` owes a response to exactly the requests in the tag map and remembers the state last
    reported; the other clauses are inclusions only (`unsent` may hold more than is queued: requests
    whose frame was skipped), and ids and tags in flight are distinct. -/
structure Rel (s : St) (a : Acc) (seen : List Nat) : Prop where
  owed : a.owed = s.tagMap.map (·.2)
  prev : a.prev = s.cstate
  unsent : ∀ id ∈ qIds s, id ∈ a.unsent
  seenO : ∀ id ∈ a.owed, id ∈ seen
  seenQ : ∀ id ∈ qIds s, id ∈ seen
  qnodup : (qIds s).Nodup
  tags : (s.tagMap.map (·.1)).Nodup
  ids : (s.tagMap.map (·.2)).Nodup
  inv : Inv0 s

def seenAfter (op : Op) (seen : List Nat) : List Nat :=
  match isReq op with
  | some id => id :: seen
  | none => seen

theorem Rel.of_empty {s : St} {a : Acc} {seen : List Nat} (htm : s.tagMap = []) (hq : qIds s = [])
    (ho : a.owed = []) (hp : a.prev = s.cstate) (hi : Inv0 s) : Rel s a seen := by
  refine ⟨?_, hp, ?_, ?_, ?_, ?_, ?_, ?_, hi⟩ <;> simp [htm, hq, ho]

theorem rel_init : Rel St.init {} [] := .of_empty rfl rfl rfl rfl inv0_init

theorem specStep_ok (a : Acc) (op : Op) (o : Obs) (w b : List Nat)
    (hs : settle (owedWith a op) a.abandoned o.dels = .ok (w, b)) (hv : vFail a op o = .ok)
    (hc : vCarry a op o = .ok) : specStep a op o = (.ok, nextAcc a op o w b) := by
  simp only [specStep, hs, hv, hc, Verdict.and]

/-- one accepted step of the specification that keeps `R`; `step_ok` states the instance for `Rel` unfolded -/
def Accepts {σ : Type} (R : σ → Acc → List Nat → Prop) (a : Acc) (op : Op) (o : Obs) (s' : σ)
    (seen : List Nat) : Prop :=
  (specStep a op o).1 = .ok ∧ R s' (specStep a op o).2 seen

theorem Accepts.of_eq {σ : Type} {R : σ → Acc → List Nat → Prop} {a a' : Acc} {op : Op} {o : Obs} {s' : σ}
    {seen : List Nat} (e : specStep a op o = (.ok, a')) (hr : R s' a' seen) : Accepts R a op o s' seen := by
  rw [Accepts, e]; exact ⟨rfl, hr⟩

theorem of_specStep_ok (a : Acc) (op : Op) (o : Obs) (h : (specStep a op o).1 = .ok) :
    ∃ w b, settle (owedWith a op) a.abandoned o.dels = .ok (w, b) ∧ vFail a op o = .ok ∧
      vCarry a op o = .ok ∧ specStep a op o = (.ok, nextAcc a op o w b) := by
  unfold specStep at h ⊢
  cases hs : settle (owedWith a op) a.abandoned o.dels with
  | error e => simp [hs] at h
  | ok pr =>
    simp only [hs] at h ⊢
    obtain ⟨hv, hc⟩ := Verdict.and_eq_ok.mp h
    exact ⟨pr.1, pr.2, rfl, hv, hc, by rw [hv, hc]; rfl⟩

theorem owedWith_noreq (a : Acc) (op : Op) (h : isReq op = none) : owedWith a op = a.owed := by
  simp only [owedWith, h]

@[simp] theorem nextAcc_owed (a : Acc) (op : Op) (o : Obs) (w b : List Nat) :
    (nextAcc a op o w b).owed = if isClose op then [] else w := rfl

@[simp] theorem nextAcc_prev (a : Acc) (op : Op) (o : Obs) (w b : List Nat) : (nextAcc a op o w b).prev = o.state := rfl

@[simp] theorem nextAcc_unsent (a : Acc) (op : Op) (o : Obs) (w b : List Nat) :
    (nextAcc a op o w b).unsent = nextUnsent a op o := rfl

theorem nextUnsent_noreq (a : Acc) (op : Op) (o : Obs) (hreq : isReq op = none) :
    nextUnsent a op o = a.unsent.filter (fun id => !(o.sent.any (fun it => itemId it == some id))) := by
  cases op <;> first | rfl | (simp [isReq] at hreq)

theorem vFail_quiet (a : Acc) (op : Op) (o : Obs) (h : isFailure op o = false) : vFail a op o = .ok := by
  simp [vFail, h]

theorem vFail_closed (a : Acc) (op : Op) (o : Obs) (hnf : firstUnfailed op (owedWith a op) o.dels = none)
    (hst : o.state = .closed) (hfa : isFailure op o = true → a.prev = .closed ∨ o.faults ≠ 0) :
    vFail a op o = .ok := by
  unfold vFail
  split
  · rename_i hf; rcases hfa hf with h | h <;> simp [hnf, hst, h]
  · rfl

theorem vCarry_quiet (a : Acc) (op : Op) (o : Obs) (hreq : isReq op = none) (hw : op ≠ .wr .ok)
    (hcl : isClose op = true → o.state = .closed) : vCarry a op o = .ok := by
  cases op with
  | req id tag => simp [isReq] at hreq
  | wr o' => cases o' <;> first | rfl | exact absurd rfl hw
  | race rs pos x => cases x <;> first | rfl | simp [vCarry, hcl rfl]
  | close => simp [vCarry, hcl rfl]
  | _ => rfl

theorem firstUnfailed_none (op : Op) (owed : List Nat) (dels : List (Nat × Resp))
    (h : firstNotFailed owed dels = none) : firstUnfailed op owed dels = none := by
  cases op <;> try exact h
  all_goals
    simp only [firstUnfailed]
    unfold firstNotFailed at h
    rw [List.find?_eq_none] at h ⊢
    intro id hid
    have := h id hid
    simp only [Bool.not_eq_true, Bool.not_eq_false', List.any_eq_true, Bool.and_eq_true] at this ⊢
    obtain ⟨d, hd, he, _⟩ := this
    exact ⟨d, hd, he⟩

/-- the abandoned list is the same before and after, so every response was taken from `owed` (`settle_count`) -/
theorem settle_covers {d : List (Nat × Resp)} {owed ab owed' : List Nat} (h : settle owed ab d = .ok (owed', ab))
    {id : Nat} (hid : id ∈ owed) : id ∈ owed' ∨ d.any (fun x => x.1 == id) = true := by
  have hc := settle_count id d owed ab owed' ab h
  have := List.count_pos_iff.mpr hid
  by_cases hd : d.countP (fun x => x.1 == id) = 0
  · exact Or.inl (List.count_pos_iff.mp (by omega))
  · obtain ⟨x, hx, he⟩ := List.countP_pos_iff.mp (Nat.pos_of_ne_zero hd)
    exact Or.inr (List.any_eq_true.mpr ⟨x, hx, he⟩)

/-- the observation of a `_Shutdown`: replies `d` first (only in a race), then every request still owed (`w`) failed -/
theorem specStep_shutdown (a : Acc) (op : Op) (o : Obs) (w : List Nat) (d : List (Nat × Resp))
    (hreq : isReq op = none) (hset : settle a.owed a.abandoned d = .ok (w, a.abandoned))
    (hdl : o.dels = d ++ w.map (fun i => (i, Resp.cerr)))
    (hd : d = [] ∨ ∃ rs pos x, op = .race rs pos x)
    (hst : o.state = .closed) (hfa : isFailure op o = true → a.prev = .closed ∨ o.faults ≠ 0)
    (hw : op ≠ .wr .ok) : specStep a op o = (.ok, nextAcc a op o [] a.abandoned) := by
  have hs : settle (owedWith a op) a.abandoned o.dels = .ok ([], a.abandoned) := by
    rw [owedWith_noreq a op hreq, hdl, settle_append _ _ _ _ _ _ hset]
    exact settle_all _ _ (fun _ => Resp.cerr)
  have hnf : firstUnfailed op (owedWith a op) o.dels = none := by
    rw [owedWith_noreq a op hreq]
    rcases hd with hd | hd
    · subst hd
      simp only [settle, Except.ok.injEq, Prod.mk.injEq] at hset
      rw [hdl, hset.1]
      exact firstUnfailed_none _ _ _ (firstNotFailed_all w Resp.cerr rfl)
    · -- in a race a request whose reply was dispatched before the failure counts as attended
      obtain ⟨rs, pos, x, rfl⟩ := hd
      rw [firstUnfailed, List.find?_eq_none]
      intro id hid
      rw [hdl]
      simp only [Bool.not_eq_true, Bool.not_eq_false', List.any_append, Bool.or_eq_true]
      rcases settle_covers hset hid with h1 | h1
      · exact Or.inr (List.any_eq_true.mpr ⟨(id, Resp.cerr), List.mem_map_of_mem h1, by simp⟩)
      · exact Or.inl h1
  exact specStep_ok a op o _ _ hs (vFail_closed a op o hnf hst hfa) (vCarry_quiet a op o hreq hw fun _ => hst)

theorem rel_shut (s : St) (p : List Frame) (a : Acc) (op : Op) (o : Obs) (seen ab : List Nat)
    (ho : o.state = .closed) : Rel (s.shut p) (nextAcc a op o [] ab) seen :=
  .of_empty rfl rfl (by simp) (by simp [ho, St.shut]) (inv0_drains.shut s p)

/-- an operation that issues nothing and fails nothing; `t` is tied to `s` through `DispFacts` only, that is
    as far as the tag map and the frames queued go -/
theorem step_ok_quiet (s t : St) (a : Acc) (seen : List Nat) (op : Op) (o : Obs) (d : List (Nat × Resp))
    (h : Rel s a seen) (F : DispFacts s t d) (hinv : Inv0 t) (hst : o.state = t.cstate) (hd : o.dels = d)
    (hsent : ∀ id ∈ qIds t, o.sent.any (fun it => itemId it == some id) = false) (hreq : isReq op = none)
    (hcl : isClose op = true → t.tagMap = []) (hnf : isFailure op o = false)
    (hcarry : vCarry a op o = .ok) : Accepts Rel a op o t seen := by
  have hs : settle (owedWith a op) a.abandoned o.dels = .ok (t.tagMap.map (·.2), a.abandoned) := by
    rw [owedWith_noreq a op hreq, hd, h.owed]; exact F.settle h.tags h.ids _
  have howed : (nextAcc a op o (t.tagMap.map (·.2)) a.abandoned).owed = t.tagMap.map (·.2) := by
    rw [nextAcc_owed]
    split
    · rename_i hc; rw [hcl hc]; rfl
    · rfl
  refine .of_eq (specStep_ok a op o _ _ hs (vFail_quiet a op o hnf) hcarry)
    ⟨howed, hst, ?_, ?_, fun id hid => h.seenQ id (F.qSub.subset hid), h.qnodup.sublist F.qSub,
      h.tags.sublist (F.tmSub.map _), h.ids.sublist (F.tmSub.map _), hinv⟩
  · intro id hid
    rw [nextAcc_unsent, nextUnsent_noreq a op o hreq, List.mem_filter]
    exact ⟨h.unsent id (F.qSub.subset hid), by simpa using hsent id hid⟩
  · intro id hid
    rw [howed] at hid
    exact h.seenO id (h.owed ▸ (F.tmSub.map _).subset hid)

theorem step_ok_shut (s s1 u : St) (a : Acc) (seen : List Nat) (op : Op) (p : List Frame) (d : List (Nat × Resp))
    (fl c : Nat) (h : Rel s a seen) (F : DispFacts s s1 d)
    (e : stepOut s op = (u.shut p,
      { eff := { faults := fl, dels := d ++ s1.tagMap.map (fun p => (p.2, Resp.cerr)), conns := c } }))
    (hreq : isReq op = none)
    (hd : d = [] ∨ ∃ rs pos x, op = .race rs pos x)
    (hfa : ∀ o : Obs, isFailure op o = true → fl ≠ 0) (hw : op ≠ .wr .ok) :
    Accepts Rel a op (obsOf (stepOut s op).1 (stepOut s op).2) (stepOut s op).1 seen := by
  rw [e]
  exact .of_eq (specStep_shutdown a op _ (s1.tagMap.map (·.2)) d hreq (h.owed ▸ F.settle h.tags h.ids _)
    (by simp [obsOf, List.map_map]) hd rfl (fun hf => Or.inr (hfa _ hf)) hw)
    (rel_shut u p a op _ seen _ rfl)

theorem Rel.mono {s : St} {a a' : Acc} {seen seen' : List Nat} (h : Rel s a seen) (h1 : a'.owed = a.owed)
    (h2 : a'.prev = a.prev) (h3 : ∀ id ∈ a.unsent, id ∈ a'.unsent) (h4 : ∀ id ∈ seen, id ∈ seen') :
    Rel s a' seen' :=
  ⟨h1 ▸ h.owed, h2 ▸ h.prev, fun id hid => h3 id (h.unsent id hid), fun id hid => h4 id (h.seenO id (h1 ▸ hid)),
    fun id hid => h4 id (h.seenQ id hid), h.qnodup, h.tags, h.ids, h.inv⟩

theorem nodup_snoc {α : Type} {l : List α} {x : α} (h : l.Nodup) (hx : x ∉ l) : (l ++ [x]).Nodup := by
  rw [List.nodup_append]
  exact ⟨h, by simp, fun a ha b hb e => hx (List.mem_singleton.mp hb ▸ e ▸ ha)⟩

theorem step_ok_req (s : St) (a : Acc) (seen : List Nat) (id tag : Nat) (h : Rel s a seen)
    (hen : enabled s seen (.req id tag) = true) :
    Accepts Rel a (.req id tag) (obsOf (s.request id tag).1 (s.request id tag).2) (s.request id tag).1
      (id :: seen) := by
  simp only [enabled, Bool.and_eq_true, Bool.not_eq_true', Bool.or_eq_true, decide_eq_true_eq] at hen
  obtain ⟨⟨hfresh, hnop⟩, htag⟩ := hen
  have hfresh : id ∉ seen := by simpa using hfresh
  have hno : id ∉ a.owed := fun hm => hfresh (h.seenO id hm)
  by_cases hop : s.cstate = .opened
  · have htag' : tag ∉ s.tagMap.map (·.1) := by
      rcases htag with hx | hx
      · simp [hop] at hx
      · intro hm
        obtain ⟨p, hp, he⟩ := List.mem_map.mp hm
        have : (s.tagMap.any fun p => p.1 == tag) = true := List.any_eq_true.mpr ⟨p, hp, by simpa using he⟩
        rw [hx.2] at this; cases this
    rw [request_opened s id tag hop hnop]
    have hq : qIds ({ s with tagMap := s.tagMap ++ [(tag, id)],
                             sendQ := s.sendQ ++ [.req tag id] } : St).pump = qIds s ++ [id] := by
      rw [qIds_pump]; simp [qIds, qItems, List.filterMap_append]
    refine .of_eq (specStep_ok a _ _ (a.owed ++ [id]) a.abandoned rfl rfl (by simp [vCarry, obsOf]))
      ⟨?_, ?_, ?_, ?_, ?_, ?_, ?_, ?_, inv0_stable.pump _ (inv0_stable.request s id tag h.inv hnop hop)⟩
    · rw [pump_tagMap, List.map_append, ← h.owed]; rfl
    · rfl
    · intro j hj
      rw [hq] at hj
      have : j ∈ a.unsent ++ [id] := (List.mem_append.mp hj).elim (fun hj => List.mem_append_left _ (h.unsent j hj))
        (List.mem_append_right _)
      simpa [nextUnsent, obsOf] using this
    · intro j hj
      exact (List.mem_append.mp hj).elim (fun hj => List.mem_cons_of_mem _ (h.seenO j hj))
        (fun hj => List.mem_singleton.mp hj ▸ List.mem_cons_self)
    · intro j hj
      rw [hq] at hj
      exact (List.mem_append.mp hj).elim (fun hj => List.mem_cons_of_mem _ (h.seenQ j hj))
        (fun hj => List.mem_singleton.mp hj ▸ List.mem_cons_self)
    · rw [hq]; exact nodup_snoc h.qnodup (fun hm => hfresh (h.seenQ id hm))
    · rw [pump_tagMap, List.map_append]; exact nodup_snoc h.tags htag'
    · rw [pump_tagMap, List.map_append]; exact nodup_snoc h.ids (h.owed ▸ hno)
  · rw [request_rejected s id tag hop hnop]
    have hset : settle (owedWith a (.req id tag)) a.abandoned [(id, Resp.other)] = .ok (a.owed, a.abandoned) := by
      simp only [owedWith, isReq]
      rw [settle_cons_owed _ _ _ _ _ (by simp), erase_append_singleton_of_not_mem _ _ hno, settle]
    have hprev : a.prev ≠ .opened := h.prev ▸ hop
    exact .of_eq (specStep_ok a _ _ _ _ hset rfl (by simp [vCarry, hprev]))
      (h.mono rfl h.prev.symm (fun j hj => by simp [nextUnsent, obsOf, hj])
        (fun j hj => List.mem_cons_of_mem _ hj))

theorem step_ok_wrote (s t : St) (a : Acc) (seen : List Nat) (it : Item) (h : Rel s a seen)
    (hq : qIds s = (itemId it).toList ++ qIds t) (htm : t.tagMap = s.tagMap) (hi : Inv0 t) :
    Accepts Rel a (.wr .ok) (obsOf t { sent := [it] }) t seen := by
  have hnd := h.qnodup
  rw [hq] at hnd
  refine step_ok_quiet s t a seen _ _ [] h
    ⟨fun _ _ ab => by rw [htm]; rfl, htm ▸ .refl _, by rw [hq]; exact List.sublist_append_right _ _, nofun⟩
    hi rfl rfl (fun id hid => ?_) rfl nofun rfl ?_
  · simp only [obsOf, List.any_cons, List.any_nil, Bool.or_false, beq_eq_false_iff_ne, ne_eq]
    intro e
    rw [e] at hnd
    exact (List.nodup_append.mp hnd).2.2 id (by simp) id hid rfl
  · simp only [vCarry, obsOf, progress, List.any_cons, List.any_nil, Bool.or_false]
    cases it with
    | ping => rfl
    | req t i => simp [h.unsent i (by rw [hq]; simp)]

theorem step_ok (s : St) (a : Acc) (seen : List Nat) (op : Op) (h : Rel s a seen)
    (hen : enabled s seen op = true) :
    (specStep a op (obsOf (stepOut s op).1 (stepOut s op).2)).1 = .ok ∧
    Rel (stepOut s op).1 (specStep a op (obsOf (stepOut s op).1 (stepOut s op).2)).2
      (seenAfter op seen) := by
  cases hreq : isReq op with
  | some id =>
    obtain ⟨i, tag, rfl⟩ : ∃ i tag, op = .req i tag := by cases op <;> first | exact ⟨_, _, rfl⟩ | cases hreq
    exact step_ok_req s a seen i tag h hen
  | none =>
    rw [show seenAfter op seen = seen by simp only [seenAfter, hreq]]
    have hi := inv0_stable.step s op h.inv
    rcases step_shape s seen op h.inv hreq hen with
      ⟨t, d, c, e, F, hcl, hnf, hw⟩ | ⟨t, it, e, hop, _, hq, htm⟩ | ⟨s1, u, p, d, fl, c, e, F, hd, hfa, hw⟩
    · rw [e] at hi ⊢
      exact step_ok_quiet s t a seen op _ d h F hi rfl rfl (fun _ _ => rfl) hreq
        (fun hc => hi.2 (by simp [hcl hc])) (hnf _) (vCarry_quiet a op _ hreq hw hcl)
    · subst hop; rw [e] at hi ⊢; exact step_ok_wrote s t a seen it h hq htm hi
    · exact step_ok_shut s s1 u a seen op p d fl c h F e hreq hd hfa hw

theorem enabled_fresh (s : St) (seen : List Nat) (op : Op) (id : Nat) (hen : enabled s seen op = true)
    (h : isReq op = some id) : id ∉ seen := by
  cases op <;> simp [isReq] at h
  subst h
  simp only [enabled, Bool.and_eq_true, Bool.not_eq_true'] at hen
  simpa using hen.1.1

theorem spec_count (id : Nat) : ∀ (h : List (Op × Obs)) (a : Acc), specGo a h = .ok →
    responsesTo id h ≤ a.owed.count id + a.abandoned.count id + issued id h := by
  intro h
  induction h with
  | nil => intro a _; simp [responsesTo]
  | cons p rest ih =>
    intro a hok
    obtain ⟨op, o⟩ := p
    simp only [specGo] at hok
    obtain ⟨hv, hrest⟩ := Verdict.and_eq_ok.mp hok
    obtain ⟨owed2, ab2, hset, _, _, e⟩ := of_specStep_ok a op o hv
    have ih' := ih _ hrest
    simp only [responsesTo, issued, List.map_cons, List.sum_cons, List.countP_cons, e, nextAcc] at ih' ⊢
    have hc := settle_step_count id (isReq op) (cl := isClose op = true) hset
    omega

theorem responsesTo_eq_one (id : Nat) (r : Resp) (h1 h2 : List (Op × Obs)) (op : Op) (o : Obs)
    (hmem : (id, r) ∈ o.dels) (hle : responsesTo id (h1 ++ (op, o) :: h2) ≤ 1) :
    responsesTo id (h1 ++ (op, o) :: h2) = 1 := by
  have hpos : 0 < o.dels.countP (fun d => d.1 == id) := List.countP_pos_iff.mpr ⟨_, hmem, by simp⟩
  simp only [responsesTo, List.map_append, List.sum_append, List.map_cons, List.sum_cons] at hle ⊢
  omega

/-! Whole histories, once for both components: the transport alone (`comp`) and the transport with its
  blocked callers (`pcomp`) are both run by `TComp.trace`, admit operation lists by a predicate that
  checks one operation and goes on, and are seen by the specification through a view of their operations. -/

section Sim
variable {σ O : Type} (c : TComp Unit σ O Obs) (view : O → Op)

theorem trace_append_foldl (pre : List O) : ∀ (s : σ) (post : List O),
    c.trace () s (pre ++ post) =
      c.trace () s pre ++ c.trace () (pre.foldl (fun s op => (c.step () s op).1) s) post := by
  induction pre with
  | nil => intros; rfl
  | cons op pre ih => intro s post; simp only [List.cons_append, TComp.trace, List.foldl_cons, ih]

/-- `R` relates the states of the component to accumulators of the specification, `ok` admits
    operation lists: an admitted operation is accepted by the specification, issues a fresh request
    id if any, and leads to related states and an admitted rest -/
structure Sim (R : σ → Acc → List Nat → Prop) (ok : σ → List Nat → List O → Prop) : Prop where
  step : ∀ s a seen op ops, R s a seen → ok s seen (op :: ops) →
    Accepts R a (view op) (c.step () s op).2 (c.step () s op).1 (seenAfter (view op) seen) ∧
    ok (c.step () s op).1 (seenAfter (view op) seen) ops ∧ ∀ id, isReq (view op) = some id → id ∉ seen

variable {c view} {R : σ → Acc → List Nat → Prop} {ok : σ → List Nat → List O → Prop} (S : Sim c view R ok)
include S

/-- the bound on `issued` carries `seen.count id` through the induction: what a fresh id adds to `issued`
    it adds to the count in `seen` -/
theorem Sim.run : ∀ (ops : List O) (s : σ) (a : Acc) (seen : List Nat), R s a seen → ok s seen ops →
    specGo a ((c.trace () s ops).map (fun p => (view p.1, p.2))) = .ok ∧
    ∀ id, seen.Nodup → issued id ((c.trace () s ops).map (fun p => (view p.1, p.2))) + seen.count id ≤ 1
  | [], _, _, _, _, _ => ⟨rfl, fun id hn => by simpa [TComp.trace, issued] using List.nodup_iff_count.mp hn id⟩
  | op :: ops, s, a, seen, hr, hok => by
    obtain ⟨⟨hv, hr'⟩, hok', hfresh⟩ := S.step s a seen op ops hr hok
    obtain ⟨ih1, ih2⟩ := Sim.run ops _ _ _ hr' hok'
    refine ⟨by simp only [TComp.trace, List.map_cons, specGo]; exact Verdict.and_ok hv ih1, fun id hn => ?_⟩
    have ih := ih2 id
    show issued id ((view op, (c.step () s op).2) :: (c.trace () (c.step () s op).1 ops).map _) + _ ≤ 1
    simp only [issued, List.countP_cons, seenAfter] at ih ⊢
    cases hreq : isReq (view op) with
    | none => simpa [hreq] using ih (by simpa [hreq] using hn)
    | some i =>
      have := ih (by simpa [hreq] using ⟨hfresh i hreq, hn⟩)
      simp only [hreq, List.count_cons, beq_iff_eq, Option.some.injEq] at this ⊢
      omega

theorem Sim.split : ∀ (pre post : List O) (s : σ) (a : Acc) (seen : List Nat), R s a seen →
    ok s seen (pre ++ post) →
    ∃ a' seen', R (pre.foldl (fun s op => (c.step () s op).1) s) a' seen' ∧
      ok (pre.foldl (fun s op => (c.step () s op).1) s) seen' post
  | [], _, _, a, seen, hr, hok => ⟨a, seen, hr, hok⟩
  | op :: pre, post, s, a, seen, hr, hok => by
    obtain ⟨⟨_, hr'⟩, hok', _⟩ := S.step s a seen op (pre ++ post) hr hok
    exact Sim.split pre post _ _ _ hr' hok'

theorem Sim.at_most_once (ops : List O) (h0 : R (c.init ()) {} []) (hok : ok (c.init ()) [] ops) (id : Nat) :
    responsesTo id ((c.modelTrace () ops).map (fun p => (view p.1, p.2))) ≤ 1 := by
  obtain ⟨h1, h2⟩ := S.run ops _ _ _ h0 hok
  have h1 := spec_count id _ {} h1
  have h2 := h2 id .nil
  simp at h1 h2
  exact Nat.le_trans h1 h2

theorem Sim.exactly_once (pre : List O) (op : O) (post : List O) (h0 : R (c.init ()) {} [])
    (hok : ok (c.init ()) [] (pre ++ op :: post)) (id : Nat) (r : Resp)
    (hmem : (id, r) ∈ (c.step () (pre.foldl (fun s op => (c.step () s op).1) (c.init ())) op).2.dels) :
    responsesTo id ((c.modelTrace () (pre ++ op :: post)).map (fun p => (view p.1, p.2))) = 1 := by
  have hle := S.at_most_once _ h0 hok id
  rw [TComp.modelTrace, trace_append_foldl, List.map_append] at hle ⊢
  exact responsesTo_eq_one id r _ _ _ _ hmem hle

end Sim

end Scales.MuxT
