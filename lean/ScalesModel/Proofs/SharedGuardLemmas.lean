import ScalesModel.Adapter.Shared
import ScalesModel.Proofs.VerdictLemmas

/-!
  Proofs/SharedGuardLemmas.lean — C16: `guarded` components, whose histories carry outcomes instead of observations.
  The guarded model never raises, so its specification is the component's; a raised outcome fails the specification.
-/
namespace Scales.Shared

variable {Cfg σ Op Obs : Type}

theorem guarded_trace (c : TComp Cfg σ Op Obs) (cfg : Cfg) (ops : List Op) : ∀ (s : σ) (i : Nat),
    valPrefix ((guarded c).trace cfg s ops) = c.trace cfg s ops ∧
    firstRaised i ((guarded c).trace cfg s ops) = none := by
  induction ops with
  | nil => exact fun _ _ => ⟨rfl, rfl⟩
  | cons op ops ih => exact fun s i => ⟨congrArg _ (ih _ i).1, (ih _ (i + 1)).2⟩

theorem guarded_model_spec (c : TComp Cfg σ Op Obs) (cfg : Cfg) (ops : List Op) :
    (guarded c).spec cfg ((guarded c).modelTrace cfg ops) = c.spec cfg (c.modelTrace cfg ops) := by
  show guardSpec (c.spec cfg) ((guarded c).trace cfg (c.init cfg) ops) = c.spec cfg (c.trace cfg (c.init cfg) ops)
  rw [guardSpec, (guarded_trace c cfg ops _ 0).1, (guarded_trace c cfg ops _ 0).2]
  cases c.spec cfg (c.trace cfg (c.init cfg) ops) <;> rfl

theorem firstRaised_of_mem (h : List (Op × Res Obs)) (i : Nat) (op : Op) (w : String)
    (hm : (op, Res.raised w) ∈ h) : ∃ x, firstRaised i h = some x := by
  fun_induction firstRaised i h with
  | case1 => cases hm
  | case2 _ _ _ _ ih => exact ih ((List.mem_cons.1 hm).resolve_left nofun)
  | case3 => exact ⟨_, rfl⟩

theorem guardSpec_raised (spec : List (Op × Obs) → Verdict) (h : List (Op × Res Obs)) (op : Op)
    (w : String) (hm : (op, Res.raised w) ∈ h) : guardSpec spec h ≠ .ok := by
  obtain ⟨x, hx⟩ := firstRaised_of_mem h 0 op w hm
  intro hok
  have := (Verdict.and_eq_ok.1 hok).2
  rw [hx] at this
  cases this

end Scales.Shared
