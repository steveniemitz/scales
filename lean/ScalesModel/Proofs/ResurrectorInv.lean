/-
  Proofs/ResurrectorInv.lean — the coupling `Live` between Model/Resurrector.lean and the specification
  automaton of Adapter/Resurrector.lean, and its preservation (with the queue facts `QInv` and the closed
  state `Shut`) by every queued task, read off the case table `TaskStep`, and so by every turn.
-/
import ScalesModel.Proofs.ResBackoff
namespace Scales.Res

/-- fail-fast mode (`_down_on` set) -/
def DownCore (s : St) : Prop := s.down = true ∧ s.next = none ∧ s.subs = []

/-- the retry greenlet is about to sleep, or asleep, for a down period / failed attempt that
    began at `le`; `ld` is the previous delay.  Every sleep the model enters has `wk = le + w`; the first of a down
    period is kept as `wk ≤ le + w`, all the automaton asks of a first delay (it is checked against the maximum only). -/
def Sleeping (p : Par) (s : St) (le : Nat) (ld : Option Nat) : Prop :=
  (s.res = .start ∧ Task.resStart ∈ s.tasks ∧ le = s.now ∧ ld = none) ∨
  (∃ wk w, s.res = .sleep wk w ∧ wk ≤ le + w ∧ w ≤ p.maxW ∧ 0 < w ∧ s.now < wk ∧
    ∀ d, ld = some d → wk = le + w ∧ d ≤ w ∧ (d < w ∨ w = p.maxW))

-- How the forms of `Live` succeed one another (with the operation or task that moves the pair on):
--   up –fault k→ up, raised –notify k→ upDown –end of the turn→ sleeping –resStart→ sleeping, asleep
--   sleeping –tick at the wake instant→ up | sleeping (refused: backed off) | pending (the connect hangs)
--   pending –done ok→ resuming –resume→ resumed –turn, tick or forwarded request→ up
--   pending –done fail→ failing –resume→ sleeping (backed off)
--   resuming –fault k→ resumingR –resume→ up, raised
-- `upDown` occurs only inside a turn; in `resumed` the automaton is behind the model, in `resumingR` ahead of it.
/-- the forms the coupled state takes while the channel is not closed -/
inductive Live (p : Par) (s : St) (a : SS) : Prop
  /-- up (or never opened): the sink in use is the one the environment knows of -/
  | up (h1 : a.known = false) (h2 : a.pend = none) (h3 : a.pendOk = none)
       (hd : s.down = false) (hn : s.next = a.inst) (hs : s.subs = a.inst.toList) (hr : s.res = .none)
       (hk : ∀ k, a.inst = some k → (a.raised = true ↔ Task.notify k ∈ s.tasks))
       (hi : a.inst = none → a.raised = false)
  /-- the fault has just been delivered (within a turn) -/
  | upDown (h1 : a.known = false) (h2 : a.pend = none) (h3 : a.pendOk = none) (h4 : a.raised = true)
       (hc : DownCore s) (hz : Sleeping p s s.now none)
  /-- a fault was raised on the sink whose successful Open() has not been picked up yet.  The order in the queue
      matters here only: run before `resume`, `notify k` would find `k` unsubscribed and be lost; run after it, it takes
      the fresh sink down again, which is what the automaton has booked (`fault k` with `pendOk = some k`). -/
  | resumingR (k : Nat) (w : Nat) (h1 : a.known = false) (h2 : a.pend = none) (h3 : a.pendOk = none)
       (h4 : a.raised = true) (h5 : a.inst = some k)
       (hc : DownCore s) (hr : s.res = .opening k w .ok)
       (ht : ∃ pre post, s.tasks = pre ++ Task.resume :: post ∧ Task.notify k ∉ pre ∧ Task.notify k ∈ post)
  /-- down, waiting for the next attempt -/
  | sleeping (h1 : a.known = true) (h2 : a.pend = none) (h3 : a.pendOk = none) (h4 : a.raised = false)
       (h5 : a.inst = none) (hc : DownCore s) (hz : Sleeping p s a.lastEnd a.lastDelay)
  /-- down, the pending connect has just failed -/
  | failing (k w : Nat) (h1 : a.known = true) (h2 : a.pend = none) (h3 : a.pendOk = none)
       (h4 : a.raised = false) (h5 : a.inst = none) (hc : DownCore s)
       (hr : s.res = .opening k w .fail) (ht : Task.resume ∈ s.tasks) (hl : a.lastEnd = s.now)
       (hw : w ≤ p.maxW ∧ 0 < w ∧ ∀ d, a.lastDelay = some d → d ≤ w)
  /-- down, a connect is pending -/
  | pending (k w : Nat) (h1 : a.known = true) (h2 : a.pend = some k) (h3 : a.pendOk = none)
       (h4 : a.raised = false) (h5 : a.inst = none) (hc : DownCore s)
       (hr : s.res = .opening k w .pending) (hnk : Task.notify k ∉ s.tasks)
       (hw : w ≤ p.maxW ∧ 0 < w ∧ ∀ d, a.lastDelay = some d → d ≤ w)
  /-- down, the pending connect has succeeded, the greenlet has not resumed yet -/
  | resuming (k w : Nat) (h1 : a.known = true) (h2 : a.pend = none) (h3 : a.pendOk = some k)
       (h4 : a.raised = false) (h5 : a.inst = none) (hc : DownCore s)
       (hr : s.res = .opening k w .ok) (ht : Task.resume ∈ s.tasks) (hnk : Task.notify k ∉ s.tasks)
  /-- … it has resumed (inside a request's turn), the specification has not been told yet -/
  | resumed (k : Nat) (h1 : a.known = true) (h2 : a.pend = none) (h3 : a.pendOk = some k)
       (h4 : a.raised = false) (h5 : a.inst = none)
       (hd : s.down = false) (hn : s.next = some k) (hs : s.subs = [k]) (hr : s.res = .none)
       (hnk : Task.notify k ∉ s.tasks)

/-- after `Close()` -/
def Shut (s : St) : Prop :=
  s.down = false ∧ s.subs = [] ∧ s.res ≠ .start ∧ (s.res ≠ .none → Task.kill ∈ s.tasks)

structure QInv (s : St) (closed : Bool) : Prop where
  bound : ∀ k, Task.notify k ∈ s.tasks → k < s.sinks.length
  nokill : closed = false → Task.kill ∉ s.tasks

theorem QInv.mono {s s' : St} {c : Bool} (hq : QInv s c) (extra : List Task)
    (hs : s.sinks.length ≤ s'.sinks.length) (ht : ∀ x ∈ s'.tasks, x ∈ s.tasks ∨ x ∈ extra)
    (hx : ∀ x ∈ extra, x ≠ .kill ∧ ∀ k, x = .notify k → k < s'.sinks.length) : QInv s' c :=
  ⟨fun k hk => (ht _ hk).elim (fun h => Nat.lt_of_lt_of_le (hq.bound k h) hs) fun h => (hx _ h).2 k rfl,
    fun hc hk => (ht _ hk).elim (hq.nokill hc) fun h => (hx _ h).1 rfl⟩

@[simp] theorem emit_tasks (s : St) (e : Ev) : (emit s e).tasks = s.tasks := rfl
@[simp] theorem push_tasks (s : St) (t : Task) : (push s t).tasks = s.tasks ++ [t] := rfl
@[simp] theorem updSink_fields (s : St) (i : Nat) (g : Sink → Sink) :
    (updSink s i g).tasks = s.tasks ∧ (updSink s i g).down = s.down ∧ (updSink s i g).next = s.next ∧
    (updSink s i g).subs = s.subs ∧ (updSink s i g).res = s.res ∧ (updSink s i g).now = s.now ∧
    (updSink s i g).reach = s.reach ∧ (updSink s i g).ev = s.ev ∧
    (updSink s i g).sinks.length = s.sinks.length :=
  ⟨rfl, rfl, rfl, rfl, rfl, rfl, rfl, rfl, List.length_modify ..⟩

@[simp] theorem emit_fields (s : St) (e : Ev) :
    (emit s e).down = s.down ∧ (emit s e).next = s.next ∧ (emit s e).subs = s.subs ∧
    (emit s e).res = s.res ∧ (emit s e).now = s.now ∧ (emit s e).sinks = s.sinks ∧
    (emit s e).reach = s.reach := ⟨rfl, rfl, rfl, rfl, rfl, rfl, rfl⟩

@[simp] theorem pop_fields (s : St) :
    (pop s).down = s.down ∧ (pop s).next = s.next ∧ (pop s).subs = s.subs ∧ (pop s).res = s.res ∧
    (pop s).now = s.now ∧ (pop s).sinks = s.sinks ∧ (pop s).reach = s.reach ∧ (pop s).ev = s.ev ∧
    (pop s).ups = s.ups ∧ (pop s).tasks = s.tasks.tail := ⟨rfl, rfl, rfl, rfl, rfl, rfl, rfl, rfl, rfl, rfl⟩

@[simp] theorem closeSink_fields (s : St) (i : Nat) :
    (closeSink s i).tasks = s.tasks ∧ (closeSink s i).down = s.down ∧ (closeSink s i).next = s.next ∧
    (closeSink s i).subs = s.subs ∧ (closeSink s i).res = s.res ∧ (closeSink s i).now = s.now ∧
    (closeSink s i).reach = s.reach ∧ (closeSink s i).sinks.length = s.sinks.length :=
  ⟨rfl, rfl, rfl, rfl, rfl, rfl, rfl, List.length_modify ..⟩

theorem append_eq_append_cons {α : Type} {x : α} : ∀ {hd rest pre post : List α},
    hd ++ rest = pre ++ x :: post → x ∉ hd → ∃ pre', pre = hd ++ pre' ∧ rest = pre' ++ x :: post
  | [], _, pre, _, h, _ => ⟨pre, rfl, h⟩
  | y :: hd, _, [], _, h, hx => absurd (List.cons.inj h).1.symm (fun e => hx (e ▸ List.mem_cons_self))
  | y :: hd, _, z :: pre, _, h, hx =>
    have ⟨pre', h1, h2⟩ := append_eq_append_cons (List.cons.inj h).2 (fun hm => hx (List.mem_cons_of_mem _ hm))
    ⟨pre', by rw [h1, (List.cons.inj h).1]; rfl, h2⟩

theorem onSinkFaulted_down {s : St} (hd : s.down = true) : onSinkFaulted s = push s .notifyUp := by
  simp only [onSinkFaulted, hd, if_true]

theorem onSinkFaulted_none {s : St} (hd : s.down = false) (hn : s.next = none) :
    onSinkFaulted s = emit { s with down := true } .raised := by
  simp only [onSinkFaulted, hd, hn]; rfl

theorem onSinkFaulted_up {s : St} {n : Nat} (hd : s.down = false) (hn : s.next = some n) :
    onSinkFaulted s = { s with
      sinks := s.sinks.modify n (fun k => { k with st := .closed }), ev := s.ev ++ [.close n], down := true,
      next := none, subs := s.subs.filter (· ≠ n), res := .start, tasks := s.tasks ++ [.resStart] ++ [.notifyUp] } := by
  simp only [onSinkFaulted, hd, hn]; rfl

theorem resSuccess_up {s : St} (sid : Nat) (hd : s.down = false) :
    resSuccess s sid = { s with
      sinks := s.sinks.modify sid (fun k => { k with st := .closed }), ev := s.ev ++ [.close sid], res := .none } := by
  unfold resSuccess
  rw [if_neg (by rw [hd]; nofun)]
  rfl

theorem resSuccess_down {s : St} (sid : Nat) (hd : s.down = true) :
    resSuccess s sid =
      { s with subs := sid :: s.subs.filter (· ≠ sid), next := some sid, down := false, res := .none } := by
  simp only [resSuccess, hd, if_true]

/-- the greenlet that callback `t` would switch into is gone or waits for something else (it was killed, has ended, or
    its `Open()` result is still pending): the callback runs without effect -/
def Stale (s : St) : Task → Prop
  | .resStart => s.res ≠ .start
  | .resume => ∀ sid w r, s.res = .opening sid w r → r = .pending ∨ r = .none
  | .kill => s.res = .none ∨ s.res = .start
  | _ => False

/-- What running one callback of the hub does to the state, one row per case of `runTask`; the invariants of a turn are
    kept row by row. -/
inductive TaskStep (p : Par) (s : St) : Task → St → Prop
  | stale {t : Task} (h : Stale s t) : TaskStep p s t s
  | unsub {j : Nat} (h : j ∉ s.subs) : TaskStep p s (.notify j) s
  | faulted {j : Nat} (h : j ∈ s.subs) : TaskStep p s (.notify j) (onSinkFaulted s)
  | notifyUp : TaskStep p s .notifyUp { s with ups := s.ups + 1 }
  | started (h : s.res = .start) :
      TaskStep p s .resStart (if s.down then { s with res := .sleep (s.now + p.init) p.init } else { s with res := .none })
  | opened {sid w : Nat} (h : s.res = .opening sid w .ok) : TaskStep p s .resume (resSuccess s sid)
  | refused {sid w : Nat} (h : s.res = .opening sid w .fail) : TaskStep p s .resume
      { s with sinks := s.sinks.modify sid (fun k => { k with st := .closed }), ev := s.ev ++ [.close sid],
               res := .sleep (s.now + nextWait p w) (nextWait p w) }
  | killed (h : ¬Stale s .kill) : TaskStep p s .kill { s with res := .none }

theorem runTask_step (p : Par) (s : St) (t : Task) : TaskStep p s t (runTask p s t) := by
  cases t with
  | notify j =>
    by_cases h : j ∈ s.subs
    · simp only [runTask, List.contains_iff_mem.mpr h, if_true]; exact .faulted h
    · simp only [runTask, List.contains_iff_mem, h, if_false]; exact .unsub h
  | notifyUp => exact .notifyUp
  | resStart =>
    cases h : s.res with
    | start => simp only [runTask, h]; exact .started h
    | _ => simp only [runTask, h]; exact .stale (by simp [Stale, h])
  | kill =>
    cases h : s.res with
    | none | start => simp only [runTask, h]; exact .stale (by simp [Stale, h])
    | _ => simp only [runTask, h]; exact .killed (by simp [Stale, h])
  | resume =>
    cases h : s.res with
    | opening sid w r =>
      cases r with
      | ok => simp only [runTask, h]; exact .opened h
      | fail => simp only [runTask, h]; exact .refused h
      | _ => simp only [runTask, h]; exact .stale (by simp [Stale, h])
    | _ => simp only [runTask, h]; exact .stale (by simp [Stale, h])

/-- the events a queued task may log: no connect and no forwarded request -/
def benign : Ev → Bool
  | .close _ => true
  | .raised => true
  | _ => false

/-- `s'` arises from `s` by leaving `l` of the queue, queueing `notifyUp`s and `resStart`s behind it and logging
    closes -/
structure Eff (l : List Task) (s s' : St) : Prop where
  tasks : ∃ extra, s'.tasks = l ++ extra ∧ ∀ x ∈ extra, x = Task.notifyUp ∨ x = Task.resStart
  sinks : s'.sinks.length = s.sinks.length
  ev : ∃ evx, s'.ev = s.ev ++ evx ∧ ∀ e ∈ evx, benign e = true
  now : s'.now = s.now
  reach : s'.reach = s.reach

theorem Eff.same {s s' : St} (h1 : s'.tasks = s.tasks := by rfl) (h2 : s'.sinks = s.sinks := by rfl)
    (h3 : s'.ev = s.ev := by rfl) (h4 : s'.now = s.now := by rfl) (h5 : s'.reach = s.reach := by rfl) :
    Eff s.tasks s s' :=
  ⟨⟨[], h1.trans (List.append_nil _).symm, nofun⟩, congrArg _ h2, ⟨[], h3.trans (List.append_nil _).symm, nofun⟩, h4, h5⟩

theorem Eff.log {s s' : St} (e : Ev) (he : benign e = true) (h1 : s'.tasks = s.tasks)
    (h2 : s'.sinks.length = s.sinks.length) (h3 : s'.ev = s.ev ++ [e]) (h4 : s'.now = s.now)
    (h5 : s'.reach = s.reach) : Eff s.tasks s s' :=
  ⟨⟨[], h1.trans (List.append_nil _).symm, nofun⟩, h2, ⟨[e], h3, fun _ hx => List.mem_singleton.mp hx ▸ he⟩, h4, h5⟩

theorem Eff.push (s : St) {t : Task} (ht : t = .notifyUp ∨ t = .resStart) : Eff s.tasks s (push s t) :=
  ⟨⟨[t], rfl, fun _ hx => List.mem_singleton.mp hx ▸ ht⟩, rfl, ⟨[], (List.append_nil _).symm, nofun⟩, rfl, rfl⟩

theorem onSinkFaulted_eff (s : St) : Eff s.tasks s (onSinkFaulted s) := by
  cases hd : s.down with
  | true => rw [onSinkFaulted_down hd]; exact .push s (.inl rfl)
  | false =>
    cases hn : s.next with
    | none =>
      rw [onSinkFaulted_none hd hn]
      exact .log .raised rfl rfl rfl rfl rfl rfl
    | some n =>
      rw [onSinkFaulted_up hd hn]
      exact ⟨⟨[.resStart, .notifyUp], List.append_assoc .., by simp⟩, List.length_modify ..,
        ⟨[.close n], rfl, fun _ hx => List.mem_singleton.mp hx ▸ rfl⟩, rfl, rfl⟩

theorem runTask_eff (p : Par) (s : St) (t : Task) : Eff s.tasks s (runTask p s t) := by
  have h := runTask_step p s t
  generalize runTask p s t = s' at h
  cases h with
  | faulted => exact onSinkFaulted_eff s
  | started => split <;> exact .same
  | @opened sid =>
    cases hd : s.down with
    | true => rw [resSuccess_down sid hd]; exact .same
    | false => rw [resSuccess_up sid hd]; exact .log (.close sid) rfl rfl (List.length_modify ..) rfl rfl rfl
  | refused => exact .log (.close _) rfl rfl (List.length_modify ..) rfl rfl rfl
  | _ => exact .same

theorem Sleeping.not_opening {p : Par} {s : St} {le : Nat} {ld : Option Nat} (h : Sleeping p s le ld) {k w : Nat}
    {r : Ar} : s.res ≠ .opening k w r := fun hr =>
  h.elim (fun h => nomatch hr.symm.trans h.1) fun ⟨_, _, h, _⟩ => nomatch hr.symm.trans h

theorem Sleeping.backoff {p : Par} (hf : Grows p) {s : St} {w le : Nat} {ld : Option Nat}
    (hr : s.res = .sleep (s.now + nextWait p w) (nextWait p w)) (hle : le = s.now) (hw : w ≤ p.maxW) (hp : 0 < w)
    (hld : ∀ d, ld = some d → d ≤ w) : Sleeping p s le ld := by
  have hge := le_nextWait p hf w hw
  have hpos := Nat.lt_of_lt_of_le hp hge
  subst hle
  exact .inr ⟨_, _, hr, Nat.le_refl _, nextWait_le_max p w, hpos, Nat.lt_add_of_pos_right hpos, fun d hd =>
    ⟨rfl, Nat.le_trans (hld d hd) hge, (nextWait_strict p hf w hw).imp (Nat.lt_of_le_of_lt (hld d hd)) id⟩⟩

/-- Of the queue the coupling wants to know whether the tasks the current form waits for are there, and that no fault of
    a watched sink is.  So it survives when tasks `hd` that nobody waits for are taken from the front of the queue and
    tasks `extra` that concern no watched sink are put at its end.  The fields that it does not read at all (written out as
    record updates, so that those it does read stay by definition) may change freely. -/
theorem live_frame (p : Par) {s : St} {a : SS} (h : Live p s a) (hd rest extra : List Task) {tk : List Task}
    (ht : s.tasks = hd ++ rest) (ht' : tk = rest ++ extra)
    (hnotify : ∀ k, a.inst = some k → s.subs = [k] → Task.notify k ∉ hd)
    (hstart : s.res = .start → Task.resStart ∉ hd)
    (hresume : ∀ k w r, s.res = .opening k w r → r = .ok ∨ r = .fail → Task.resume ∉ hd)
    (hsafe : ∀ j, Task.notify j ∈ extra → a.inst ≠ some j ∧ a.pend ≠ some j ∧ a.pendOk ≠ some j)
    {sk u ev r r' n rs cl io} :
    Live p { s with tasks := tk, sinks := sk, ups := u, ev := ev, reach := r }
      { a with now := n, reach := r', reachSince := rs, closed := cl, instOk := io } := by
  subst ht'
  have keep : ∀ {x}, x ∈ s.tasks → x ∉ hd → x ∈ rest ++ extra := fun hm hn =>
    List.mem_append_left _ ((List.mem_append.mp (ht ▸ hm)).resolve_left hn)
  have gone : ∀ k, (a.inst = some k ∨ a.pend = some k ∨ a.pendOk = some k) → Task.notify k ∉ s.tasks →
      Task.notify k ∉ rest ++ extra := fun k hk hn hm =>
    (List.mem_append.mp hm).elim (fun hm => hn (ht ▸ List.mem_append_right _ hm)) fun hm =>
      have ⟨c1, c2, c3⟩ := hsafe k hm
      hk.elim c1 (·.elim c2 c3)
  have hz : ∀ {le ld}, Sleeping p s le ld →
      Sleeping p { s with tasks := rest ++ extra, sinks := sk, ups := u, ev := ev, reach := r } le ld := fun hz =>
    hz.imp (fun ⟨h1, h2, h3⟩ => ⟨h1, keep h2 (hstart h1), h3⟩) id
  cases h with
  | up h1 h2 h3 hd' hn hs hr hk hi =>
    exact .up h1 h2 h3 hd' hn hs hr (fun k hk' => (hk k hk').trans
      ⟨fun hm => keep hm (hnotify k hk' (by rw [hs, hk']; rfl)),
        fun hm => Decidable.byContradiction fun hc => gone k (.inl hk') hc hm⟩) hi
  | upDown h1 h2 h3 h4 hc hz' => exact .upDown h1 h2 h3 h4 hc (hz hz')
  | resumingR k w h1 h2 h3 h4 h5 hc hr htt =>
    obtain ⟨pre, post, he, hp, hq⟩ := htt
    obtain ⟨pre', rfl, hr'⟩ := append_eq_append_cons (ht.symm.trans he) (hresume k w .ok hr (.inl rfl))
    exact .resumingR k w h1 h2 h3 h4 h5 hc hr
      ⟨pre', post ++ extra, by rw [hr', List.append_assoc]; rfl, fun hm => hp (List.mem_append_right _ hm),
        List.mem_append_left _ hq⟩
  | sleeping h1 h2 h3 h4 h5 hc hz' => exact .sleeping h1 h2 h3 h4 h5 hc (hz hz')
  | failing k w h1 h2 h3 h4 h5 hc hr htt hl hw =>
    exact .failing k w h1 h2 h3 h4 h5 hc hr (keep htt (hresume k w .fail hr (.inr rfl))) hl hw
  | pending k w h1 h2 h3 h4 h5 hc hr hnk hw =>
    exact .pending k w h1 h2 h3 h4 h5 hc hr (gone k (.inr (.inl h2)) hnk) hw
  | resuming k w h1 h2 h3 h4 h5 hc hr htt hnk =>
    exact .resuming k w h1 h2 h3 h4 h5 hc hr (keep htt (hresume k w .ok hr (.inl rfl))) (gone k (.inr (.inr h3)) hnk)
  | resumed k h1 h2 h3 h4 h5 hd' hn hs hr hnk =>
    exact .resumed k h1 h2 h3 h4 h5 hd' hn hs hr (gone k (.inr (.inr h3)) hnk)

theorem live_same (p : Par) {s : St} {a : SS} (h : Live p s a)
    {sk u ev r r' n rs cl io} :
    Live p { s with sinks := sk, ups := u, ev := ev, reach := r }
      { a with now := n, reach := r', reachSince := rs, closed := cl, instOk := io } :=
  live_frame p h [] s.tasks [] rfl (List.append_nil _).symm (fun _ _ _ => nofun) (fun _ => nofun)
    (fun _ _ _ _ _ => nofun) nofun

theorem live_task (p : Par) (hp : p.Ok) (s : St) (a : SS) (t : Task)
    (hq : QInv { s with tasks := t :: s.tasks } false) (h : Live p { s with tasks := t :: s.tasks } a) :
    Live p (runTask p s t) a := by
  have ne : ∀ {x}, t ≠ x → x ∉ [t] := fun hne hm => hne (List.mem_singleton.mp hm).symm
  -- a task the current form does not wait for leaves the queue
  have drop : (∀ k, a.inst = some k → s.subs = [k] → t ≠ .notify k) → (s.res = .start → t ≠ .resStart) →
      (∀ k w r, s.res = .opening k w r → r = .ok ∨ r = .fail → t ≠ .resume) → Live p s a := fun hA hB hC =>
    live_frame p h [t] s.tasks [] rfl (List.append_nil _).symm (fun k hk hs => ne (hA k hk hs))
      (fun hst => ne (hB hst)) (fun k w r hr hne => ne (hC k w r hr hne)) nofun
  have st := runTask_step p s t
  generalize runTask p s t = s' at st
  cases st with
  | stale hs =>
    cases t with
    | resStart => exact drop nofun (fun h _ => hs h) nofun
    | resume =>
      refine drop nofun nofun fun k w r hr hne _ => ?_
      rcases hs k w r hr with rfl | rfl <;> rcases hne with h | h <;> cases h
    | kill => exact (hq.nokill rfl List.mem_cons_self).elim
    | _ => exact hs.elim
  | unsub hj => exact drop (fun k _ hsk e => hj (by cases e; rw [hsk]; exact List.mem_singleton_self _)) nofun nofun
  | notifyUp => exact live_same p (drop (fun _ _ _ => nofun) (fun _ => nofun) fun _ _ _ _ _ => nofun)
  | killed => exact (hq.nokill rfl List.mem_cons_self).elim
  | @faulted j hc =>
    cases h with
    | up h1 h2 h3 hd hn hs hr hk hi =>
      cases hin : a.inst with
      | none => rw [hs, hin] at hc; cases hc
      | some k =>
        rw [hs, hin] at hc
        obtain rfl : j = k := List.mem_singleton.mp hc
        rw [onSinkFaulted_up (s := s) hd (hn.trans hin)]
        refine .upDown h1 h2 h3 ((hk j hin).mpr List.mem_cons_self) ⟨rfl, rfl, ?_⟩ (.inl ⟨rfl, ?_, rfl, rfl⟩)
        · show s.subs.filter (· ≠ j) = []
          rw [hs, hin]; simp
        · show Task.resStart ∈ (s.tasks ++ [.resStart]) ++ [.notifyUp]
          simp
    | resumed k h1 h2 h3 h4 h5 hd hn hs hr hnk =>
      rw [hs] at hc
      obtain rfl : j = k := List.mem_singleton.mp hc
      exact (hnk List.mem_cons_self).elim
    | _ => rw [‹DownCore _›.2.2] at hc; cases hc
  | started hst =>
    have mk : ∀ s' : St, s'.res = .sleep (s.now + p.init) p.init → s'.now = s.now →
        Sleeping p s' s.now none := fun s' h1 h2 =>
      .inr ⟨_, _, h1, Nat.le_refl _, hp.init_le, hp.init_pos, h2 ▸ Nat.lt_add_of_pos_right hp.init_pos, nofun⟩
    cases h with
    | upDown h1 h2 h3 h4 hc hz =>
      rw [if_pos hc.1]; exact .upDown h1 h2 h3 h4 hc (mk _ rfl rfl)
    | sleeping h1 h2 h3 h4 h5 hc hz =>
      rw [if_pos hc.1]
      rcases hz with ⟨_, _, hle, hld⟩ | ⟨wk, w, hr, _⟩
      · exact .sleeping h1 h2 h3 h4 h5 hc (by rw [hle, hld]; exact mk _ rfl rfl)
      · cases hst.symm.trans hr
    | up _ _ _ _ _ _ hr | resumingR _ _ _ _ _ _ _ _ hr | failing _ _ _ _ _ _ _ _ hr | pending _ _ _ _ _ _ _ _ hr
    | resuming _ _ _ _ _ _ _ _ hr | resumed _ _ _ _ _ _ _ _ _ hr => cases hst.symm.trans hr
  | @opened sid w hres =>
    cases h with
    | resumingR k w' h1 h2 h3 h4 h5 hc hr htt =>
      cases hres.symm.trans hr
      rw [resSuccess_down (s := s) sid hc.1]
      refine .up h1 h2 h3 rfl h5.symm ?_ rfl (fun k hk => ?_) (fun hi => by cases h5.symm.trans hi)
      · show sid :: s.subs.filter (· ≠ sid) = _
        rw [hc.2.2, h5]; rfl
      cases h5.symm.trans hk
      obtain ⟨pre, post, he, hp, hq'⟩ := htt
      refine ⟨fun _ => ?_, fun _ => h4⟩
      show _ ∈ s.tasks
      cases pre with
      | nil => rw [(List.cons.inj he).2]; exact hq'
      | cons x pre' =>
        rw [(List.cons.inj he).2]; exact List.mem_append_right _ (List.mem_cons_of_mem _ hq')
    | resuming k w' h1 h2 h3 h4 h5 hc hr htt hnk =>
      cases hres.symm.trans hr
      rw [resSuccess_down (s := s) sid hc.1]
      refine .resumed sid h1 h2 h3 h4 h5 rfl rfl ?_ rfl (fun hm => hnk (List.mem_cons_of_mem _ hm))
      show sid :: s.subs.filter (· ≠ sid) = _
      rw [hc.2.2]; rfl
    | up _ _ _ _ _ _ hr | failing _ _ _ _ _ _ _ _ hr | pending _ _ _ _ _ _ _ _ hr
    | resumed _ _ _ _ _ _ _ _ _ hr => cases hres.symm.trans hr
    | upDown _ _ _ _ _ hz | sleeping _ _ _ _ _ _ hz => exact (hz.not_opening hres).elim
  | @refused sid w hres =>
    cases h with
    | failing k w' h1 h2 h3 h4 h5 hc hr htt hl hw =>
      cases hres.symm.trans hr
      exact .sleeping h1 h2 h3 h4 h5 ⟨hc.1, hc.2.1, hc.2.2⟩ (.backoff hp.grows rfl hl hw.1 hw.2.1 hw.2.2)
    | up _ _ _ _ _ _ hr | resumingR _ _ _ _ _ _ _ _ hr | pending _ _ _ _ _ _ _ _ hr
    | resuming _ _ _ _ _ _ _ _ hr | resumed _ _ _ _ _ _ _ _ _ hr => cases hres.symm.trans hr
    | upDown _ _ _ _ _ hz | sleeping _ _ _ _ _ _ hz => exact (hz.not_opening hres).elim

theorem qinv_task (p : Par) (s : St) (c : Bool) (t : Task) (hq : QInv { s with tasks := t :: s.tasks } c) :
    QInv (runTask p s t) c :=
  have he := runTask_eff p s t
  have ⟨extra, hx, hx'⟩ := he.tasks
  hq.mono extra (Nat.le_of_eq he.sinks.symm)
    (fun _ hm => (List.mem_append.mp (hx ▸ hm)).imp_left (List.mem_cons_of_mem _))
    fun x h => (hx' x h).elim (· ▸ ⟨nofun, nofun⟩) (· ▸ ⟨nofun, nofun⟩)

theorem shut_task (p : Par) (s : St) (t : Task) (h : Shut { s with tasks := t :: s.tasks }) : Shut (runTask p s t) := by
  have keep : t ≠ .kill → Task.kill ∈ t :: s.tasks → Task.kill ∈ s.tasks := fun hne hm =>
    (List.mem_cons.mp hm).resolve_left (Ne.symm hne)
  obtain ⟨hd, hs, hns, hk⟩ := h
  have st := runTask_step p s t
  generalize runTask p s t = s' at st
  cases st with
  | stale h => exact ⟨hd, hs, hns, fun hr => keep (fun e => by subst e; exact h.elim hr hns) (hk hr)⟩
  | unsub | notifyUp => exact ⟨hd, hs, hns, fun hr => keep nofun (hk hr)⟩
  | faulted h => rw [hs] at h; cases h
  | started h => exact (hns h).elim
  | @opened sid =>
    rw [resSuccess_up (s := s) sid hd]
    exact ⟨hd, hs, nofun, fun hr => (hr rfl).elim⟩
  | killed => exact ⟨hd, hs, nofun, fun hr => (hr rfl).elim⟩
  | refused h => exact ⟨hd, hs, nofun, fun _ => keep nofun (hk (by rw [h]; nofun))⟩

/-- a property kept by every task — stated for the state whose queue is the task followed by the queue it finds, so that
    taking the task off is no step of the proof — is kept by a run -/
theorem runN_inv (p : Par) (P : St → Prop)
    (hstep : ∀ s t, P { s with tasks := t :: s.tasks } → P (runTask p s t)) :
    ∀ n s, P s → P (runN p n s) := by
  intro n s
  fun_induction runN p n s with
  | case1 | case2 => exact id
  | case3 n s t rest ht ih =>
    refine fun h => ih (hstep (pop s) t ?_)
    obtain ⟨_, _, _, _, _, _, _, tk, _, _⟩ := s
    cases (show tk = t :: rest from ht)
    exact h

theorem runN_eff (p : Par) : ∀ n s, Eff (s.tasks.drop n) s (runN p n s) := by
  intro n s
  fun_induction runN p n s with
  | case1 => exact .same
  | case2 n s ht => rw [show List.drop (n + 1) s.tasks = s.tasks by rw [ht]; rfl]; exact .same
  | case3 n s t rest ht ih =>
    have h1 := runTask_eff p (pop s) t
    obtain ⟨x, hx, hx'⟩ := h1.tasks
    obtain ⟨y, hy, hy'⟩ := ih.tasks
    rw [hx, show (pop s).tasks = rest from congrArg List.tail ht, List.drop_append] at hy
    obtain ⟨e, he, he'⟩ := h1.ev
    obtain ⟨f, hf, hf'⟩ := ih.ev
    refine ⟨⟨List.drop (n - rest.length) x ++ y, by rw [hy, ht, List.append_assoc]; rfl, fun t ht => ?_⟩,
      ih.sinks.trans h1.sinks, ⟨e ++ f, by rw [hf, he, List.append_assoc]; rfl, fun t ht => ?_⟩,
      ih.now.trans h1.now, ih.reach.trans h1.reach⟩
    · exact (List.mem_append.mp ht).elim (fun h => hx' t (List.mem_of_mem_drop h)) (hy' t)
    · exact (List.mem_append.mp ht).elim (he' t) (hf' t)

theorem runTurn_eff (p : Par) (s : St) : Eff [] s (runTurn p s) := by
  have := runN_eff p s.tasks.length s
  rwa [List.drop_length] at this

theorem live_turn (p : Par) (hp : p.Ok)
    (s : St) (a : SS) (h : Live p s a) (hq : QInv s false) :
    Live p (runTurn p s) a ∧ QInv (runTurn p s) false :=
  runN_inv p (fun s' => Live p s' a ∧ QInv s' false)
    (fun s' t ⟨h1, h2⟩ => ⟨live_task p hp s' a t h2 h1, qinv_task p s' false t h2⟩) _ s ⟨h, hq⟩

theorem shut_turn (p : Par) (s : St) (h : Shut s) (hq : QInv s true) :
    Shut (runTurn p s) ∧ QInv (runTurn p s) true :=
  runN_inv p (fun s' => Shut s' ∧ QInv s' true)
    (fun s' t ⟨h1, h2⟩ => ⟨shut_task p s' t h1, qinv_task p s' true t h2⟩) _ s ⟨h, hq⟩

theorem benign_spec (ev : List Ev) (h : ∀ e ∈ ev, benign e = true) :
    firstCreate ev = none ∧ ev.any isFwd = false := by
  induction ev with
  | nil => exact ⟨rfl, rfl⟩
  | cons e ev ih =>
    have ih' := ih fun x hx => h x (List.mem_cons_of_mem _ hx)
    have he := h e List.mem_cons_self
    cases e with
    | close _ => exact ih'
    | raised => exact ih'
    | _ => cases he

theorem runTurn_ev (p : Par) {s : St} (hev : s.ev = []) :
    firstCreate (runTurn p s).ev = none ∧ (runTurn p s).ev.any isFwd = false := by
  obtain ⟨evx, he, hb⟩ := (runTurn_eff p s).ev
  rw [he, hev]
  exact benign_spec _ hb

theorem no_task_after_turn (p : Par) (s : St) (x : Task) (h1 : x ≠ .notifyUp) (h2 : x ≠ .resStart) :
    x ∉ (runTurn p s).tasks := by
  obtain ⟨extra, he, hx⟩ := (runTurn_eff p s).tasks
  intro hm
  rw [he] at hm
  exact (hx x hm).elim h1 h2

end Scales.Res
