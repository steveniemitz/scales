/-
  Proofs/ResMuxSpec.lean — the executable specification of C09 for the ThriftMux chain
  (Adapter/ResMux.lean) accepts the history of the chain model: coupling between the model state
  and the state of the specification's automaton, kept by every operation.
-/
import ScalesModel.Proofs.ResMuxInv
namespace Scales.ResMux
open Scales.Transport
open Scales.MuxT
open Scales.Res (Par nextWait Grows)

/-- The specification's automaton and the model agree (before `Close()`).
    `alive`: the client holds a connection only if somebody will hear of its end — the resurrector is subscribed, or
    a retry greenlet is opening it (so: nobody listens ⇒ no connection).  `slp`: a sleeping retry greenlet wakes at
    the end of the last attempt plus its wait, and the wait is the back-off of the delay before that attempt: what
    `connStep` checks when the greenlet connects.  `opg`: the delay before the attempt in progress, if the automaton has
    kept one (it may forget it: `cpl_forget`, `EnvOk`). -/
structure Cpl (p : P) (s : St) (a : MS) : Prop where
  now : a.now = s.now
  reach : a.reach = s.reach
  ncl : a.closed = false
  nbl : a.blind = false
  down : a.down = s.down
  conn : a.conn = connOf s.tr
  body : a.conn ≠ .none → a.atBody = isBody s.tr.rl
  alive : connOf s.tr ≠ .none → s.sub = true ∨ ∃ w, s.rg = .opening w
  slp : ∀ wk w, s.rg = .sleep wk w →
    wk = a.lastEnd + w ∧ ∀ q, a.lastDelay = some q → w = nextWait p.r q ∧ q ≤ p.r.maxW
  opg : ∀ w, s.rg = .opening w → ∀ q, a.lastDelay = some q → q = w

/-- what a step of the transport means for the specification's automaton: the connection it
    ends with, and where its receive loop stands -/
def specAfter (a : MS) (c' : CP) (ab' : Bool) : MS :=
  if c' = .none then (if a.conn = .none then a else lost a)
  else if a.conn = .hs ∧ c' = .up then { a with atBody := ab', conn := .up, down := false, lastDelay := none }
  else { a with atBody := ab' }

variable {p : P} {b : Bool} {c : Cfg} {s : St} {a : MS} {idx : Nat} {t' : MuxT.St} {o : MuxT.Out} {ab' : Bool}

theorem specAfter_none (hn : a.conn = .none) : specAfter a .none ab' = a := by
  simp [specAfter, hn]

theorem specAfter_lost (hn : a.conn ≠ .none) : specAfter a .none ab' = lost a := by
  simp [specAfter, hn]

theorem specAfter_up (hc : a.conn = .hs) :
    specAfter a .up ab' = { a with atBody := ab', conn := .up, down := false, lastDelay := none } := by
  simp [specAfter, hc]

theorem specAfter_keep {c' : CP} (h1 : c' = a.conn) (hn : a.conn ≠ .none) :
    specAfter a c' ab' = { a with atBody := ab' } := by
  subst h1
  unfold specAfter
  rw [if_neg hn, if_neg (fun hx => by rw [hx.1] at hx; cases hx.2)]

theorem specAfter_same {c' : CP} (h1 : c' = a.conn) (h2 : a.conn ≠ .none → ab' = a.atBody) :
    specAfter a c' ab' = a := by
  by_cases hn : a.conn = .none
  · rw [h1, hn]; exact specAfter_none hn
  · rw [specAfter_keep h1 hn, h2 hn]

theorem liveStep_id (b : MS) (c' : CP) (h : c' = b.conn) : liveStep b (if c' = .none then 0 else 1) = b := by
  subst h
  unfold liveStep
  by_cases hn : b.conn = .none
  · rw [if_neg (fun hx => hx.1 hn)]
  · rw [if_neg hn, if_neg (fun hx => nomatch hx.2)]

theorem liveStep_eq (a : MS) (t : MuxT.St) (h : a.conn = connOf t) : liveStep a (live t) = a := by
  rw [live_eq t]; exact liveStep_id a _ h.symm

theorem cpl_frame {T : MuxT.St} {W : List Nat} {D1 D2 : Option Nat} (h : Cpl p s a) (ec : connOf T = connOf s.tr) :
    Cpl p { s with tr := T, waiters := W, pingDl := D1, pingDue := D2 } (specAfter a (connOf T) (isBody T.rl)) := by
  have hc : connOf T = a.conn := ec.trans h.conn.symm
  obtain ⟨ab, e, hb⟩ : ∃ ab, specAfter a (connOf T) (isBody T.rl) = { a with atBody := ab } ∧
      (a.conn ≠ .none → ab = isBody T.rl) := by
    by_cases hn : a.conn = .none
    · exact ⟨a.atBody, specAfter_same hc (fun hx => absurd hn hx), fun hx => absurd hn hx⟩
    · exact ⟨_, specAfter_keep hc hn, fun _ => rfl⟩
  rw [e]
  exact ⟨h.now, h.reach, h.ncl, h.nbl, h.down, hc.symm, hb, by rw [ec]; exact h.alive, h.slp, h.opg⟩

theorem cpl_up {s' : St} (h : Cpl p s a) (e1 : s'.now = s.now) (e2 : s'.reach = s.reach)
    (e3 : s'.down = false) (e4 : s'.sub = true) (e5 : s'.rg = .none) (ec : connOf s'.tr = .up)
    (hc : a.conn = .hs) : Cpl p s' (specAfter a .up (isBody s'.tr.rl)) := by
  rw [specAfter_up hc]
  exact ⟨h.now.trans e1.symm, h.reach.trans e2.symm, h.ncl, h.nbl, e3.symm, ec.symm, fun _ => rfl,
    fun _ => .inl e4, by rw [e5]; nofun, by rw [e5]; nofun⟩

theorem cpl_lost {s' : St} (h : Cpl p s a) (e1 : s'.now = s.now) (e2 : s'.reach = s.reach)
    (e3 : s'.down = true) (w : Nat) (e5 : s'.rg = .sleep (s.now + w) w) (ec : connOf s'.tr = .none)
    (hn : a.conn ≠ .none) (hq : ∀ q, (lost a).lastDelay = some q → w = nextWait p.r q ∧ q ≤ p.r.maxW) :
    Cpl p s' (specAfter a .none (isBody s'.tr.rl)) := by
  rw [specAfter_lost hn]
  refine ⟨h.now.trans e1.symm, h.reach.trans e2.symm, h.ncl, h.nbl, e3.symm, ec.symm, fun hx => absurd rfl hx,
    fun hx => absurd ec hx, ?_, by rw [e5]; nofun⟩
  intro wk w' hx
  rw [e5] at hx
  injection hx with h1 h2
  subst h1 h2
  exact ⟨by show s.now + w = a.now + w; rw [h.now], hq⟩

theorem absorb_cpl (hc : CInv p b s) (h : Cpl p s a) (hs : TStep s.tr t' o) :
    Cpl p (absorb p s t' o).1 (specAfter a (connOf t') (isBody t'.rl)) := by
  obtain ⟨T, W, D1, D2, e, hx, k⟩ := settle_form p s hs.inv
  rw [← k.conn, ← k.rl]
  -- nobody listens and there is no connection: there is none afterwards
  have deaf : s.sub = false → (∀ w, s.rg ≠ .opening w) → Cpl p (absorb p s t' o).1
      (specAfter a (connOf T) (isBody T.rl)) := by
    intro hss hr
    have hn : connOf s.tr = .none := Decidable.byContradiction fun hx =>
      (h.alive hx).elim (fun e => by rw [hss] at e; cases e) (fun ⟨w, e⟩ => hr w e)
    rw [absorb_deaf hss hr, e]
    exact cpl_frame h (k.conn.trans ((hs.of_none hn).trans hn.symm))
  cases hc.mode with
  | off hd hr hss => exact deaf hss (by rw [hr]; nofun)
  | asleep wk w hd hi hss hr => exact deaf hss (by rw [hr]; nofun)
  | on hd hr hss hi hcn =>
    cases hs.kind with
    | keep ph nf =>
      rw [absorb_quiet (.inl nf) (by rw [hr]; nofun), e]
      exact cpl_frame h (k.conn.trans ph.conn)
    | answered og cs nf =>
      have eu : connOf T = .up := k.conn.trans (connOf_up.mpr cs)
      rw [absorb_quiet (.inl nf) (by rw [hr]; nofun), e, eu]
      exact cpl_up h rfl rfl hd hss hr eu (h.conn.trans ((connOf_hs hc.tr).mpr og))
    | shut cs _ f =>
      have en : connOf T = .none := k.conn.trans (connOf_closed hs.inv cs)
      rw [absorb_fault f hss hd, e, en]
      refine cpl_lost h rfl rfl rfl p.r.init rfl en (h.conn ▸ hcn) ?_
      intro q hq
      simp [lost, h.down, hd] at hq
  | opening w hd hi hss hr ho h4 h5 =>
    have hhs : a.conn = .hs := h.conn.trans ((connOf_hs hc.tr).mpr ho)
    cases hs.kind with
    | keep ph =>
      rw [absorb_quiet (.inr hss) (fun _ _ => ph.openRes.trans (hc.tr.opening_pending ho)), e]
      exact cpl_frame h (k.conn.trans ph.conn)
    | answered _ cs =>
      have eu : connOf T = .up := k.conn.trans (connOf_up.mpr cs)
      rw [absorb_opened hss hr hd (hs.inv.core.opn cs).2.1, e, eu]
      exact cpl_up h rfl rfl rfl rfl rfl eu hhs
    | shut cs fail =>
      have en : connOf T = .none := k.conn.trans (connOf_closed hs.inv cs)
      rw [absorb_failed hss hr (fail ho), e, en]
      refine cpl_lost h rfl rfl hd (nextWait p.r w) rfl en (by rw [hhs]; nofun) ?_
      intro q hq
      cases h.opg w hr q (by simpa [lost, h.down, hd] using hq)
      exact ⟨rfl, h5⟩

theorem specStep_run (c : Cfg) (a : MS) (idx : Nat) (op : Op) (o : Obs) (a2 : MS) (h1 : a.closed = false)
    (h2 : a.blind = false) (hr : opReq c a idx op o = .ok)
    (hc : connStep c (envStep a op) idx o.conns = (.ok, a2)) :
    specStep c a idx op o = (.ok, opEnd (liveStep a2 o.live) op) := by
  simp [specStep, h1, h2, hr, hc]

theorem connStep_zero (c : Cfg) (a : MS) (idx : Nat) : connStep c a idx 0 = (.ok, a) := by
  simp [connStep]

theorem connStep_first (c : Cfg) (idx : Nat) (hc : a.conn = .none) (hd : a.down = false) :
    connStep c a idx 1 =
      (.ok, if a.reach then { a with conn := .hs, atBody := false }
            else { a with down := true, lastEnd := a.now, lastDelay := none }) := by
  cases hr : a.reach <;> simp [connStep, hc, hd, hr]

theorem connStep_retry (c : Cfg) (idx : Nat) {w : Nat} (hc : a.conn = .none) (hd : a.down = true)
    (hw : a.now - a.lastEnd = w) (hm : w ≤ c.maxW)
    (hb : ∀ q, a.lastDelay = some q → q ≤ w ∧ (q < w ∨ w = c.maxW)) :
    connStep c a idx 1 =
      (.ok, if a.reach then { a with conn := .hs, atBody := false, lastDelay := some w }
            else { a with lastEnd := a.now, lastDelay := some w }) := by
  have hb' := Res.delay_ok a.lastDelay w c.maxW hb
  have hm' : ¬c.maxW < w := Nat.not_lt.mpr hm
  cases hr : a.reach
  · simp [connStep, hc, hd, hw, hm', hr]; exact hb'
  · simp [connStep, hc, hd, hw, hm', hr]; exact hb'

theorem toReads_all_ok (rs : List (IOOut × Fr)) :
    (∃ r ∈ toReads rs, r.1 ≠ IOOut.ok) ∨ (∀ r ∈ toReads rs, r.1 = IOOut.ok) :=
  (Decidable.em _).imp_right fun hex r hr => Decidable.byContradiction fun hne => hex ⟨r, hr, hne⟩

theorem cpl_forget (h : Cpl p s a) : Cpl p s { a with lastDelay := none } :=
  ⟨h.now, h.reach, h.ncl, h.nbl, h.down, h.conn, h.body, h.alive, fun wk w hx => ⟨(h.slp wk w hx).1, nofun⟩,
    fun _ _ _ => nofun⟩

/-- what the specification's automaton made (`a1`) of an operation that took the newest transport
    to `t'` is what the step did to the connection — up to the freedom the specification leaves
    when an answered handshake and the loss of the connection come together -/
def EnvOk (a a1 : MS) (t' : MuxT.St) : Prop :=
  a1 = specAfter a (connOf t') (isBody t'.rl) ∨
  a1 = { specAfter a (connOf t') (isBody t'.rl) with lastDelay := none }

/-- an operation after which the specification's automaton knows the connection: the look at the connections held
    tells it nothing -/
theorem cpl_step {s' : St} {o : Out} {a2 : MS} (h : Cpl c.par s a) (op : Op) (hreq : opReq c a idx op (obsOf s' o) = .ok)
    (hcs : connStep c (envStep a op) idx o.conns = (.ok, a2)) (h2 : a2.conn = connOf s'.tr) :
    specStep c a idx op (obsOf s' o) = (.ok, opEnd a2 op) := by
  rw [specStep_run c a idx op _ a2 h.ncl h.nbl hreq hcs]
  show (_, opEnd (liveStep a2 (live s'.tr)) op) = _
  rw [liveStep_eq a2 s'.tr h2]

theorem tstep_cpl (op : Op) (hc : CInv c.par true s) (h : Cpl c.par s a) (hs : TStep s.tr t' o)
    (hreq : opReq c a idx op (obsOf (absorb c.par s t' o).1 (absorb c.par s t' o).2) = .ok)
    (henv : EnvOk a (envStep a op) t')
    (hend : ∀ x, opEnd x op = x) :
    ∃ a', specStep c a idx op (obsOf (absorb c.par s t' o).1 (absorb c.par s t' o).2) = (.ok, a') ∧
      Cpl c.par (absorb c.par s t' o).1 a' := by
  have hcpl := absorb_cpl hc h hs
  have hz : connStep c (envStep a op) idx o.eff.conns = (.ok, envStep a op) := by
    rw [hs.conns]; exact connStep_zero c _ idx
  suffices hk : Cpl c.par (absorb c.par s t' o).1 (envStep a op) from
    ⟨_, cpl_step h op hreq hz hk.conn, by rw [hend]; exact hk⟩
  rcases henv with e | e <;> rw [e]
  · exact hcpl
  · exact cpl_forget hcpl

theorem cpl_congr (h : Cpl p s a) (ws : List Nat) (d : Option Nat) : Cpl p { s with waiters := ws, pingDue := d } a :=
  ⟨h.now, h.reach, h.ncl, h.nbl, h.down, h.conn, h.body, h.alive, h.slp, h.opg⟩

theorem env_keep (h : Cpl p s a) (k : Keep s.tr t') : a = specAfter a (connOf t') (isBody t'.rl) :=
  (specAfter_same (k.conn.trans h.conn.symm) (fun hx => by rw [k.rl]; exact (h.body hx).symm)).symm

theorem reads_fail_env {rs : List (IOOut × Frame)} (ht : TInv t') (hc : t'.cstate = .closed)
    (hcn : a.conn ≠ .none) (hany : rs.any (fun r => r.1 ≠ .ok) = true) :
    EnvOk a (readsEffect a rs) t' := by
  unfold EnvOk
  rw [connOf_closed ht hc, specAfter_lost hcn]
  simp only [readsEffect, hcn, if_false, readsGo_failed, hany, if_true]
  split
  · exact .inr rfl
  · exact .inl rfl

theorem reads_env {t : MuxT.St} (ht : TInv t) (hrl : t.rl ≠ .dead) (hconn : a.conn = connOf t)
    (hbody : a.conn ≠ .none → a.atBody = isBody t.rl) (rs : List (IOOut × Frame)) :
    EnvOk a (readsEffect a rs) (t.burst rs).1 ∧
    TStep t (t.burst rs).1 (t.burst rs).2 := by
  have hcn : a.conn ≠ .none := hconn ▸ conn_of_alive ht (.inl hrl)
  have hab : a.atBody = isBody t.rl := hbody hcn
  cases hany : rs.any (fun r => r.1 ≠ .ok)
  · obtain ⟨ts, trl, tc⟩ := burst_tstep_ok ht hrl rs hany
    refine ⟨.inl ?_, ts⟩
    simp only [readsEffect, hcn, if_false, readsGo_failed, hany, Bool.false_eq_true]
    rw [trl, isBody_rlOf, ← hab]
    rw [← hab] at tc
    split at tc
    · rename_i hc
      have hhs : a.conn = .hs := hconn.trans ((connOf_hs ht).mpr hc.1)
      rw [if_pos ⟨hhs, by simpa using hc.2⟩, connOf_up.mpr tc, specAfter_up hhs]
    · rename_i hc
      have hcc : connOf (t.burst rs).1 = a.conn := tc.conn.trans hconn.symm
      rw [if_neg (fun hx => hc ⟨(connOf_hs ht).mp (hconn ▸ hx.1), by simpa using hx.2⟩), specAfter_keep hcc hcn]
  · obtain ⟨ts, tc⟩ := burst_tstep_fail ht hrl rs hany
    exact ⟨reads_fail_env ts.inv tc hcn hany, ts⟩

theorem io_env {opened : Bool} {seen : List Nat} {op : Op} (ht : TInv s.tr) (h : Cpl p s a)
    (hok : opOk s opened false seen op = true) (hio : isIO op = true) :
    ∃ t' o, stepSt p s op = absorb p s t' o ∧ TStep s.tr t' o ∧ EnvOk a (envStep a op) t' := by
  cases op with
  | wr o =>
    have hen := opOk_wr hok
    obtain ⟨ts, tk, tcl⟩ := wr_tstep ht hen o
    have hcn : a.conn ≠ .none := h.conn ▸ conn_of_alive ht (.inr fun e => by rw [e] at hen; cases hen)
    refine ⟨_, _, rfl, ts, .inl ?_⟩
    simp only [envStep]
    by_cases ho : o = .ok
    · rw [if_neg (fun hx => hx.1 ho)]; exact env_keep h (tk ho)
    · rw [if_pos ⟨ho, hcn⟩, connOf_closed ts.inv (tcl ho), specAfter_lost hcn]
  | rd o f =>
    obtain ⟨e1, ts⟩ := reads_env ht (opOk_rd hok) h.conn h.body (toReads [(o, f)])
    exact ⟨_, _, rfl, ts, e1⟩
  | burst rs =>
    obtain ⟨e1, ts⟩ := reads_env ht (opOk_burst hok) h.conn h.body (toReads rs)
    exact ⟨_, _, rfl, ts, e1⟩
  | race f o =>
    obtain ⟨hen, ho⟩ := opOk_race hok
    have hcn : a.conn ≠ .none := h.conn ▸ conn_of_alive ht (.inl (by rw [hen]; nofun))
    obtain ⟨ts, tc⟩ := race_tstep ht hen f.toFrame o ho
    exact ⟨_, _, rfl, ts, reads_fail_env (rs := [(.ok, f.toFrame), (o, .junk)]) ts.inv tc hcn (by simp [ho])⟩
  | _ => cases hio

theorem reach_cpl (up : Bool) (h : Cpl c.par s a) :
    ∃ a', specStep c a idx (.reach up) (step c s (.reach up)).2 = (.ok, a') ∧
      Cpl c.par (stepSt c.par s (.reach up)).1 a' :=
  ⟨_, cpl_step h (.reach up) rfl (connStep_zero c _ idx) h.conn,
    h.now, rfl, h.ncl, h.nbl, h.down, h.conn, h.body, h.alive, h.slp, h.opg⟩

/-- a request that is failed fast passes if the client is not connected and the retry greenlet
    will still wake in time -/
theorem reqStep_ff {id : Nat} {o : Obs} (hu : a.conn ≠ .up) (hd : o.dels = [(id, .ff)])
    (hc : o.conns = 0) (hrec : a.down = true → a.conn = .none → a.now < a.lastEnd + c.maxW) :
    reqStep c a idx id o = .ok := by
  unfold reqStep
  split
  · rename_i h
    rw [hd, hc, if_neg (by simp), if_neg]
    exact fun hx => Nat.not_lt.mpr hx.2 (Nat.lt_of_lt_of_le (hrec h.1 h.2)
      (Nat.add_le_add_right (Nat.le_max_right ..) _))
  · rfl

theorem reqStep_quiet {id : Nat} {o : Obs} (hd : a.down = false)
    (h : a.conn = .up → o.dels = []) : reqStep c a idx id o = .ok := by
  unfold reqStep
  rw [if_neg (fun hx => by rw [hd] at hx; cases hx.1)]
  split
  · rename_i hu; rw [h hu]; rfl
  · rfl

theorem req_cpl (id : Nat) (hc : CInv c.par true s) (h : Cpl c.par s a) :
    ∃ a', specStep c a idx (.req id) (obsOf (doReq c.par s id).1 (doReq c.par s id).2) = (.ok, a') ∧
      Cpl c.par (doReq c.par s id).1 a' := by
  fun_cases doReq c.par s id with
  | case1 hin =>
    -- fail-fast mode (or never opened): answered on the spot, nothing else happens
    refine ⟨a, cpl_step h (.req id) ?_ (connStep_zero c _ idx) h.conn, h⟩
    apply reqStep_ff ?_ rfl rfl
    · -- the retry greenlet is asleep and will wake within one maximum interval of the last failure
      intro hd hcn
      cases hc.mode with
      | on hd' => rw [h.down, hd'] at hd; cases hd
      | off hd' => rw [h.down, hd'] at hd; cases hd
      | asleep wk w _ _ _ hr _ h2 _ _ h5 =>
        rw [h.now]
        exact Nat.lt_of_lt_of_le (h2 rfl) ((h.slp wk w hr).1 ▸ Nat.add_le_add_left h5 _)
      | opening w _ _ _ _ ho => rw [h.conn, (connOf_hs hc.tr).mpr ho] at hcn; cases hcn
    · intro hu
      rw [h.conn] at hu
      rcases h.alive (by rw [hu]; nofun) with hs | ⟨w, hr⟩
      · rw [(hc.sb hs).1] at hin; cases hin
      · have := (hc.tr.core.opn (connOf_up.mp hu)).1
        rw [(hc.og w hr).1] at this; cases this
  | case2 hin ho =>
    -- blocked on the open result
    refine ⟨a, cpl_step h (.req id) ?_ (connStep_zero c _ idx) h.conn, cpl_congr h _ _⟩
    have hcs : a.conn = .hs := h.conn.trans ((connOf_hs hc.tr).mpr ho)
    exact reqStep_quiet (h.down.trans (hc.not_down (Bool.not_eq_false _ ▸ hin))) (fun hu => by rw [hcs] at hu; cases hu)
  | case3 hin ho =>
    -- forwarded to the transport
    have ho := Bool.eq_false_iff.mpr ho
    obtain ⟨ts, tk, td⟩ := request_tstep hc.tr ho id (tagOf id)
    refine tstep_cpl (.req id) hc h ts ?_ (.inl (env_keep h tk)) (fun _ => rfl)
    refine reqStep_quiet (h.down.trans (hc.not_down (Bool.not_eq_false _ ▸ hin))) (fun hu => ?_)
    show (absorb c.par s _ _).2.dels = []
    rw [absorb_snd_nopend c.par s _ _ (fun e => absurd e (hc.tr.not_pending ho)), td (connOf_up.mp (h.conn ▸ hu))]
    rfl

theorem opn_cpl (hc : CInv c.par true s) (h : Cpl c.par s a) (hoff : s.sub = false ∧ s.down = false) :
    ∃ a', specStep c a idx .opn (obsOf (doOpen c.par s).1 (doOpen c.par s).2) = (.ok, a') ∧
      Cpl c.par (doOpen c.par s).1 a' := by
  have hrg : ∀ x : RG, s.rg = x → x = .none := fun x hx => hx.symm.trans (hc.up hoff.2)
  -- nobody listens: there is no connection
  have hcn : a.conn = .none := h.conn.trans <| Decidable.byContradiction fun hx =>
    (h.alive hx).elim (fun e => by rw [hoff.1] at e; cases e) (fun ⟨w, e⟩ => RG.noConfusion (hrg _ e))
  have hcs := connStep_first c idx hcn (h.down.trans hoff.2)
  cases hi : s.inst with
  | true => rw [doOpen, hi, if_pos rfl]; exact ⟨a, cpl_step h .opn rfl (connStep_zero c _ idx) h.conn, h⟩
  | false =>
  cases hr : s.reach with
  | true =>
    rw [doOpen_up c.par hi hr]
    rw [if_pos (h.reach.trans hr)] at hcs
    exact ⟨{ a with conn := .hs, atBody := false }, cpl_step h .opn rfl hcs rfl, h.now, h.reach, h.ncl, h.nbl, h.down, rfl,
      fun _ => rfl, fun _ => .inl rfl, fun _ _ hx => RG.noConfusion (hrg _ hx), fun _ hx => RG.noConfusion (hrg _ hx)⟩
  | false =>
    rw [doOpen_down c.par hi hoff.2 hr]
    rw [if_neg (by rw [h.reach, hr]; exact Bool.false_ne_true)] at hcs
    refine ⟨{ a with down := true, lastEnd := a.now, lastDelay := none }, cpl_step h .opn rfl hcs hcn, h.now, h.reach,
      h.ncl, h.nbl, rfl, hcn, fun hx => absurd hcn hx, fun hx => absurd rfl hx, ?_, nofun⟩
    intro wk w hx
    injection hx with h1 h2
    subst h1 h2
    exact ⟨by show s.now + c.par.r.init = a.now + c.par.r.init; rw [h.now], nofun⟩

theorem close_cpl (hc : CInv c.par true s) (h : Cpl c.par s a) :
    ∃ a', specStep c a idx .close (step c s .close).2 = (.ok, a') ∧ a'.closed = true :=
  ⟨_, specStep_run c a idx .close _ (envStep a .close) h.ncl h.nbl rfl (by
    show connStep c _ idx (doClose c.par s).2.conns = _
    rw [(doClose_inv hc).2.2]; exact connStep_zero c _ idx), rfl⟩

/-- the specification's automaton sees of the ping helper and the ping loop only whether the
    client has lost its connection -/
theorem Drained.cpl {s2 : St} {o2 : Out} (hp : PH p) (hd : Drained p s s2 o2) (hc : CInv p false s) (h : Cpl p s a) :
    Cpl p s2 a ∨ (a.conn ≠ .none ∧ Cpl p s2 (lost a)) := by
  induction hd generalizing a with
  | refl s => exact .inl h
  | @step s t' o ts hk x =>
    have hcpl := cpl_congr (absorb_cpl hc h ts) (absorb p s t' o).1.waiters x
    rcases hk with hcl | k
    · rw [connOf_closed ts.inv hcl] at hcpl
      by_cases hn : a.conn = .none
      · rw [specAfter_none hn] at hcpl; exact .inl hcpl
      · rw [specAfter_lost hn] at hcpl; exact .inr ⟨hn, hcpl⟩
    · rw [← env_keep h k] at hcpl; exact .inl hcpl
  | trans d1 _ ih1 ih2 =>
    rcases ih1 hc h with h1 | ⟨hn, h1⟩
    · exact ih2 (d1.inv hp hc).1 h1
    · exact .inr ⟨hn, (ih2 (d1.inv hp hc).1 h1).elim id fun hx => absurd rfl hx.1⟩

/-- the retry greenlet wakes and connects: the delay since the last attempt ended is the back-off's -/
theorem wake_cpl (idx : Nat) (hp : PH c.par) {wk w : Nat} (hc : CInv c.par false s)
    (h : Cpl c.par s a) (hrg : s.rg = .sleep wk w) (hle : wk ≤ s.now) :
    ∃ a', connStep c a idx 1 = (.ok, a') ∧ (resWake c.par s w).2.conns = 1 ∧ Cpl c.par (resWake c.par s w).1 a' := by
  obtain ⟨hdn, _, hsub⟩ := hc.fail_fast (by rw [hrg]; nofun)
  obtain ⟨y1, _, _, _, y3, y5⟩ := hc.sl wk w hrg
  have hcn : a.conn = .none := h.conn.trans (connOf_closed hc.tr y5)
  obtain ⟨e1, e2⟩ := h.slp wk w hrg
  have hcs := connStep_retry c idx hcn (h.down.trans hdn)
    (by rw [h.now, ← Nat.le_antisymm hle y1, e1]; exact Nat.add_sub_cancel_left ..) y3
    (fun q hq => (e2 q hq).1 ▸ ⟨Res.le_nextWait _ hp.grows q (e2 q hq).2, Res.nextWait_strict _ hp.grows q (e2 q hq).2⟩)
  cases hr : s.reach with
  | true =>
    rw [resWake_up c.par w hr]
    rw [if_pos (h.reach.trans hr)] at hcs
    exact ⟨_, hcs, rfl, h.now, h.reach, h.ncl, h.nbl, h.down, rfl, fun _ => rfl, fun _ => .inr ⟨w, rfl⟩, nofun,
      fun w' hx q hq => by cases hx; cases hq; rfl⟩
  | false =>
    rw [resWake_down c.par w hr hsub]
    rw [if_neg (by rw [h.reach, hr]; exact Bool.false_ne_true)] at hcs
    refine ⟨_, hcs, rfl, h.now, h.reach, h.ncl, h.nbl, h.down, hcn, fun hx => absurd hcn hx, fun hx => absurd rfl hx,
      fun wk' w' hx => ?_, nofun⟩
    injection hx with h1 h2
    subst h1 h2
    refine ⟨by show s.now + _ = a.now + _; rw [h.now], fun q hq => ?_⟩
    injection hq with hq
    subst hq
    exact ⟨rfl, y3⟩

theorem tick_cpl (hp : PH c.par) {d : Nat} (hc : CInv c.par true s) (h : Cpl c.par s a)
    (hw : ∀ wk w, s.rg = .sleep wk w → s.now + d ≤ wk) :
    ∃ a', specStep c a idx (.tick d) (obsOf (doTick c.par s d).1 (doTick c.par s d).2) = (.ok, a') ∧
      Cpl c.par (doTick c.par s d).1 a' := by
  obtain ⟨s2, o2, dr, e, c2, z⟩ := doTick_front hp hc hw
  have k2 := dr.cpl (a := { a with now := a.now + d }) hp (cinv_tick hc hw)
    ⟨by show a.now + d = s.now + d; rw [h.now], h.reach, h.ncl, h.nbl, h.down, h.conn, h.body, h.alive, h.slp, h.opg⟩
  rw [e]
  rcases tickWake_cases c.par c2 with ⟨wk, w, hrg, hle, e'⟩ | ⟨_, e'⟩ <;> rw [e']
  · rcases k2 with k2 | ⟨_, k2⟩
    · obtain ⟨a', e1, e2, e3⟩ := wake_cpl idx hp c2 k2 hrg hle
      exact ⟨a', cpl_step h (.tick d) rfl (by
        show connStep c _ idx (o2.conns + (resWake c.par s2 w).2.conns) = _
        rw [z, e2]; exact e1) e3.conn, e3⟩
    · -- the connection was lost in this tick (ping silence): the greenlet sleeps a positive wait from now and
      -- cannot be due
      have : wk = s2.now + w := (k2.slp wk w hrg).1.trans (congrArg (· + w) k2.now)
      exact absurd hle (Nat.not_le.mpr (this ▸ Nat.lt_add_of_pos_right (c2.sl wk w hrg).2.2.2.1))
  · have hz : connStep c (envStep a (.tick d)) idx (o2.conns + 0) = (.ok, envStep a (.tick d)) := by
      rw [z]; exact connStep_zero c _ idx
    rcases k2 with k2 | ⟨hn, k2⟩
    · exact ⟨_, cpl_step h (.tick d) rfl hz k2.conn, k2⟩
    · refine ⟨_, ?_, k2⟩
      rw [specStep_run c a idx (.tick d) _ _ h.ncl h.nbl rfl hz]
      show (_, liveStep _ (live s2.tr)) = _
      rw [live_eq, ← k2.conn]
      exact congrArg (Prod.mk _) (if_pos ⟨hn, rfl⟩)

theorem step_cpl (hp : PH c.par) {opened : Bool} {seen : List Nat} (idx : Nat) {op : Op}
    (hg : GInv c.par s opened false) (h : Cpl c.par s a)
    (hok : opOk s opened false seen op = true) :
    ∃ a', specStep c a idx op (step c s op).2 = (.ok, a') ∧
      if isClose op then a'.closed = true else Cpl c.par (stepSt c.par s op).1 a' := by
  have hc := hg.inv
  cases op with
  | opn => exact opn_cpl hc h (hg.off (.inl (opOk_opn hok).1))
  | req id => exact req_cpl id hc h
  | wr _ | rd _ _ | burst _ | race _ _ =>
    obtain ⟨t', o, e, ts, env⟩ := io_env hc.tr h hok rfl
    show ∃ a', specStep c a idx _ (obsOf (stepSt c.par s _).1 (stepSt c.par s _).2) = (.ok, a') ∧
      Cpl c.par (stepSt c.par s _).1 a'
    rw [e]
    exact tstep_cpl _ hc h ts rfl env (fun _ => rfl)
  | tick d => exact tick_cpl hp hc h (tick_le_wake hok)
  | reach up => exact reach_cpl up h
  | close => exact close_cpl hc h

/-- Over a prefix `ops` of the history, so that the one induction gives both the verdict on the whole (`more = []`)
    and what holds in the middle of it, e.g. right after `Close()` (`run_init`). -/
theorem run_ok (hp : PH c.par) (more : List Op) : ∀ (ops : List Op) (s : St) (a : MS) (opened closed : Bool)
    (seen : List Nat) (idx : Nat),
    GInv c.par s opened closed → (if closed then a.closed = true else Cpl c.par s a) →
    wfGo c.par s opened closed seen (ops ++ more) = true →
    ∃ a' idx', specGo c a idx (comp.trace c s (ops ++ more)) =
        specGo c a' idx' (comp.trace c (runOps c.par s ops) more) ∧
      GInv c.par (runOps c.par s ops) (opened || ops.any isOpn) (closed || ops.any isClose) ∧
      if closed || ops.any isClose then a'.closed = true else Cpl c.par (runOps c.par s ops) a' := by
  intro ops
  induction ops with
  | nil =>
    intro s a opened closed seen idx hg h _
    exact ⟨a, idx, rfl, by rw [List.any_nil, List.any_nil, Bool.or_false, Bool.or_false]; exact ⟨hg, h⟩⟩
  | cons op rest ih =>
    intro s a opened closed seen idx hg h hw
    simp only [List.cons_append, wfGo, Bool.and_eq_true] at hw
    obtain ⟨hok, hrest⟩ := hw
    obtain ⟨a1, e1, h1⟩ : ∃ a1, specStep c a idx op (step c s op).2 = (.ok, a1) ∧
        if closed || isClose op then a1.closed = true else Cpl c.par (stepSt c.par s op).1 a1 := by
      cases closed with
      | false => exact step_cpl hp idx hg h hok
      | true =>
        have : (step c s op).2.conns = 0 := ((step_res hp hg hok).2 (.inr rfl)).2
        exact ⟨a, by simp [specStep, show a.closed = true from h, this], h⟩
    obtain ⟨a', idx', e, hr⟩ := ih _ a1 _ _ _ (idx + 1) (step_ginv hp hg hok) h1 hrest
    refine ⟨a', idx', Eq.trans ?_ e, by rw [List.any_cons, List.any_cons, ← Bool.or_assoc, ← Bool.or_assoc]; exact hr⟩
    show specGo c a idx ((op, (step c s op).2) :: comp.trace c (step c s op).1 (rest ++ more)) = _
    simp only [specGo, e1]
    rfl

theorem specGo_closed (c : Cfg) (ha : a.closed = true) : ∀ (h : List (Op × Obs)) (idx : Nat),
    specGo c a idx h = .ok → ∀ x ∈ h, x.2.conns = 0
  | [], _, _, _, hx => nomatch hx
  | (op, o) :: rest, idx, hok, x, hx => by
    have hz : ¬0 < o.conns := fun hz => by simp [specGo, specStep, ha, hz] at hok
    rcases List.mem_cons.mp hx with rfl | hx
    · exact Nat.eq_zero_of_not_pos hz
    · exact specGo_closed c ha rest (idx + 1) (by simpa [specGo, specStep, ha, hz] using hok) x hx

end Scales.ResMux
