import ScalesModel.Proofs.SharedRefCountLemmas

/-!
  Proofs/SharedProvLemmas.lean — C16, SharedSinkProvider over real-enough underlying sinks: the invariant `ProvInv`
  (its wrappers keep `Bal` as the RefCountedSink does), and that the model's observations satisfy `specP`.
-/
namespace Scales.Shared

theorem sinkAt_zero (l : List PSink) : sinkAt l 0 = {} := rfl

theorem sinkAt_succ (l : List PSink) (k : Nat) : sinkAt l (k + 1) = l[k]?.getD {} := List.getD_eq_getElem?_getD

theorem sinkAt_out (l : List PSink) (s : Nat) (h : l.length < s) : sinkAt l s = {} := by
  cases s with
  | zero => rfl
  | succ k => rw [sinkAt_succ, List.getElem?_eq_none (Nat.le_of_lt_succ h)]; rfl

theorem range_of_shared {l : List PSink} {s : Nat} (h : (sinkAt l s).shared = true) : 1 ≤ s ∧ s ≤ l.length := by
  refine ⟨Nat.pos_of_ne_zero fun h0 => ?_, Nat.le_of_not_lt fun hlt => ?_⟩
  · rw [h0] at h; cases h
  · rw [sinkAt_out l s hlt] at h; cases h

theorem modAt_length (l : List PSink) (s : Nat) (f : PSink → PSink) : (modAt l s f).length = l.length := by
  cases s
  · rfl
  · exact List.length_modify ..

theorem sinkAt_modAt (l : List PSink) (s s' : Nat) (f : PSink → PSink) :
    sinkAt (modAt l s f) s' =
      if s = s' ∧ 1 ≤ s ∧ s ≤ l.length then f (sinkAt l s) else sinkAt l s' := by
  rcases s with _ | k
  · exact (if_neg fun h => absurd h.2.1 (by decide)).symm
  · rcases s' with _ | k'
    · exact (if_neg fun h => nomatch h.1).symm
    · rw [sinkAt_succ, sinkAt_succ, sinkAt_succ, modAt, List.getElem?_modify]
      by_cases hk : k = k'
      · subst hk
        by_cases hl : k < l.length
        · rw [if_pos ⟨rfl, Nat.succ_pos k, hl⟩, List.getElem?_eq_getElem hl]; exact if_pos rfl
        · rw [if_neg fun h => hl h.2.2, List.getElem?_eq_none (Nat.le_of_not_lt hl)]; rfl
      · rw [if_neg fun h => hk (Nat.succ.inj h.1)]
        cases l[k']? with
        | none => rfl
        | some a => exact if_neg hk

theorem sinkAt_modAt_ne (l : List PSink) (s s' : Nat) (f : PSink → PSink) (h : s ≠ s') :
    sinkAt (modAt l s f) s' = sinkAt l s' := by
  rw [sinkAt_modAt, if_neg fun hc => h hc.1]

theorem sinkAt_append (l : List PSink) (x : PSink) (s : Nat) :
    sinkAt (l ++ [x]) s = if s = l.length + 1 then x else sinkAt l s := by
  rcases s with _ | k
  · exact (if_neg (Nat.succ_ne_zero _).symm).symm
  · rw [sinkAt_succ, sinkAt_succ]
    rcases Nat.lt_trichotomy k l.length with hlt | rfl | hgt
    · rw [List.getElem?_append_left hlt, if_neg fun h => Nat.ne_of_lt hlt (Nat.succ.inj h)]
    · rw [List.getElem?_concat_length, if_pos rfl]; rfl
    · rw [if_neg fun h => Nat.ne_of_gt hgt (Nat.succ.inj h), List.getElem?_eq_none (Nat.le_of_lt hgt),
        List.getElem?_eq_none (by rw [List.length_append]; exact hgt)]

theorem sinkAt_append_old (l : List PSink) (x : PSink) (s : Nat) (h : s ≤ l.length) :
    sinkAt (l ++ [x]) s = sinkAt l s := by
  rw [sinkAt_append, if_neg (by omega)]

theorem seenAt_map (l : List PSink) (s : Nat) :
    seenAt (l.map pview) s = ((sinkAt l s).opens, (sinkAt l s).closes) := by
  cases s with
  | zero => rfl
  | succ k =>
    simp only [seenAt, sinkAt, List.getD_eq_getElem?_getD, List.getElem?_map]
    cases l[k]? <;> rfl

theorem hopen_shared (s : PSink) : s.hopen.shared = s.shared := by
  obtain ⟨st, o, c, sh, rc⟩ := s
  cases sh
  · rfl
  · cases rc <;> rfl

theorem hclose_shared (s : PSink) : s.hclose.shared = s.shared := by
  obtain ⟨st, o, c, sh, rc⟩ := s
  cases sh
  · rfl
  · rcases rc with _ | _ | n <;> rfl

theorem hopen_of_shared (s : PSink) (h : s.shared = true) :
    s.hopen.opens = s.opens + (if s.rc = 0 then 1 else 0) ∧ s.hopen.closes = s.closes ∧
    s.hopen.rc = s.rc + 1 := by
  obtain ⟨st, o, c, sh, rc⟩ := s
  cases h
  cases rc <;> exact ⟨rfl, rfl, rfl⟩

theorem hclose_of_shared (s : PSink) (h : s.shared = true) :
    s.hclose.opens = s.opens ∧ s.hclose.closes = s.closes + (if s.rc = 1 then 1 else 0) ∧
    s.hclose.rc = s.rc - 1 := by
  obtain ⟨st, o, c, sh, rc⟩ := s
  cases h
  rcases rc with _ | _ | n <;> exact ⟨rfl, rfl, rfl⟩

theorem hopen_of_plain (s : PSink) (h : s.shared = false) : s.hopen.rc = s.rc := by
  unfold PSink.hopen; rw [h]; rfl

theorem hclose_of_plain (s : PSink) (h : s.shared = false) : s.hclose.rc = s.rc := by
  unfold PSink.hclose; rw [h]; rfl

theorem lookup_append (c d : List (Nat × Nat)) (k : Nat) : lookup (c ++ d) k = (lookup c k).or (lookup d k) := by
  fun_induction lookup c k with
  | case1 => rfl
  | case2 => exact if_pos rfl
  | case3 _ _ _ hne ih => exact (if_neg hne).trans ih

theorem lookup_filter {c : List (Nat × Nat)} {k s : Nat} (P : Nat × Nat → Bool)
    (h : lookup c k = some s) (hP : P (k, s) = true) : lookup (c.filter P) k = some s := by
  fun_induction lookup c k with
  | case1 => cases h
  | case2 => cases h; rw [List.filter_cons_of_pos hP]; exact if_pos rfl
  | case3 _ _ _ hne ih =>
    rw [List.filter_cons]
    split
    · exact (if_neg hne).trans (ih h)
    · exact ih h

theorem lookup_mem {c : List (Nat × Nat)} {k s : Nat} (h : lookup c k = some s) : (k, s) ∈ c := by
  fun_induction lookup c k with
  | case1 => cases h
  | case2 => cases h; exact List.mem_cons_self
  | case3 _ _ _ _ ih => exact List.mem_cons_of_mem _ (ih h)

theorem alive_of_mem {held : List Hold} {x : Hold} (h : x ∈ held) : alive held x.2.2 = true :=
  List.any_eq_true.2 ⟨x, h, beq_self_eq_true _⟩

theorem heldBy_mem {held : List Hold} {h : Nat} {x : Hold} (hx : heldBy held h = some x) : x ∈ held :=
  List.mem_of_find?_eq_some hx

def holdsAfter (p : Prov) (h key s : Nat) : List Hold := p.held.filter (fun x => x.1 != h) ++ [(h, key, s)]

theorem step_create_plain (p : Prov) (h : Nat) :
    p.step (.create h 0) =
      (⟨p.sinks ++ [({} : PSink)], collect (holdsAfter p h 0 (p.sinks.length + 1)) p.cache,
        holdsAfter p h 0 (p.sinks.length + 1)⟩, p.sinks.length + 1) := rfl

theorem step_create_hit (p : Prov) (h key s : Nat) (hk : key ≠ 0) (hl : lookup p.cache key = some s) :
    p.step (.create h key) =
      (⟨p.sinks, collect (holdsAfter p h key s) p.cache, holdsAfter p h key s⟩, s) := by
  simp only [Prov.step, holdsAfter, hk, hl, if_false]

theorem step_create_miss (p : Prov) (h key : Nat) (hk : key ≠ 0) (hl : lookup p.cache key = none) :
    p.step (.create h key) =
      (⟨p.sinks ++ [{ shared := true }],
        collect (holdsAfter p h key (p.sinks.length + 1)) (p.cache ++ [(key, p.sinks.length + 1)]),
        holdsAfter p h key (p.sinks.length + 1)⟩, p.sinks.length + 1) := by
  simp only [Prov.step, holdsAfter, hk, hl, if_false]

/-- an operation that only touches one underlying sink / wrapper -/
def touches (p : Prov) (op : POp) : Option (Nat × (PSink → PSink)) :=
  match op with
  | .hopen h => (heldBy p.held h).map (fun x => (x.2.2, PSink.hopen))
  | .hclose h => (heldBy p.held h).map (fun x => (x.2.2, PSink.hclose))
  | .fault s => some (s, PSink.ufault)
  | _ => none

/-- the call of a holder that holds nothing rewrites the sink 0, which is nobody's (`modAt _ 0 _` changes nothing) -/
theorem step_of_touches (p : Prov) (op : POp) (hc : ∀ h k, op ≠ .create h k) (hd : ∀ h, op ≠ .drop h) :
    (p.step op).1 =
      { p with sinks := modAt p.sinks ((touches p op).getD (0, id)).1 ((touches p op).getD (0, id)).2 } := by
  cases op with
  | hopen h => simp only [Prov.step, touches]; cases heldBy p.held h <;> rfl
  | hclose h => simp only [Prov.step, touches]; cases heldBy p.held h <;> rfl
  | fault _ => rfl
  | create h k => exact absurd rfl (hc h k)
  | drop h => exact absurd rfl (hd h)

theorem touches_keeps {p : Prov} {op : POp} {sf : Nat × (PSink → PSink)} (h : touches p op = some sf) :
    (∀ x, (sf.2 x).shared = x.shared) ∧
    ∀ x, x.shared = true → Bal x.rc x.opens x.closes → Bal (sf.2 x).rc (sf.2 x).opens (sf.2 x).closes := by
  cases op with
  | hopen _ =>
    obtain ⟨_, _, rfl⟩ := Option.map_eq_some_iff.1 h
    refine ⟨hopen_shared, fun x hx hb => ?_⟩
    obtain ⟨h1, h2, h3⟩ := hopen_of_shared x hx
    rw [h1, h2, h3]; exact hb.opened
  | hclose _ =>
    obtain ⟨_, _, rfl⟩ := Option.map_eq_some_iff.1 h
    refine ⟨hclose_shared, fun x hx hb => ?_⟩
    obtain ⟨h1, h2, h3⟩ := hclose_of_shared x hx
    rw [h1, h2, h3]; exact hb.closed
  | fault _ => cases h; exact ⟨fun _ => rfl, fun _ _ hb => hb⟩
  | create _ _ => cases h
  | drop _ => cases h

structure ProvInv (p : Prov) : Prop where
  /-- every key under which somebody holds a shared sink still maps to that sink -/
  look : ∀ x ∈ p.held, x.2.1 ≠ 0 → lookup p.cache x.2.1 = some x.2.2
  /-- what was obtained without a sharing key is a plain sink (under a sharing key: a wrapper, `ProvInv.shared_of`) -/
  plain : ∀ x ∈ p.held, x.2.1 = 0 → x.2.2 ≤ p.sinks.length ∧ (sinkAt p.sinks x.2.2).shared = false
  cach : ∀ e ∈ p.cache, (sinkAt p.sinks e.2).shared = true
  bal : ∀ s, (sinkAt p.sinks s).shared = true →
    Bal (sinkAt p.sinks s).rc (sinkAt p.sinks s).opens (sinkAt p.sinks s).closes

variable {p : Prov}

theorem ProvInv.init : ProvInv {} :=
  ⟨nofun, nofun, nofun, fun _ hs =>
    absurd (Nat.le_trans (range_of_shared hs).1 (range_of_shared hs).2) (Nat.not_succ_le_zero 0)⟩

theorem ProvInv.shared_of (hi : ProvInv p) {x : Hold} (hx : x ∈ p.held) (hk : x.2.1 ≠ 0) :
    (sinkAt p.sinks x.2.2).shared = true :=
  hi.cach _ (lookup_mem (hi.look x hx hk))

theorem ProvInv.frame (hi : ProvInv p) {sinks : List PSink} (hl : p.sinks.length ≤ sinks.length)
    (hsh : ∀ s ≤ p.sinks.length, (sinkAt sinks s).shared = (sinkAt p.sinks s).shared)
    (hbal : ∀ s, (sinkAt sinks s).shared = true →
      Bal (sinkAt sinks s).rc (sinkAt sinks s).opens (sinkAt sinks s).closes) :
    ProvInv { p with sinks := sinks } :=
  ⟨hi.look,
   fun x hx hk => ⟨Nat.le_trans (hi.plain x hx hk).1 hl, (hsh _ (hi.plain x hx hk).1).trans (hi.plain x hx hk).2⟩,
   fun e he => (hsh _ (range_of_shared (hi.cach e he)).2).trans (hi.cach e he),
   hbal⟩

theorem ProvInv.touch (hi : ProvInv p) (s : Nat) {f : PSink → PSink}
    (hsh : ∀ x, (f x).shared = x.shared)
    (hbal : ∀ x, x.shared = true → Bal x.rc x.opens x.closes → Bal (f x).rc (f x).opens (f x).closes) :
    ProvInv { p with sinks := modAt p.sinks s f } := by
  have hsh' : ∀ s', (sinkAt (modAt p.sinks s f) s').shared = (sinkAt p.sinks s').shared := fun s' => by
    rw [sinkAt_modAt]; split
    · rename_i hc; rw [hsh, hc.1]
    · rfl
  refine hi.frame (Nat.le_of_eq (modAt_length ..).symm) (fun s' _ => hsh' s') fun s' hs' => ?_
  have := hi.bal s' (hsh' s' ▸ hs')
  rw [sinkAt_modAt]; split
  · rename_i hc; obtain ⟨rfl, _⟩ := hc
    exact hbal _ (hsh' s ▸ hs') this
  · exact this

theorem ProvInv.push (hi : ProvInv p) (x : PSink) (hx : Bal x.rc x.opens x.closes) :
    ProvInv { p with sinks := p.sinks ++ [x] } := by
  refine hi.frame (by simp) (fun s hs => by rw [sinkAt_append_old _ _ _ hs]) fun s hs => ?_
  rw [sinkAt_append] at hs ⊢
  split
  · exact hx
  · rw [if_neg ‹_›] at hs; exact hi.bal s hs

theorem ProvInv.cacheAdd (hi : ProvInv p) {key s : Nat} (hs : (sinkAt p.sinks s).shared = true) :
    ProvInv { p with cache := p.cache ++ [(key, s)] } :=
  ⟨fun x hx hk => by rw [lookup_append, hi.look x hx hk]; rfl, hi.plain,
   fun e he => (List.mem_append.1 he).elim (hi.cach e) fun h => by cases List.mem_singleton.1 h; exact hs,
   hi.bal⟩

/-- `h`: a new holder holds a plain sink if it asked without a sharing key, and else what the cache has for its key -/
theorem ProvInv.setHeld (hi : ProvInv p) (held : List Hold)
    (h : ∀ x ∈ held, x ∈ p.held ∨
      ((x.2.1 = 0 → x.2.2 ≤ p.sinks.length ∧ (sinkAt p.sinks x.2.2).shared = false) ∧
       (x.2.1 ≠ 0 → lookup p.cache x.2.1 = some x.2.2))) :
    ProvInv { p with cache := collect held p.cache, held := held } :=
  ⟨fun x hx hk => lookup_filter _ ((h x hx).elim (hi.look x · hk) (·.2 hk)) (alive_of_mem hx),
   fun x hx hk => (h x hx).elim (hi.plain x · hk) (·.1 hk),
   fun e he => hi.cach e (List.mem_filter.1 he).1,
   hi.bal⟩

theorem mem_holdsAfter {h key s : Nat} {x : Hold} (hx : x ∈ holdsAfter p h key s) :
    x ∈ p.held ∨ x = (h, key, s) :=
  (List.mem_append.1 hx).imp (fun h => (List.mem_filter.1 h).1) List.mem_singleton.1

theorem ProvInv.step (hi : ProvInv p) (op : POp) : ProvInv (p.step op).1 := by
  -- a holder's call or a fault: one sink rewritten by a function that keeps kind and balance, or nothing
  have htouch : ∀ op, (∀ h k, op ≠ .create h k) → (∀ h, op ≠ .drop h) → ProvInv (p.step op).1 := fun op hc hd => by
    rw [step_of_touches p op hc hd]
    cases ht : touches p op with
    | none => exact hi
    | some sf => exact hi.touch _ (touches_keeps ht).1 (touches_keeps ht).2
  cases op with
  | drop h => exact hi.setHeld _ fun x hx => Or.inl (List.mem_filter.1 hx).1
  | create h key =>
    by_cases hkey : key = 0
    · subst hkey
      rw [step_create_plain]
      refine (hi.push {} rfl).setHeld _ fun x hx => (mem_holdsAfter hx).imp_right ?_
      rintro rfl
      exact ⟨fun _ => ⟨by simp, by rw [sinkAt_append, if_pos rfl]⟩, nofun⟩
    · cases hl : lookup p.cache key with
      | some s =>
        rw [step_create_hit p h key s hkey hl]
        refine hi.setHeld _ fun x hx => (mem_holdsAfter hx).imp_right ?_
        rintro rfl
        exact ⟨fun h0 => absurd h0 hkey, fun _ => hl⟩
      | none =>
        rw [step_create_miss p h key hkey hl]
        have hs : (sinkAt (p.sinks ++ [{ shared := true }]) (p.sinks.length + 1)).shared = true := by
          rw [sinkAt_append, if_pos rfl]
        refine ((hi.push { shared := true } rfl).cacheAdd hs).setHeld _ fun x hx => (mem_holdsAfter hx).imp_right ?_
        rintro rfl
        exact ⟨fun h0 => absurd h0 hkey, fun _ => by rw [lookup_append, hl]; exact if_pos rfl⟩
  | _ => exact htouch _ nofun nofun

theorem Prov.run_inv (ops : List POp) : ∀ {p : Prov}, ProvInv p → ProvInv (p.run ops) := by
  induction ops with
  | nil => intro p h; exact h
  | cons op ops ih => intro p h; exact ih (h.step op)

structure PRel (a : PAcc) (p : Prov) : Prop where
  holds : a.holds = p.held
  created : a.created = p.created
  views : a.views = p.sinks.map pview
  cnt : ∀ s, cntAt a.cnt s = (sinkAt p.sinks s).rc

theorem PRel.init : PRel {} {} := ⟨rfl, rfl, rfl, fun s => by cases s <;> rfl⟩

theorem cntAt_cons (c : List (Nat × Nat)) (k n s : Nat) :
    cntAt ((k, n) :: c) s = if k = s then n else cntAt c s := rfl

section
variable {cnt : List (Nat × Nat)} {l : List PSink} (hc : ∀ s, cntAt cnt s = (sinkAt l s).rc)
include hc

/-- the spec's counts (`PAcc.cnt`) follow the wrappers' through each way the sinks change: a sink rewritten with its
    count kept, or changed as the spec changes it, or a sink created -/
theorem cnt_same (s : Nat) {f : PSink → PSink} (hf : (f (sinkAt l s)).rc = (sinkAt l s).rc) :
    ∀ s', cntAt cnt s' = (sinkAt (modAt l s f) s').rc := fun s' => by
  rw [hc, sinkAt_modAt]; split
  · rename_i h; obtain ⟨rfl, _⟩ := h; exact hf.symm
  · rfl

theorem cnt_touch {s : Nat} (hs : 1 ≤ s ∧ s ≤ l.length) (f : PSink → PSink) :
    ∀ s', cntAt ((s, (f (sinkAt l s)).rc) :: cnt) s' = (sinkAt (modAt l s f) s').rc := fun s' => by
  rw [cntAt_cons, sinkAt_modAt]
  by_cases h : s = s'
  · rw [if_pos h, if_pos ⟨h, hs⟩]
  · rw [if_neg h, if_neg fun hh => h hh.1]; exact hc s'

theorem cnt_push {x : PSink} (hx : x.rc = 0) : ∀ s, cntAt cnt s = (sinkAt (l ++ [x]) s).rc := fun s => by
  rw [sinkAt_append]; split
  · rename_i h; rw [hc, h, sinkAt_out l _ (Nat.lt_succ_self _), hx]
  · exact hc s
end

theorem spec_step_sharedprov {a : PAcc} (hi : ProvInv p) (hr : PRel a p) (idx : Nat) (op : POp) :
    specPObs a idx op (pstep () p op).2 = .ok ∧ PRel (a.after op (pstep () p op).2) (p.step op).1 := by
  obtain ⟨holds, created, views, cnt⟩ := a
  obtain ⟨rfl, rfl, rfl, hcnt⟩ := hr
  replace hcnt : ∀ s, cntAt cnt s = (sinkAt p.sinks s).rc := hcnt
  cases op with
  | drop h => exact ⟨rfl, rfl, rfl, rfl, hcnt⟩
  | fault s => exact ⟨rfl, rfl, rfl, rfl, cnt_same hcnt s rfl⟩
  | hopen h =>
    cases hh : heldBy p.held h with
    | none =>
      simp only [specPObs, PAcc.after, pstep, Prov.step, hh]
      exact ⟨trivial, rfl, rfl, rfl, hcnt⟩
    | some x =>
      by_cases hk : x.2.1 = 0
      · simp only [specPObs, PAcc.after, pstep, Prov.step, hh, hk, if_true]
        exact ⟨trivial, rfl, rfl, rfl, cnt_same hcnt _ (hopen_of_plain _ (hi.plain x (heldBy_mem hh) hk).2)⟩
      · have hsh := hi.shared_of (heldBy_mem hh) hk
        obtain ⟨e1, e2, e3⟩ := hopen_of_shared _ hsh
        have hs := range_of_shared hsh
        rw [← hcnt] at e1 e3
        simp only [specPObs, PAcc.after, pstep, Prov.step, hh, hk, if_false, seenAt_map, sinkAt_modAt, hs, and_self,
          if_true, e2, if_neg (open_effect_ok e1).1, if_neg (open_effect_ok e1).2, ne_eq, not_true]
        exact ⟨trivial, rfl, rfl, rfl, e3 ▸ cnt_touch hcnt hs _⟩
  | hclose h =>
    cases hh : heldBy p.held h with
    | none =>
      simp only [specPObs, PAcc.after, pstep, Prov.step, hh]
      exact ⟨trivial, rfl, rfl, rfl, hcnt⟩
    | some x =>
      by_cases hk : x.2.1 = 0
      · simp only [specPObs, PAcc.after, pstep, Prov.step, hh, hk, if_true]
        exact ⟨trivial, rfl, rfl, rfl, cnt_same hcnt _ (hclose_of_plain _ (hi.plain x (heldBy_mem hh) hk).2)⟩
      · have hsh := hi.shared_of (heldBy_mem hh) hk
        obtain ⟨e1, e2, e3⟩ := hclose_of_shared _ hsh
        have hs := range_of_shared hsh
        rw [← hcnt] at e2 e3
        simp only [specPObs, PAcc.after, pstep, Prov.step, hh, hk, if_false, seenAt_map, sinkAt_modAt, hs, and_self,
          if_true, e1, if_neg (close_effect_ok e2).1, if_neg (close_effect_ok e2).2.1, if_neg (close_effect_ok e2).2.2, ne_eq,
          not_true]
        exact ⟨trivial, rfl, rfl, rfl, e3 ▸ cnt_touch hcnt hs _⟩
  | create h key =>
    by_cases hkey : key = 0
    · subst hkey
      exact ⟨rfl, rfl, rfl, rfl, cnt_push hcnt rfl⟩
    · -- nobody holds, under `key`, anything but what the cache has for it
      have hheld : ∀ x ∈ p.held, x.2.1 = key → lookup p.cache key = some x.2.2 :=
        fun x hx hxk => hxk ▸ hi.look x hx (hxk ▸ hkey)
      cases hl : lookup p.cache key with
      | some s =>
        have hf : p.held.find? (fun x => x.2.1 == key && (x.2.2 != s || decide (p.sinks.length < p.sinks.length))) = none :=
          List.find?_eq_none.2 fun x hx hc => by
            simp only [Nat.lt_irrefl, decide_false, Bool.or_false, Bool.and_eq_true, beq_iff_eq, bne_iff_ne] at hc
            exact hc.2 (Option.some.inj ((hheld x hx hc.1).symm.trans hl))
        simp only [specPObs, pstep, step_create_hit p h key s hkey hl, hkey, if_false, Prov.created, hf, bne_self_eq_false,
          Bool.and_false]
        exact ⟨rfl, rfl, rfl, rfl, hcnt⟩
      | none =>
        have hno : ∀ x ∈ p.held, ¬ x.2.1 = key := fun x hx hxk => nomatch (hheld x hx hxk).symm.trans hl
        have hf : ∀ b : Hold → Bool, p.held.find? (fun x => x.2.1 == key && b x) = none := fun b =>
          List.find?_eq_none.2 fun x hx => by simp [hno x hx]
        have ha : p.held.any (fun x => x.2.1 == key) = false :=
          List.any_eq_false.2 fun x hx => by simp [hno x hx]
        simp only [specPObs, pstep, step_create_miss p h key hkey hl, hkey, if_false, hf, ha, Bool.false_and]
        exact ⟨rfl, rfl, rfl, rfl, cnt_push hcnt rfl⟩

theorem spec_sharedprov_go (ops : List POp) :
    ∀ (p : Prov) (a : PAcc) (idx : Nat), ProvInv p → PRel a p →
      specPGo a idx (sharedprovCore.trace () p ops) = .ok := by
  induction ops with
  | nil => intros; rfl
  | cons op ops ih =>
    intro p a idx hi hr
    have ⟨h1, h2⟩ := spec_step_sharedprov hi hr idx op
    exact Verdict.and_ok h1 (ih _ _ _ (hi.step op) h2)

end Scales.Shared
