/-
  Proofs/ServerSetInv.lean — C19: the invariant of Model/ServerSet.lean; every enabled operation keeps
  its parts `InvAt` and `idle` (`Inv` as a whole: `next_inv`, see the end), and `quiet_members` (by `quiet_synced`)
  is the quiet clause on one state, which Proofs/ServerSetRuns.lean takes along a history for Props/C19.

  `InvAt cfg s`: the recipes' watches and what they remember fit the tree (`EnvInv`), and — while the
  ChildrenWatch holds its watch or nothing is watched (`synced`) — the child list remembered last is what the
  worker will hold once it has run out of work (`target`).  It holds before the ServerSet exists, between a transition and the
  worker's wake-up and between the rounds of the worker's loop (`Woke.inv`) as well, and reads the worker's
  lists as sets.  `Inv` adds what `wake` establishes by itself (an idle worker that is not held back has
  nothing queued) and that the worker's lists are duplicate-free (`KInv id`); the latter is kept for any
  key at once in Proofs/ServerSetKeys.lean, where `next_inv` is.
-/
import ScalesModel.Proofs.ServerSetSteps
namespace Scales.ServerSet

/-- the names the update has read or still expects to: read, being read (unless that read has missed),
    still to be read -/
def Job.live (j : Job) : List Nat :=
  match j.cur with
  | .requested n => j.got ++ n :: j.todo
  | .served n found => gotAfter j.got n found ++ j.todo

/-- `_members` as it will be when the update under way has run out, if no read misses from now on -/
def outcome (members : List Nat) : Option Job → List Nat
  | none => members
  | some j => (finishJob members j.listing j.live).1

/-- `_members`, as a set, as it will be when the worker has run out of work, if no read misses from now
    on: the child list queued last (an update leaves the worker holding exactly its list), or with
    nothing queued the outcome of the update under way.  A push makes it the pushed list; taking an
    update from the queue, reading on and finishing leave it alone. -/
def target (members : List Nat) (queue : List (List Nat)) (job : Option Job) : List Nat :=
  queue.getLast?.getD (outcome members job)

theorem target_concat (m : List Nat) (q : List (List Nat)) (l : List Nat) (j : Option Job) :
    target m (q ++ [l]) j = l := by
  rw [target, List.getLast?_concat]; rfl

theorem live_served {j : Job} {n : Nat} {found : Bool} (hc : j.cur = .served n found) :
    j.live = gotAfter j.got n found ++ j.todo := by
  rw [Job.live, hc]

theorem live_serve {j : Job} {n : Nat} (hc : j.cur = .requested n) (found : Bool) :
    ({ j with cur := .served n found } : Job).live.Sublist j.live ∧
    (found = true → ({ j with cur := .served n found } : Job).live = j.live) := by
  have h : j.live = j.got ++ n :: j.todo := by rw [Job.live, hc]
  rw [h]
  cases found with
  | false => exact ⟨(List.sublist_cons_self _ _).append_left _, nofun⟩
  | true =>
    have : ({ j with cur := .served n true } : Job).live = j.got ++ n :: j.todo :=
      List.append_assoc j.got [n] j.todo
    exact ⟨this ▸ List.Sublist.refl _, fun _ => this⟩

theorem live_more {j : Job} {n m : Nat} {found : Bool} (hc : j.cur = .served n found) (hm : m ∈ j.todo) :
    ({ j with todo := j.todo.erase m, cur := .requested m, got := gotAfter j.got n found } : Job).live.Perm
      j.live := by
  rw [live_served hc]
  exact (List.perm_cons_erase hm).symm.append_left _

/-- what the invariant says of the tree alone: the children are duplicate-free (so every child list handed to the
    ServerSet is) and the incarnation of the path is one that was handed out (which keeps `WatchInv.wgen` when a
    DataWatch callback starts watching it).  On the tree, so it holds of every state with that tree as it stands. -/
structure TreeOk (t : Tree) : Prop where
  knd : t.kids.Nodup
  pgen : ∀ g, t.parent = some g → g ≤ t.gen

/-- the ServerSet before `start`: nothing is registered or remembered.  Nothing uses it: `InvAt` holds of such a
    state as it stands, only `EnvInv.fired` asks for `started`. -/
structure Pre (s : St) : Prop where
  dw : s.dw = false
  cw : s.cw = []
  pending : s.pending = []
  seen : s.seen = none
  ever : s.everCalled = false
  watched : s.watched = none
  nodes : s.nodes = []
  members : s.members = []
  queue : s.queue = []
  job : s.job = none

/-- the ChildrenWatch side of the environment: what is being watched, and by which watch -/
structure WatchInv (cfg : Cfg) (s : St) : Prop where
  watching : s.watched = s.seen
  armed : ∀ g, s.tree.parent = some g → s.watched = some g →
        some g ∈ s.cw ∨ Ev.child (some g) ∈ s.pending
  current : ∀ g, some g ∈ s.cw → s.watched = some g → s.nodes = s.tree.kids.filter cfg.memberOk
  unwatched : s.watched = none → s.nodes = []
  wgen : ∀ g, s.watched = some g → g ≤ s.tree.gen

/-- `WatchInv`, and the DataWatch: it holds its watch and has seen the present incarnation, or — once the
    ServerSet exists — its event is waiting -/
structure EnvInv (cfg : Cfg) (s : St) : Prop extends WatchInv cfg s where
  held : s.dw = true → s.seen = s.tree.parent
  fired : s.started = true → s.dw = false → Ev.data ∈ s.pending

structure InvAt (cfg : Cfg) (s : St) : Prop where
  tok : TreeOk s.tree
  env : EnvInv cfg s
  last : synced s → ∀ n, n ∈ target s.members s.queue s.job ↔ n ∈ s.nodes

/-- the worker's variables are consistent as lists: no two names of `_members`, of a queued child list, or of
    what the update under way will leave in `_members` (`outcome`) carry the same key.  The first and the last are
    what the fit of an update's notifications asks for (`finishJob_fits`), the second makes them true of the next
    update; `InvAt` reads these lists as sets and needs none of it. -/
structure KInv (k : Nat → Nat) (s : St) : Prop where
  km : KD k s.members
  kq : ∀ l ∈ s.queue, KD k l
  kj : ∀ j, s.job = some j → KD k (finishJob s.members j.listing j.live).1

theorem KInv_init (k : Nat → Nat) : KInv k St.init := ⟨List.nodup_nil, nofun, nofun⟩

/-- `InvAt`; a worker that is idle and not held back by a listing has nothing queued; and `KInv` for the key that
    tells all names apart.  `idle` stands by itself: `wake` leaves it true whatever the state before (`Woke.idle`),
    and a transition without wake-up either has the worker busy or leaves its variables alone and ends no listing
    (`Plain.idle`).  `key` is kept like `KInv` for any other key (Proofs/ServerSetKeys.lean). -/
structure Inv (cfg : Cfg) (s : St) : Prop extends InvAt cfg s where
  idle : s.job = none → s.lists.isEmpty = true → s.queue = []
  key : KInv id s

theorem Inv_init (cfg : Cfg) : Inv cfg St.init :=
  ⟨⟨⟨List.nodup_nil, nofun⟩,
    ⟨⟨rfl, nofun, nofun, fun _ => rfl, nofun⟩, nofun, nofun⟩, fun _ _ => Iff.rfl⟩, fun _ _ => rfl, KInv_init id⟩

theorem synced_found {cfg : Cfg} {s : St} (he : EnvInv cfg s) (hs : synced s) {n : Nat}
    (hn : n ∈ s.nodes) : n ∈ s.tree.kids := by
  rcases hs with ⟨g, h1, h2⟩ | h
  · rw [he.current g h1 h2] at hn
    exact (List.mem_filter.mp hn).1
  · rw [he.unwatched h] at hn; cases hn

theorem quiet_synced {cfg : Cfg} {s : St} (he : EnvInv cfg s) (hst : s.started = true) (hp : s.pending = []) :
    synced s ∧ s.nodes = s.tree.present cfg.lim := by
  have hdw : s.dw = true := by
    cases hd : s.dw with
    | true => rfl
    | false => have := he.fired hst hd; rw [hp] at this; cases this
  have hw : s.watched = s.tree.parent := he.watching.trans (he.held hdw)
  cases hpar : s.tree.parent with
  | none =>
    rw [hpar] at hw
    exact ⟨Or.inr hw, by rw [he.unwatched hw, Tree.present, hpar]; rfl⟩
  | some g =>
    rw [hpar] at hw
    have hcw : some g ∈ s.cw := (he.armed g hpar hw).resolve_right (by rw [hp]; nofun)
    exact ⟨Or.inl ⟨g, hcw, hw⟩, by rw [he.current g hcw hw, Tree.present, hpar]; rfl⟩

/-- C19's quiet clause, on one state -/
theorem quiet_members {cfg : Cfg} {s : St} (hi : Inv cfg s) (hq : s.quiet = true) (n : Nat) :
    n ∈ s.members ↔ n ∈ s.tree.present cfg.lim := by
  simp only [St.quiet, Bool.and_eq_true] at hq
  obtain ⟨⟨⟨hst, hp⟩, hj⟩, hfree⟩ := hq
  have hj := Option.isNone_iff_eq_none.mp hj
  obtain ⟨hs, hn⟩ := quiet_synced hi.env hst (List.isEmpty_iff.mp hp)
  rw [← hn]
  have h := hi.last hs n
  rw [hi.idle hj hfree, hj] at h
  exact h

theorem EnvEq.envInv {cfg : Cfg} {s s' : St} (h : EnvEq s s') (he : EnvInv cfg s) : EnvInv cfg s' := by
  refine ⟨⟨?_, ?_, ?_, ?_, ?_⟩, ?_, ?_⟩ <;>
    simp only [h.tree, h.started, h.dw, h.cw, h.pending, h.seen, h.watched, h.nodes]
  exacts [he.watching, he.armed, he.current, he.unwatched, he.wgen, he.held, he.fired]

/-- a step that touches only the worker's variables or the listings keeps the invariant if it does not change what
    the worker will end up holding -/
theorem InvAt.of_env {cfg : Cfg} {s s' : St} (hi : InvAt cfg s) (e : EnvEq s s')
    (keep : synced s → ∀ n, n ∈ target s'.members s'.queue s'.job ↔ n ∈ target s.members s.queue s.job) :
    InvAt cfg s' := by
  refine ⟨e.tree ▸ hi.tok, e.envInv hi.env, fun hs n => ?_⟩
  unfold synced at hs
  rw [e.cw, e.watched] at hs
  rw [e.nodes]
  exact (keep hs n).trans (hi.last hs n)

/-- no round of the worker loop changes what the worker will end up holding (`target`) -/
theorem Woke.inv {cfg : Cfg} {s s' : St} {ns : List Note} (hw : Woke s s' ns) (hi : InvAt cfg s) :
    InvAt cfg s' := by
  induction hw with
  | stay => exact hi
  | @skip s s' q qs ns hall _ ih =>
    refine ih (hi.of_env (.of_worker _ _ _ _) fun _ x => ?_)
    cases qs with
    | nil => exact finishJob_complete (got := []) nofun (fun n hn => Or.inl (hall n hn)) x
    -- more is queued behind: `target` is the list queued last on either side, by definition
    | cons q2 qs2 => exact Iff.rfl
  | @read s q qs n hn =>
    have hperm := List.perm_cons_erase hn
    refine hi.of_env (.of_worker _ _ _ _) fun _ x => ?_
    cases qs with
    | nil =>
      refine finishJob_complete (fun y hy => (mem_todo.mp (hperm.mem_iff.mpr hy)).1) (fun y hy => ?_) x
      by_cases hym : y ∈ s.members
      · exact Or.inl hym
      · exact Or.inr (hperm.mem_iff.mp (mem_todo.mpr ⟨hy, hym⟩))
    | cons q2 qs2 => exact Iff.rfl

theorem Woke.idle {s s' : St} {ns : List Note} (hw : Woke s s' ns) :
    s'.job = none → s'.lists.isEmpty = true → s'.queue = [] := by
  induction hw with
  | stay h => exact h
  | skip _ _ ih => exact ih
  | read => nofun

theorem TreeOk.apply {t : Tree} {o : TOp} (h : TreeOk t) (hl : t.legal o = true) : TreeOk (t.apply o) := by
  cases o with
  | createParent => exact ⟨h.knd, fun g hg => by cases Option.some.inj hg; exact Nat.le_refl _⟩
  | deleteParent => exact ⟨h.knd, nofun⟩
  | createChild n =>
    simp only [Tree.legal, Bool.and_eq_true, Bool.not_eq_true', List.contains_eq_mem,
      decide_eq_false_iff_not] at hl
    exact ⟨List.nodup_append.mpr ⟨h.knd, List.nodup_singleton n,
      fun a ha b hb hab => hl.2 (List.mem_singleton.mp hb ▸ hab ▸ ha)⟩, h.pgen⟩
  | deleteChild n => exact ⟨h.knd.erase n, h.pgen⟩

/-- the DataWatch's event is on its way once its watch (if it holds it) has fired -/
theorem EnvInv.mem_fire {cfg : Cfg} {s : St} (he : EnvInv cfg s) (hst : s.started = true) :
    Ev.data ∈ s.pending ++ if s.dw then [Ev.data] else [] := by
  cases hd : s.dw with
  | false => exact List.mem_append_left _ (he.fired hst hd)
  | true => exact List.mem_append_right _ List.mem_cons_self

theorem fireChild_env {cfg : Cfg} {s : St} {ks : List Nat} (he : EnvInv cfg s) :
    EnvInv cfg (fireChild { s with tree := { s.tree with kids := ks } }) := by
  refine ⟨⟨he.watching, fun g hg hw => Or.inr ?_, nofun, he.unwatched, he.wgen⟩, he.held,
    fun hs hd => List.mem_append_left _ (he.fired hs hd)⟩
  rcases he.armed g hg hw with h | h
  · exact List.mem_append_right _ (List.mem_map_of_mem h)
  · exact List.mem_append_left _ h

/-- with the child watches fired, only a ServerSet that watches nothing is synced -/
theorem synced_of_cw_nil {s : St} {t : Tree} {d : Bool} {p : List Ev}
    (h : synced { s with tree := t, dw := d, cw := [], pending := p }) : synced s :=
  h.elim (fun ⟨_, hg, _⟩ => nomatch hg) Or.inr

theorem treeStep_env {cfg : Cfg} {s : St} (o : TOp) (he : EnvInv cfg s) : EnvInv cfg (treeStep s o) := by
  cases o with
  | createParent =>
    show EnvInv cfg (fireData { s with tree := s.tree.apply .createParent })
    rw [fireData_eq]
    refine ⟨⟨he.watching, fun g hg hw => ?_, he.current, he.unwatched,
      fun g hw => Nat.le_succ_of_le (he.wgen g hw)⟩, nofun, fun hs _ => he.mem_fire hs⟩
    -- the incarnation just made is `gen + 1`, above every one handed out before (`wgen`; `pgen` keeps
    -- `wgen` when a DataWatch callback starts watching), so nobody watches it and `armed` asks nothing
    cases Option.some.inj hg
    exact absurd (he.wgen _ hw) (Nat.not_succ_le_self _)
  | deleteParent =>
    show EnvInv cfg (fireChild (fireData { s with tree := s.tree.apply .deleteParent }))
    rw [fireData_eq]
    exact ⟨⟨he.watching, nofun, nofun, he.unwatched, he.wgen⟩, nofun,
      fun hs _ => List.mem_append_left _ (he.mem_fire hs)⟩
  | createChild n => exact fireChild_env he
  | deleteChild n => exact fireChild_env he

theorem treeStep_inv {cfg : Cfg} {s : St} {o : TOp} (hi : InvAt cfg s)
    (hl : s.tree.legal o = true) : InvAt cfg (treeStep s o) := by
  obtain ⟨d, c, p, h, hc⟩ := treeStep_eq s o
  refine ⟨?_, treeStep_env o hi.env, ?_⟩
  · rw [h]
    exact hi.tok.apply hl
  · rw [h]
    rcases hc with rfl | rfl
    · exact hi.last
    · exact fun hs' => hi.last (synced_of_cw_nil hs')

theorem dataDeliver_env {cfg : Cfg} {s0 : St} (hw : WatchInv cfg s0)
    (hpg : ∀ g, s0.tree.parent = some g → g ≤ s0.tree.gen) : EnvInv cfg (dataDeliver cfg s0) := by
  rcases dataDeliver_cases cfg s0 with ⟨hsame, h⟩ | ⟨hpar, h⟩ | ⟨g, hpar, h⟩ <;> rw [h]
  · have hwp : s0.watched = s0.tree.parent := hsame.elim Eq.symm hw.watching.trans
    exact ⟨⟨hwp, hw.armed, hw.current, hw.unwatched, hw.wgen⟩, fun _ => rfl, fun _ => nofun⟩
  · exact ⟨⟨rfl, fun g hg => (nomatch hpar ▸ hg), nofun, fun _ => rfl, nofun⟩,
      fun _ => hpar.symm, fun _ => nofun⟩
  · refine ⟨⟨rfl, fun g' hg' _ => ?_, fun _ _ _ => rfl, nofun,
      fun g' hg' => ?_⟩, fun _ => hpar.symm, fun _ => nofun⟩
    · cases Option.some.inj (hpar.symm.trans hg')
      exact Or.inl (List.mem_append_right _ List.mem_cons_self)
    · cases Option.some.inj hg'
      exact hpg _ hpar

/-- removing the head event: only `armed` reads the events, and it survives unless the event removed
    is the one the watched incarnation's ChildrenWatch is waiting for -/
theorem WatchInv.pop {cfg : Cfg} {s : St} {e : Ev} {rest : List Ev} (hw : WatchInv cfg s)
    (hp : s.pending = e :: rest)
    (h : ∀ g, s.tree.parent = some g → s.watched = some g → Ev.child (some g) ≠ e) :
    WatchInv cfg { s with pending := rest } :=
  ⟨hw.watching, fun g hg hwg => (hw.armed g hg hwg).imp id fun hm =>
    (List.mem_cons.mp (hp ▸ hm)).resolve_left (h g hg hwg), hw.current, hw.unwatched, hw.wgen⟩

theorem childDeliver_env {cfg : Cfg} {s : St} {rest : List Ev} {tag : Option Nat}
    (he : EnvInv cfg s) (hp : s.pending = Ev.child tag :: rest) :
    EnvInv cfg (childDeliver cfg { s with pending := rest } tag) := by
  have held := he.held
  have fired : s.started = true → s.dw = false → Ev.data ∈ rest := fun hs h => by
    have := he.fired hs h
    rw [hp] at this
    exact (List.mem_cons.mp this).resolve_left nofun
  rcases childDeliver_cases cfg { s with pending := rest } tag with
    ⟨hcond, h⟩ | ⟨g, rfl, hpar, hw, h⟩ | ⟨g, rfl, hpar, hw, h⟩ <;> rw [h]
  · refine ⟨he.toWatchInv.pop hp fun g hg _ => ?_, held, fired⟩
    rcases hcond with rfl | hpar
    · nofun
    · exact (nomatch hpar ▸ hg)
  · have hw : s.watched = some g := hw
    refine ⟨⟨he.watching, fun g' _ hw' => ?_, fun _ _ _ => rfl,
      fun h => (nomatch hw ▸ h), he.wgen⟩, held, fired⟩
    cases Option.some.inj (hw.symm.trans hw')
    exact Or.inl (List.mem_append_right _ List.mem_cons_self)
  · have hw' := he.toWatchInv.pop hp fun g' _ hg' h => hw (Ev.child.inj h ▸ hg')
    refine ⟨⟨he.watching, fun g' hg' hg => (hw'.armed g' hg' hg).imp
      (List.mem_append_left _) id, fun g' hg' => he.current g' ?_, he.unwatched, he.wgen⟩, held, fired⟩
    exact (List.mem_append.mp hg').resolve_right (by simp)

theorem callback_before_wake {cfg : Cfg} {s0 s1 : St} (fr : CbFrame cfg s0 s1) (he : EnvInv cfg s1) (h0 : TreeOk s0.tree)
    (hl : synced s0 → ∀ n, n ∈ target s0.members s0.queue s0.job ↔ n ∈ s0.nodes) : InvAt cfg s1 := by
  refine ⟨fr.tree ▸ h0, he, ?_⟩
  rw [fr.members, fr.job]
  rcases fr.queue with ⟨hq, hn, hs⟩ | ⟨hq, _⟩
  · rw [hq, hn]; exact fun h => hl (hs h)
  · rw [hq, target_concat]; exact fun _ _ => Iff.rfl

theorem finish_before_wake {cfg : Cfg} {s : St} {j : Job} {n : Nat} {found : Bool} (hi : InvAt cfg s)
    (hj : s.job = some j) (hc : j.cur = .served n found) (ht : j.todo = []) :
    InvAt cfg
      { s with members := (finishJob s.members j.listing (gotAfter j.got n found)).1, job := none } := by
  refine hi.of_env (.of_worker _ _ _ _) fun _ x => ?_
  -- with nothing left to read, what the worker will hold is what it holds now
  rw [hj, target, target, outcome, outcome, live_served hc, ht, List.append_nil]

/-- The update goes on with `j'` for `j`.  The live names may shrink (a read missed) except where `last`
    is read, with nothing queued and the ChildrenWatch holding its watch: there every live name is in
    `_nodes`, hence in the tree (`synced_found`), and `hlive` asks that none is lost. -/
theorem job_inv {cfg : Cfg} {s : St} {j j' : Job} (hi : InvAt cfg s) (hj : s.job = some j)
    (hl : j'.listing = j.listing)
    (hlive : synced s → (∀ x ∈ j.live, x ∈ s.nodes) → ∀ x, x ∈ j'.live ↔ x ∈ j.live) :
    InvAt cfg { s with job := some j' } := by
  refine hi.of_env (.of_worker _ _ _ _) fun hs x => ?_
  have h := hi.last hs
  rw [hj] at h ⊢
  unfold target at h ⊢
  generalize s.queue.getLast? = o at h ⊢
  cases o with
  | some L => exact Iff.rfl
  | none =>
    show x ∈ (finishJob s.members j'.listing j'.live).1 ↔ x ∈ (finishJob s.members j.listing j.live).1
    rw [mem_finishJob, mem_finishJob, hl,
      hlive hs (fun y hy => (h y).mp (mem_finishJob.mpr (Or.inr hy))) x]

theorem serve_inv {cfg : Cfg} {s : St} {j : Job} {n : Nat} (hi : InvAt cfg s)
    (hj : s.job = some j) (hc : j.cur = .requested n) :
    InvAt cfg { s with job := some { j with cur := .served n (s.tree.kids.contains n) } } := by
  refine job_inv hi hj rfl fun hs hin x => ?_
  -- a name of the current child list exists, so its read finds it
  have hn : n ∈ j.live := by rw [Job.live, hc]; exact List.mem_append_right _ List.mem_cons_self
  rw [(live_serve hc _).2 (List.contains_iff_mem.mpr (synced_found hi.env hs (hin n hn)))]

theorem more_inv {cfg : Cfg} {s : St} {j : Job} {n m : Nat} {found : Bool}
    (hi : InvAt cfg s) (hj : s.job = some j) (hc : j.cur = .served n found) (hm : m ∈ j.todo) :
    InvAt cfg { s with job := some { j with todo := j.todo.erase m, cur := .requested m,
                                              got := gotAfter j.got n found } } :=
  job_inv hi hj rfl fun _ _ _ => (live_more hc hm).mem_iff

theorem lists_only_inv {cfg : Cfg} {s s' : St} (lo : ListsOnly s s') (hi : InvAt cfg s) : InvAt cfg s' :=
  hi.of_env lo.env (by rw [lo.members, lo.queue, lo.job]; exact fun _ _ => Iff.rfl)

theorem Plain.inv {cfg : Cfg} {s s' : St} (hp : Plain s s') (hi : InvAt cfg s) : InvAt cfg s' := by
  cases hp with
  | tree hl => exact treeStep_inv hi hl
  | serve hj hc => exact serve_inv hi hj hc
  | more hj hc hm => exact more_inv hi hj hc hm
  | lists lo _ => exact lists_only_inv lo hi

theorem Plain.idle {s s' : St} (hp : Plain s s') (h : s.job = none → s.lists.isEmpty = true → s.queue = []) :
    s'.job = none → s'.lists.isEmpty = true → s'.queue = [] := by
  cases hp with
  | @tree o _ =>
    obtain ⟨d, c, p, e, _⟩ := treeStep_eq s o
    rw [e]
    exact h
  | serve => nofun
  | more => nofun
  | lists lo hle =>
    rw [lo.job, lo.queue]
    exact fun hj hf => h hj (hle hf)

theorem Waking.before_wake {cfg : Cfg} {s s1 : St} {ns : List Note} (hp : Waking cfg s s1 ns) (hi : InvAt cfg s) :
    InvAt cfg s1 := by
  have he := hi.env
  cases hp with
  | start =>
    exact callback_before_wake (dataDeliver_frame cfg _)
      (dataDeliver_env ⟨he.watching, he.armed, he.current, he.unwatched, he.wgen⟩ hi.tok.pgen)
      hi.tok hi.last
  | @data rest hpend =>
    exact callback_before_wake (dataDeliver_frame cfg _)
      (dataDeliver_env (he.toWatchInv.pop hpend fun _ _ _ => nofun) hi.tok.pgen) hi.tok hi.last
  | @child tag rest hpend =>
    exact callback_before_wake (childDeliver_frame cfg _ tag) (childDeliver_env he hpend)
      hi.tok hi.last
  | finish hj hc ht => exact finish_before_wake hi hj hc ht
  | lret lo => exact lists_only_inv lo hi

end Scales.ServerSet
