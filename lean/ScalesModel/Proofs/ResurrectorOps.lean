/-
  Proofs/ResurrectorOps.lean — every admissible operation keeps the model coupled with the
  specification automaton, and the automaton accepts the model's observation.
-/
import ScalesModel.Proofs.ResurrectorInv
namespace Scales.Res

/-- the coupling at operation boundaries -/
structure Cpl (p : Par) (s : St) (a : SS) (opened closed : Bool) : Prop where
  hclosed : a.closed = closed
  hq : QInv s closed
  hlive : closed = false → Live p s a ∧ a.now = s.now ∧ a.reach = s.reach
  hshut : closed = true → Shut s
  /-- between operations a fault that has put the model into fail-fast mode is known to the specification, except
      the one raised on a sink whose successful `Open()` the retry greenlet has not picked up yet (form `resumingR`):
      the form `upDown` occurs only within a turn -/
  hst : closed = false → a.known = false → a.raised = true → s.down = true →
    ∃ k w, s.res = .opening k w .ok
  hidle : opened = false → closed = false → a.inst = none ∧ a.known = false ∧ a.raised = false ∧ s.sinks = []

theorem Cpl.same {p : Par} {s : St} {a : SS} {o c : Bool} (h : Cpl p s a o c) {l b} :
    Cpl p { s with ev := l } { a with instOk := b } o c :=
  ⟨h.hclosed, ⟨h.hq.bound, h.hq.nokill⟩, fun hc => ⟨live_same p (h.hlive hc).1, (h.hlive hc).2⟩, h.hshut, h.hst, h.hidle⟩

theorem Cpl.no_upDown {p : Par} {s : St} {a : SS} {o : Bool} (h : Cpl p s a o false) (h1 : a.known = false)
    (h4 : a.raised = true) (hc : DownCore s) {le : Nat} {ld : Option Nat} (hz : Sleeping p s le ld) : False := by
  obtain ⟨k, w, hr⟩ := h.hst rfl h1 h4 hc.1
  exact hz.not_opening hr

theorem Live.inst_of_known {p : Par} {s : St} {a : SS} (h : Live p s a) (hk : a.known = true) : a.inst = none := by
  cases h with
  | up h1 | upDown h1 | resumingR _ _ h1 => cases hk.symm.trans h1
  | _ => assumption

theorem Live.res_of_pend {p : Par} {s : St} {a : SS} {k : Nat} (h : Live p s a) (hp : a.pend = some k) :
    ∃ w, s.res = .opening k w .pending := by
  cases h with
  | pending k' w h1 h2 h3 h4 h5 hc hr => cases hp.symm.trans h2; exact ⟨w, hr⟩
  | _ => cases hp.symm.trans ‹a.pend = none›

theorem Live.pend_of_res {p : Par} {s : St} {a : SS} (h : Live p s a) {k w : Nat} (hr : s.res = .opening k w .pending) :
    a.pend = some k := by
  cases h with
  | pending k' w' h1 h2 h3 h4 h5 hc hr' => cases hr.symm.trans hr'; exact h2
  | up _ _ _ _ _ _ hr' | resumingR _ _ _ _ _ _ _ _ hr' | failing _ _ _ _ _ _ _ _ hr' | resuming _ _ _ _ _ _ _ _ hr'
  | resumed _ _ _ _ _ _ _ _ _ hr' => cases hr.symm.trans hr'
  | upDown _ _ _ _ _ hz | sleeping _ _ _ _ _ _ hz => exact (hz.not_opening hr).elim

theorem live_fresh {p : Par} {s : St} {a : SS} {k : Nat} (h1 : a.known = false) (h2 : a.pend = none)
    (h3 : a.pendOk = none) (h4 : a.raised = false) (h5 : a.inst = some k) (hd : s.down = false) (hn : s.next = some k)
    (hs : s.subs = [k]) (hr : s.res = .none) (hnk : Task.notify k ∉ s.tasks) : Live p s a :=
  .up h1 h2 h3 hd (hn.trans h5.symm) (hs.trans (h5 ▸ rfl)) hr
    (fun j hj => by cases h5.symm.trans hj; exact ⟨fun h => (nomatch h4.symm.trans h), fun h => (hnk h).elim⟩)
    (fun h => nomatch h5.symm.trans h)

@[simp] theorem clearEv_fields (s : St) :
    (clearEv s).down = s.down ∧ (clearEv s).next = s.next ∧ (clearEv s).subs = s.subs ∧
    (clearEv s).res = s.res ∧ (clearEv s).now = s.now ∧ (clearEv s).sinks = s.sinks ∧
    (clearEv s).reach = s.reach ∧ (clearEv s).ev = [] ∧ (clearEv s).ups = s.ups ∧
    (clearEv s).tasks = s.tasks := ⟨rfl, rfl, rfl, rfl, rfl, rfl, rfl, rfl, rfl, rfl⟩

theorem doFault_fields (s : St) (k : Nat) :
    (doFault s k).down = s.down ∧ (doFault s k).next = s.next ∧ (doFault s k).subs = s.subs ∧
    (doFault s k).res = s.res ∧ (doFault s k).now = s.now ∧ (doFault s k).reach = s.reach ∧
    (doFault s k).tasks = s.tasks ++ [.notify k] ∧ (doFault s k).sinks.length = s.sinks.length ∧
    (doFault s k).ev = s.ev :=
  ⟨rfl, rfl, rfl, rfl, rfl, rfl, rfl, List.length_modify .., rfl⟩

theorem doReq_none (p : Par) {s : St} (h : s.next = none) : doReq p s = (runTurn p s, .ff) := by
  simp only [doReq, h]

theorem doReq_some (p : Par) {s : St} {n : Nat} (h : s.next = some n) : doReq p s = (emit s (.fwd n), .fwd n) := by
  simp only [doReq, h]

theorem doDone_opening {s : St} {k w : Nat} {r : Ar} (ok : Bool) (h : s.res = .opening k w r) :
    doDone s k ok = push { updSink s k (fun j =>
        if ok then { j with st := .opened, ar := .ok } else { j with st := .closed, ar := .fail }) with
      res := .opening k w (if ok then .ok else .fail) } .resume := by
  simp only [doDone, updSink, h, if_true]

theorem doDone_other {s : St} {k : Nat} (ok : Bool) (h : ∀ w r, s.res ≠ .opening k w r) :
    doDone s k ok = updSink s k (fun j =>
      if ok then { j with st := .opened, ar := .ok } else { j with st := .closed, ar := .fail }) := by
  fun_cases doDone s k ok
  case case1 w r hr => exact (h w r hr).elim
  all_goals rfl

theorem doTick_wake (p : Par) {s : St} {d wk w : Nat} (h : s.res = .sleep wk w) (hle : wk ≤ s.now + d) :
    doTick p s d = resWake p (advance s d) w := by
  simp only [doTick, advance, h, hle, if_true]

theorem doTick_quiet (p : Par) {s : St} {d : Nat} (h : ∀ wk w, s.res = .sleep wk w → ¬wk ≤ s.now + d) :
    doTick p s d = advance s d := by
  fun_cases doTick p s d
  case case1 wk w hr hle => exact (h wk w hr hle).elim
  all_goals rfl

theorem qinv_fault {s : St} {c : Bool} (hq : QInv s c) {k : Nat} (hk : k < s.sinks.length) : QInv (doFault s k) c :=
  hq.mono [.notify k] (Nat.le_of_eq (List.length_modify ..).symm) (fun _ => List.mem_append.mp) fun x hx => by
    cases List.mem_singleton.mp hx
    exact ⟨nofun, fun _ e => by cases e; exact (List.length_modify ..).symm ▸ hk⟩

theorem qinv_done {s : St} {c : Bool} (hq : QInv s c) (k : Nat) (ok : Bool) : QInv (doDone s k ok) c := by
  by_cases h : ∃ w r, s.res = .opening k w r
  · obtain ⟨w, r, hr⟩ := h
    rw [doDone_opening ok hr]
    exact hq.mono [.resume] (Nat.le_of_eq (List.length_modify ..).symm) (fun _ => List.mem_append.mp) fun x hx => by
      cases List.mem_singleton.mp hx
      exact ⟨nofun, nofun⟩
  · rw [doDone_other ok fun w r hr => h ⟨w, r, hr⟩]
    exact hq.mono [] (Nat.le_of_eq (List.length_modify ..).symm) (fun _ => .inl) nofun

theorem specStep_closed (cfg : Cfg) {a : SS} (idx : Nat) (op : Op) {o : Obs} (hcl : a.closed = true)
    (h : firstCreate o.ev = none) : specStep cfg a idx op o = (.ok, a) := by
  simp [specStep, hcl, h]

theorem shut_step (p : Par) (s : St) (o : Bool) (op : Op) (hs : Shut s) (hq : QInv s true) (hev : s.ev = [])
    (hop : opOk s o true op = true) :
    Shut (stepSt p s op).1 ∧ QInv (stepSt p s op).1 true ∧ firstCreate (stepSt p s op).1.ev = none := by
  have hnil : firstCreate s.ev = none := by rw [hev]; rfl
  have turn : Shut (runTurn p s) ∧ QInv (runTurn p s) true ∧ firstCreate (runTurn p s).ev = none :=
    ⟨(shut_turn p s hs hq).1, (shut_turn p s hs hq).2, (runTurn_ev p hev).1⟩
  cases op with
  | opn => simp [opOk] at hop
  | close => simp [opOk] at hop
  | reach r => exact ⟨hs, ⟨hq.bound, nofun⟩, hnil⟩
  | turn => exact turn
  | req =>
    show Shut (doReq p s).1 ∧ QInv (doReq p s).1 true ∧ firstCreate (doReq p s).1.ev = none
    cases hn : s.next with
    | none => rw [doReq_none p hn]; exact turn
    | some n =>
      rw [doReq_some p hn]
      exact ⟨hs, ⟨hq.bound, nofun⟩, by show firstCreate (s.ev ++ [.fwd n]) = none; rw [hev]; rfl⟩
  | fault k =>
    simp only [opOk, Bool.and_eq_true, decide_eq_true_eq] at hop
    exact ⟨⟨hs.1, hs.2.1, hs.2.2.1, fun hr => List.mem_append_left _ (hs.2.2.2 hr)⟩, qinv_fault hq hop.1.1, hnil⟩
  | done k ok =>
    show Shut (doDone s k ok) ∧ QInv (doDone s k ok) true ∧ firstCreate (doDone s k ok).ev = none
    have hq' := qinv_done hq k ok
    by_cases h : ∃ w r, s.res = .opening k w r
    · obtain ⟨w, r, hr⟩ := h
      rw [doDone_opening ok hr] at hq' ⊢
      exact ⟨⟨hs.1, hs.2.1, nofun, fun _ => List.mem_append_left _ (hs.2.2.2 (by rw [hr]; nofun))⟩, hq', hnil⟩
    · rw [doDone_other ok fun w r hr => h ⟨w, r, hr⟩] at hq' ⊢
      exact ⟨hs, hq', hnil⟩
  | tick d =>
    simp only [opOk, Bool.and_eq_true, decide_eq_true_eq, List.isEmpty_iff] at hop
    have hr : s.res = .none := Decidable.byContradiction fun hne => by
      have := hs.2.2.2 hne; rw [hop.1.2] at this; cases this
    show Shut (doTick p s d) ∧ QInv (doTick p s d) true ∧ firstCreate (doTick p s d).ev = none
    rw [doTick_quiet p fun wk w h => by cases hr.symm.trans h]
    exact ⟨hs, ⟨hq.bound, nofun⟩, hnil⟩

def afterTurn (a : SS) : SS :=
  let a0 := a.settle
  if a0.raised = true ∧ a0.known = false then a0.learn else a0

theorem SS.settle_none {a : SS} (h : a.pendOk = none) : a.settle = a := by
  simp only [SS.settle, h]

theorem SS.settle_some {a : SS} {k : Nat} (h : a.pendOk = some k) : a.settle = a.recovered k := by
  simp only [SS.settle, h]

theorem afterTurn_same {a : SS} (h3 : a.pendOk = none) (h : a.known = true ∨ a.raised = false) : afterTurn a = a := by
  unfold afterTurn
  rw [SS.settle_none h3, if_neg]
  rintro ⟨h4, h1⟩
  rcases h with h | h
  · cases h1.symm.trans h
  · cases h4.symm.trans h

theorem afterTurn_learn {a : SS} (h3 : a.pendOk = none) (h4 : a.raised = true) (h1 : a.known = false) :
    afterTurn a = a.learn := by
  unfold afterTurn
  rw [SS.settle_none h3, if_pos ⟨h4, h1⟩]

theorem afterTurn_recovered {a : SS} {k : Nat} (h3 : a.pendOk = some k) : afterTurn a = a.recovered k := by
  unfold afterTurn
  rw [SS.settle_some h3, if_neg]
  rintro ⟨h, _⟩
  cases h

section spec
variable {cfg : Cfg} {a : SS} {idx : Nat} {o : Obs}

theorem specStep_opn {k : Nat} (hc : a.closed = false) (h : firstCreate o.ev = some k) :
    specStep cfg a idx .opn o = (.ok, { a with inst := some k, instOk := decide (a.reach = .up) }) := by
  unfold specStep
  rw [if_neg (by rw [hc]; nofun)]
  simp only [h]

theorem specStep_turn (hc : a.closed = false) : specStep cfg a idx .turn o = (.ok, afterTurn a) := by
  unfold specStep afterTurn
  rw [if_neg (by rw [hc]; nofun)]
  exact (apply_ite (Prod.mk Verdict.ok) _ _ _).symm

theorem specStep_done_pend {k : Nat} {ok : Bool} (hc : a.closed = false) (h : a.pend = some k) :
    specStep cfg a idx (.done k ok) o = (.ok, if ok then { a with pend := none, pendOk := some k }
      else { a with pend := none, lastEnd := a.now }) := by
  unfold specStep
  rw [if_neg (by rw [hc]; nofun)]
  exact (if_pos h).trans (apply_ite (Prod.mk Verdict.ok) _ _ _).symm

theorem specStep_req_resumed {k : Nat} (hc : a.closed = false) (hk : a.known = true) (hp : a.pendOk = some k)
    (hr : o.resp = .fwd k) : specStep cfg a idx .req o = (.ok, a.recovered k) := by
  unfold specStep
  rw [if_neg (by rw [hc]; nofun)]
  simp only [hk, hp, hr, if_true]

/-- a request failed fast during a down period that is not overdue -/
theorem specStep_req_down (hc : a.closed = false) (hk : a.known = true) (hr : o.resp = .ff)
    (hp : a.pendOk = none → o.ev.any isFwd = false ∧
      ¬(a.reach = .up ∧ a.pend = none ∧ max a.reachSince a.lastEnd + cfg.maxW ≤ a.now)) :
    specStep cfg a idx .req o = (.ok, a) := by
  unfold specStep
  rw [if_neg (by rw [hc]; nofun)]
  cases hpo : a.pendOk with
  | none => simp [hk, hr, (hp hpo).1, (hp hpo).2]
  | some k => simp [hk, hr]

theorem specStep_req_learn (hc : a.closed = false) (hk : a.known = false) (hra : a.raised = true)
    (hr : o.resp = .ff) : specStep cfg a idx .req o = (.ok, a.learn) := by
  unfold specStep
  rw [if_neg (by rw [hc]; nofun)]
  simp only [hk, hra, hr, if_true, Bool.false_eq_true, if_false]

theorem specStep_req_up (hc : a.closed = false) (hk : a.known = false) (hra : a.raised = true → o.resp ≠ .ff)
    (hi : ∀ k, a.inst = some k → o.resp = .fwd k) : specStep cfg a idx .req o = (.ok, a) := by
  unfold specStep
  rw [if_neg (by rw [hc]; nofun)]
  cases hr : a.raised with
  | true => simp [hk, hra hr]
  | false =>
    cases hin : a.inst with
    | none => simp [hk]
    | some k => simp [hk, hi k hin]

theorem specStep_tick_wake {d dl k : Nat} (hc : a.closed = false) (h : firstCreate o.ev = some k)
    (hk : a.known = true) (hp : a.pendOk = none) (hdl : a.now + d - a.lastEnd = dl) (hle : dl ≤ cfg.maxW)
    (hld : ∀ d0, a.lastDelay = some d0 → d0 ≤ dl ∧ (d0 < dl ∨ dl = cfg.maxW)) :
    specStep cfg a idx (.tick d) o = (.ok,
      match a.reach with
      | .up => ({ a with now := a.now + d, lastDelay := some dl } : SS).recovered k
      | .down => { a with now := a.now + d, lastDelay := some dl, lastEnd := a.now + d }
      | .hang => { a with now := a.now + d, lastDelay := some dl, pend := some k }) := by
  have hok := delay_ok _ _ _ hld
  subst hdl
  unfold specStep
  rw [if_neg (by rw [hc]; nofun)]
  simp only [h, SS.settle_none hp, hk, Nat.not_lt.mpr hle]
  cases a.reach <;> simp <;> exact hok

end spec

section ops
variable {p : Par} {s : St} {a : SS} {o : Bool}

theorem Cpl.opened_of_sink (hC : Cpl p s a o false) {k : Nat} (hk : k < s.sinks.length) : o = true := by
  cases o with
  | true => rfl
  | false => rw [(hC.hidle rfl rfl).2.2.2] at hk; cases hk

theorem Cpl.opened_of_known (hC : Cpl p s a o false) (hk : a.known = true) : o = true := by
  cases o with
  | true => rfl
  | false => cases (hC.hidle rfl rfl).2.1.symm.trans hk

theorem cpl_reach (hC : Cpl p s a o false) (r : Reach) :
    Cpl p { s with reach := r } { a with reach := r, reachSince := a.now } o false :=
  have ⟨hl, hn, _⟩ := hC.hlive rfl
  ⟨hC.hclosed, ⟨hC.hq.bound, hC.hq.nokill⟩,
    fun _ => ⟨live_same p hl, hn, rfl⟩,
    nofun, hC.hst, hC.hidle⟩

/-- the retry greenlet has installed the new sink: the automaton may be told at once -/
theorem Cpl.recover (hC : Cpl p s a o false) {k : Nat} (hp : a.pendOk = some k) (hd : s.down = false) :
    Cpl p s (a.recovered k) o false := by
  obtain ⟨hl, hn, hr⟩ := hC.hlive rfl
  cases hl with
  | resumed k' h1 h2 h3 h4 h5 hd hn' hs hr' hnk =>
    cases hp.symm.trans h3
    obtain rfl := hC.opened_of_known h1
    exact ⟨hC.hclosed, hC.hq, fun _ => ⟨live_fresh rfl rfl rfl rfl rfl hd hn' hs hr' hnk, hn, hr⟩, nofun,
      fun _ _ h => (nomatch h), nofun⟩
  | resuming _ _ _ _ _ _ _ hc => cases hd.symm.trans hc.1
  | _ => cases hp.symm.trans ‹a.pendOk = none›

theorem cpl_fault_inst (hC : Cpl p s a true false) {k : Nat} (hk : k < s.sinks.length) (hin : a.inst = some k)
    (hkn : a.known = false) : Cpl p (doFault s k) { a with raised := true } true false := by
  obtain ⟨hl, hn, hr⟩ := hC.hlive rfl
  have hmem : Task.notify k ∈ (doFault s k).tasks := List.mem_append_right _ (List.mem_singleton_self _)
  have key : Live p (doFault s k) { a with raised := true } ∧
      ((doFault s k).down = true → ∃ k w, (doFault s k).res = .opening k w .ok) := by
    cases hl with
    | up h1 h2 h3 hd hn' hs hr' hk' hi =>
      exact ⟨.up h1 h2 h3 hd hn' hs hr' (fun j hj => by cases hin.symm.trans hj; exact ⟨fun _ => hmem, fun _ => rfl⟩)
        (fun hi => by cases hin.symm.trans hi), fun h => by cases hd.symm.trans h⟩
    | resumingR k' w h1 h2 h3 h4 h5 hc hr' htt =>
      obtain ⟨pre, post, he, hp, hq⟩ := htt
      refine ⟨.resumingR k' w h1 h2 h3 rfl h5 hc hr' ⟨pre, post ++ [.notify k], ?_, hp, List.mem_append_left _ hq⟩,
        fun _ => ⟨k', w, hr'⟩⟩
      show s.tasks ++ _ = _
      rw [he, List.append_assoc]; rfl
    | upDown h1 h2 h3 h4 hc hz => exact (hC.no_upDown h1 h4 hc hz).elim
    | _ => cases hkn.symm.trans ‹a.known = true›
  exact ⟨hC.hclosed, qinv_fault hC.hq hk, fun _ => ⟨key.1, hn, hr⟩, nofun, fun _ _ _ => key.2, nofun⟩

/-- the reconnected sink faults before the specification has seen it in use -/
theorem cpl_fault_pendOk (hC : Cpl p s a true false) {k : Nat} (hk : k < s.sinks.length) (hpo : a.pendOk = some k) :
    Cpl p (doFault s k) { a.recovered k with raised := true } true false := by
  cases hd : s.down with
  | false => exact cpl_fault_inst (hC.recover hpo hd) hk rfl rfl
  | true =>
    obtain ⟨hl, hn, hr⟩ := hC.hlive rfl
    cases hl with
    | resuming k' w h1 h2 h3 h4 h5 hc hr' htt hnk =>
      cases hpo.symm.trans h3
      obtain ⟨pre, post, he⟩ := List.append_of_mem htt
      refine ⟨hC.hclosed, qinv_fault hC.hq hk, fun _ => ⟨.resumingR k w rfl rfl rfl rfl rfl hc hr'
        ⟨pre, post ++ [.notify k], ?_, fun hm => hnk (he ▸ List.mem_append_left _ hm),
          List.mem_append_right _ (List.mem_singleton_self _)⟩, hn, hr⟩, nofun, fun _ _ _ _ => ⟨k, w, hr'⟩, nofun⟩
      show s.tasks ++ _ = _
      rw [he, List.append_assoc]; rfl
    | resumed _ _ _ _ _ _ hd' => cases hd.symm.trans hd'
    | _ => cases hpo.symm.trans ‹a.pendOk = none›

/-- a stale sink faults: nobody is subscribed -/
theorem cpl_fault_stale (hC : Cpl p s a true false) {k : Nat} (hk : k < s.sinks.length) (hpo : a.pendOk ≠ some k)
    (hin : ¬(a.inst = some k ∧ a.known = false)) (hwf : ∀ w, s.res ≠ .opening k w .pending) :
    Cpl p (doFault s k) a true false := by
  obtain ⟨hl, hn, hr⟩ := hC.hlive rfl
  refine ⟨hC.hclosed, qinv_fault hC.hq hk, fun _ => ⟨?_, hn, hr⟩, nofun, hC.hst, nofun⟩
  refine live_frame p hl [] s.tasks [.notify k] rfl rfl (fun _ _ _ => nofun) (fun _ => nofun) (fun _ _ _ _ _ => nofun)
    fun j hj => ?_
  cases List.mem_singleton.mp hj
  refine ⟨fun hi => ?_, fun hp => ?_, hpo⟩
  · have hkn : a.known = true := Decidable.byContradiction fun h => hin ⟨hi, Bool.eq_false_iff.mpr h⟩
    cases hi.symm.trans (hl.inst_of_known hkn)
  · obtain ⟨w, hw⟩ := hl.res_of_pend hp
    exact hwf w hw


theorem step_done_pend (cfg : Cfg) (idx : Nat) (hC : Cpl cfg.par s a true false) {k : Nat}
    (hp : a.pend = some k) (ok : Bool) :
    ∃ a', specStep cfg a idx (.done k ok) (obsOf (doDone s k ok) .none) = (.ok, a') ∧
      Cpl cfg.par (doDone s k ok) a' true false := by
  obtain ⟨hl, hn, hr⟩ := hC.hlive rfl
  cases hl with
  | pending k' w h1 h2 h3 h4 h5 hc hr' hnk hw =>
    cases hp.symm.trans h2
    have q := qinv_done hC.hq k ok
    rw [doDone_opening ok hr'] at q ⊢
    have hres : Task.resume ∈ s.tasks ++ [.resume] := List.mem_append_right _ (List.mem_singleton_self _)
    cases ok with
    | true =>
      exact ⟨_, specStep_done_pend hC.hclosed hp, hC.hclosed, q,
        fun _ => ⟨.resuming k w h1 rfl rfl h4 h5 hc rfl hres
          (fun hm => (List.mem_append.mp hm).elim hnk fun h => nomatch List.mem_singleton.mp h), hn, hr⟩,
        nofun, fun _ hk' => (by cases h1.symm.trans hk'), nofun⟩
    | false =>
      exact ⟨_, specStep_done_pend hC.hclosed hp, hC.hclosed, q,
        fun _ => ⟨.failing k w h1 rfl h3 h4 h5 hc rfl hres hn hw, hn, hr⟩,
        nofun, fun _ hk' => (by cases h1.symm.trans hk'), nofun⟩
  | _ => cases hp.symm.trans ‹a.pend = none›

theorem cpl_done_other (hC : Cpl p s a true false) {k : Nat} (ok : Bool) (hp : a.pend ≠ some k)
    (hwf : ∀ w r, s.res = .opening k w r → r = .pending) : Cpl p (doDone s k ok) a true false := by
  obtain ⟨hl, hn, hr⟩ := hC.hlive rfl
  have hq := qinv_done hC.hq k ok
  rw [doDone_other ok fun w r h => hp (hl.pend_of_res (hwf w r h ▸ h))] at hq ⊢
  exact ⟨hC.hclosed, hq, fun _ => ⟨live_same p hl, hn, hr⟩, nofun, hC.hst, nofun⟩

/-- the coupled state after a turn, before the specification is told of it -/
theorem Cpl.turn_facts (hp : p.Ok) (hC : Cpl p s a o false) :
    Live p (runTurn p s) a ∧ QInv (runTurn p s) false ∧ a.now = (runTurn p s).now ∧ a.reach = (runTurn p s).reach ∧
    (o = false → (runTurn p s).sinks = []) := by
  obtain ⟨hl, hn, hr⟩ := hC.hlive rfl
  have e := runTurn_eff p s
  obtain ⟨h1, h2⟩ := live_turn p hp s a hl hC.hq
  refine ⟨h1, h2, hn.trans e.now.symm, hr.trans e.reach.symm, fun ho => List.eq_nil_of_length_eq_zero ?_⟩
  rw [e.sinks, (hC.hidle ho rfl).2.2.2]; rfl

/-- a turn in which no fault is delivered -/
theorem cpl_turn_same (hp : p.Ok) (hC : Cpl p s a o false)
    (h : a.known = true ∨ a.raised = false) : Cpl p (runTurn p s) a o false :=
  have ⟨h1, h2, h3, h4, h5⟩ := hC.turn_facts hp
  ⟨hC.hclosed, h2, fun _ => ⟨h1, h3, h4⟩, nofun,
    fun _ hk hr => h.elim (fun h => (nomatch hk.symm.trans h)) (fun h => (nomatch hr.symm.trans h)),
    fun ho _ => ⟨(hC.hidle ho rfl).1, (hC.hidle ho rfl).2.1, (hC.hidle ho rfl).2.2.1, h5 ho⟩⟩

theorem cpl_turn (hp : p.Ok) (hC : Cpl p s a o false) :
    Cpl p (runTurn p s) (afterTurn a) o false := by
  obtain ⟨hl, hq, hn, hr, hs⟩ := hC.turn_facts hp
  have hres := no_task_after_turn p s .resume nofun nofun
  have hnot := fun k => no_task_after_turn p s (.notify k) nofun nofun
  have hcl := hC.hclosed
  cases hl with
  | up h1 h2 h3 hd hn' hs' hr' hk hi =>
    have hrz : a.raised = false := by
      cases hin : a.inst with
      | none => exact hi hin
      | some k => exact Bool.eq_false_iff.mpr fun h => hnot k ((hk k hin).mp h)
    rw [afterTurn_same h3 (.inr hrz)]
    exact cpl_turn_same hp hC (.inr hrz)
  | upDown h1 h2 h3 h4 hc hz =>
    rw [afterTurn_learn h3 h4 h1]
    exact ⟨hcl, hq, fun _ => ⟨.sleeping rfl h2 h3 rfl rfl hc (show Sleeping p _ a.now none from hn.symm ▸ hz), hn, hr⟩, nofun, fun _ h => (nomatch h),
      fun ho _ => (nomatch h4.symm.trans (hC.hidle ho rfl).2.2.1)⟩
  | sleeping h1 _ h3 | pending _ _ h1 _ h3 =>
    rw [afterTurn_same h3 (.inl h1)]
    exact cpl_turn_same hp hC (.inl h1)
  | resumed k h1 h2 h3 h4 h5 hd hn' hs' hr' hnk =>
    rw [afterTurn_recovered h3]
    exact (cpl_turn_same hp hC (.inl h1)).recover h3 hd
  | resumingR k w h1 h2 h3 h4 h5 hc hr' htt =>
    obtain ⟨pre, post, he, _⟩ := htt
    exact (hres (he ▸ List.mem_append_right _ List.mem_cons_self)).elim
  | failing _ _ _ _ _ _ _ _ _ htt | resuming _ _ _ _ _ _ _ _ _ htt => exact (hres htt).elim


@[simp] theorem advance_fields (s : St) (d : Nat) :
    (advance s d).down = s.down ∧ (advance s d).next = s.next ∧ (advance s d).subs = s.subs ∧
    (advance s d).res = s.res ∧ (advance s d).now = s.now + d ∧ (advance s d).sinks = s.sinks ∧
    (advance s d).reach = s.reach ∧ (advance s d).ev = s.ev ∧ (advance s d).ups = s.ups ∧
    (advance s d).tasks = s.tasks := ⟨rfl, rfl, rfl, rfl, rfl, rfl, rfl, rfl, rfl, rfl⟩

theorem cpl_tick_quiet (hC : Cpl p s a o false) (d : Nat) (ht : s.tasks = [])
    (hw : ∀ wk w, s.res = .sleep wk w → s.now + d < wk) :
    Cpl p (advance s d) { a.settle with now := a.now + d } o false := by
  obtain ⟨hl, hn, hr⟩ := hC.hlive rfl
  have hq : QInv (advance s d) false := ⟨hC.hq.bound, hC.hq.nokill⟩
  have hn' : a.now + d = s.now + d := congrArg (· + d) hn
  cases hl with
  | up h1 h2 h3 hd hn hs hr' hk hi =>
    rw [SS.settle_none h3]
    exact ⟨hC.hclosed, hq, fun _ => ⟨.up h1 h2 h3 hd hn hs hr' hk hi, hn', hr⟩, nofun,
      fun _ _ _ h => (nomatch hd.symm.trans h), hC.hidle⟩
  | sleeping h1 h2 h3 h4 h5 hc hz =>
    rw [SS.settle_none h3]
    obtain rfl := hC.opened_of_known h1
    refine ⟨hC.hclosed, hq, fun _ => ⟨.sleeping h1 h2 h3 h4 h5 hc ?_, hn', hr⟩, nofun, fun _ h => (nomatch h1.symm.trans h), nofun⟩
    rcases hz with ⟨_, hm, _⟩ | ⟨wk, w, e1, e2, e3, e4, _, e6⟩
    · rw [ht] at hm; cases hm
    · exact .inr ⟨wk, w, e1, e2, e3, e4, hw wk w e1, e6⟩
  | pending k w h1 h2 h3 h4 h5 hc hr' hnk hw' =>
    rw [SS.settle_none h3]
    obtain rfl := hC.opened_of_known h1
    exact ⟨hC.hclosed, hq, fun _ => ⟨.pending k w h1 h2 h3 h4 h5 hc hr' hnk hw', hn', hr⟩, nofun,
      fun _ h => (nomatch h1.symm.trans h), nofun⟩
  | resumed k h1 h2 h3 h4 h5 hd hn hs hr' hnk =>
    rw [SS.settle_some h3]
    obtain rfl := hC.opened_of_known h1
    exact ⟨hC.hclosed, hq, fun _ => ⟨live_fresh rfl rfl rfl rfl rfl hd hn hs hr' hnk, hn', hr⟩, nofun, fun _ _ h => (nomatch h), nofun⟩
  | upDown h1 h2 h3 h4 hc hz => exact (hC.no_upDown h1 h4 hc hz).elim
  | resumingR k w h1 h2 h3 h4 h5 hc hr' htt =>
    obtain ⟨pre, post, he, _⟩ := htt
    rw [ht] at he; cases pre <;> cases he
  | failing _ _ _ _ _ _ _ _ _ htt | resuming _ _ _ _ _ _ _ _ _ htt => rw [ht] at htt; cases htt

/-- What the woken retry greenlet leaves, by the reachability `r` it meets: the new sink and the log of its connect (which
    begins with the sink's creation: that is what the automaton sees of a wake) apart, a record update of `s`, so that whatever
    the coupling reads of it is there by definition. -/
theorem resWake_eq (p : Par) (s : St) (w : Nat) {r : Reach} (hr : s.reach = r) (hd : s.down = true) (hs : s.subs = [])
    (hev : s.ev = []) :
    ∃ sk ev, firstCreate ev = some s.sinks.length ∧
      resWake p s w = { (match r with
        | .up => { s with down := false, next := some s.sinks.length, subs := [s.sinks.length], res := .none }
        | .down => { s with res := .sleep (s.now + nextWait p w) (nextWait p w) }
        | .hang => { s with res := .opening s.sinks.length w .pending }) with sinks := sk, ev := ev } := by
  obtain ⟨now, reach, sinks, subs, next, down, res, tasks, ups, ev⟩ := s
  cases hr; cases hd; cases hs; cases hev
  cases reach <;> exact ⟨_, _, rfl, rfl⟩

theorem step_tick_wake (cfg : Cfg) (hf : Grows cfg.par) (idx : Nat) (hC : Cpl cfg.par s a o false) {d wk w : Nat}
    (ht : s.tasks = []) (hres : s.res = .sleep wk w) (heq : s.now + d = wk) (hev : s.ev = []) :
    ∃ a', specStep cfg a idx (.tick d) (obsOf (resWake cfg.par (advance s d) w) .none) = (.ok, a') ∧
      Cpl cfg.par (resWake cfg.par (advance s d) w) a' o false := by
  obtain ⟨hl, hn, hr⟩ := hC.hlive rfl
  cases hl with
  | sleeping h1 h2 h3 h4 h5 hc hz =>
    rcases hz with ⟨hx, _⟩ | ⟨wk', w', e1, e2, e3, e4, e5, e6⟩
    · cases hres.symm.trans hx
    cases hres.symm.trans e1
    have hnow : a.now + d = s.now + d := congrArg (· + d) hn
    have hdl : a.now + d - a.lastEnd ≤ w := Nat.sub_le_iff_le_add'.mpr (by rw [hnow, heq]; exact e2)
    have hnt : ∀ {x}, x ∉ s.tasks := fun h => by rw [ht] at h; cases h
    obtain ⟨sk, ev, hfc, e⟩ := resWake_eq cfg.par (advance s d) w hr.symm hc.1 hc.2.2 hev
    rw [e]
    refine ⟨_, specStep_tick_wake hC.hclosed hfc h1 h3 rfl (Nat.le_trans hdl e3) (fun d0 hd0 => ?_), ?_⟩
    · obtain ⟨x1, x2, x3⟩ := e6 d0 hd0
      rw [hnow, heq, x1, Nat.add_sub_cancel_left]; exact ⟨x2, x3⟩
    obtain rfl := hC.opened_of_known h1
    cases hrch : a.reach with
    | up =>
      exact ⟨hC.hclosed, ⟨fun _ h => (hnt h).elim, fun _ => hnt⟩,
        fun _ => ⟨live_fresh rfl rfl rfl rfl rfl rfl rfl rfl rfl hnt, hnow, hrch.symm.trans hr⟩, nofun, fun _ _ h => (nomatch h), nofun⟩
    | down =>
      exact ⟨hC.hclosed, ⟨fun _ h => (hnt h).elim, fun _ => hnt⟩,
        fun _ => ⟨.sleeping h1 h2 h3 h4 h5 hc (.backoff hf rfl hnow e3 e4 fun d0 hd0 => by cases hd0; exact hdl), hnow, hrch.symm.trans hr⟩,
        nofun, fun _ h => (nomatch h1.symm.trans h), nofun⟩
    | hang =>
      exact ⟨hC.hclosed, ⟨fun _ h => (hnt h).elim, fun _ => hnt⟩,
        fun _ => ⟨.pending _ w h1 rfl h3 h4 h5 hc rfl hnt ⟨e3, e4, fun d0 hd0 => by cases hd0; exact hdl⟩, hnow, hrch.symm.trans hr⟩,
        nofun, fun _ h => (nomatch h1.symm.trans h), nofun⟩
  | upDown h1 h2 h3 h4 hc hz => exact (hC.no_upDown h1 h4 hc hz).elim
  | up _ _ _ _ _ _ hr' | resumingR _ _ _ _ _ _ _ _ hr' | failing _ _ _ _ _ _ _ _ hr' | pending _ _ _ _ _ _ _ _ hr'
  | resuming _ _ _ _ _ _ _ _ hr' | resumed _ _ _ _ _ _ _ _ _ hr' => cases hres.symm.trans hr'


theorem doOpen_eq (hn : s.next = none) (hs : s.subs = []) (hev : s.ev = []) :
    ∃ sk ev, sk.length = s.sinks.length + 1 ∧ firstCreate ev = some s.sinks.length ∧
      doOpen s = { s with sinks := sk, ev := ev, next := some s.sinks.length, subs := [s.sinks.length] } := by
  obtain ⟨now, reach, sinks, subs, next, down, res, tasks, ups, ev⟩ := s
  cases hn; cases hs; cases hev
  cases reach <;> exact ⟨_, _, by simp, rfl, rfl⟩

theorem step_opn (cfg : Cfg) (idx : Nat) (hC : Cpl cfg.par s a false false) (hev : s.ev = []) :
    ∃ a', specStep cfg a idx .opn (obsOf (doOpen s) .none) = (.ok, a') ∧ Cpl cfg.par (doOpen s) a' true false := by
  obtain ⟨hl, hn, hr⟩ := hC.hlive rfl
  obtain ⟨i1, i2, i3, _⟩ := hC.hidle rfl rfl
  cases hl with
  | up h1 h2 h3 hd hn' hs hr' hk hi =>
    obtain ⟨sk, ev, hsk, hfc, e⟩ := doOpen_eq (hn'.trans i1) (hs.trans (i1 ▸ rfl)) hev
    rw [e]
    exact ⟨_, specStep_opn hC.hclosed hfc, hC.hclosed, hC.hq.mono [] (hsk ▸ Nat.le_succ _) (fun _ => .inl) nofun,
      fun _ => ⟨live_fresh h1 h2 h3 i3 rfl hd rfl rfl hr' fun h => Nat.lt_irrefl _ (hC.hq.bound _ h), hn, hr⟩,
      nofun, fun _ _ _ h => (nomatch hd.symm.trans h), nofun⟩
  | upDown _ _ _ h4 | resumingR _ _ _ _ _ h4 => cases i3.symm.trans h4
  | _ => cases i2.symm.trans ‹a.known = true›

theorem Live.subs_next (h : Live p s a) : s.subs = s.next.toList := by
  cases h with
  | up _ _ _ _ hn hs => rw [hs, hn]
  | resumed _ _ _ _ _ _ _ hn hs => rw [hs, hn]; rfl
  | _ => rw [‹DownCore s›.2.2, ‹DownCore s›.2.1]; rfl

theorem doClose_shut (h : s.subs = s.next.toList) :
    Shut (doClose s) ∧ (∀ x, x ∈ (doClose s).tasks → x ∈ s.tasks ∨ x = .kill) ∧
    (doClose s).sinks.length = s.sinks.length := by
  -- for each next sink (hence subscription) and each state of the retry greenlet `doClose s` is an explicit record
  cases hn : s.next <;> rw [hn] at h <;> cases hres : s.res <;>
    simp +contextual [doClose, Shut, hn, h, hres, push, closeSink, emit, updSink, List.mem_filter]

theorem cpl_close (hC : Cpl p s a o false) : Cpl p (doClose s) { a with closed := true } o true :=
  have ⟨k1, k2, k3⟩ := doClose_shut (hC.hlive rfl).1.subs_next
  ⟨rfl, ⟨fun j hj => k3 ▸ (k2 _ hj).elim (hC.hq.bound j) (fun h => nomatch h), nofun⟩, nofun, fun _ => k1, nofun, nofun⟩

end ops

theorem opOk_clearEv (s : St) (o c : Bool) (op : Op) : opOk (clearEv s) o c op = opOk s o c op := by
  cases op <;> rfl

theorem step_req (cfg : Cfg) (hp : cfg.par.Ok) (s : St) (a : SS) (o : Bool) (idx : Nat)
    (hC : Cpl cfg.par s a o false) (hev : s.ev = []) :
    ∃ a', specStep cfg a idx .req (obsOf (doReq cfg.par s).1 (doReq cfg.par s).2) = (.ok, a') ∧
      Cpl cfg.par (doReq cfg.par s).1 a' o false := by
  have hcl : a.closed = false := hC.hclosed
  obtain ⟨hl, hn, hr⟩ := hC.hlive rfl
  have hmax : 0 < cfg.maxW := Nat.lt_of_lt_of_le hp.init_pos hp.init_le
  have down : s.next = none → a.known = true → (a.pendOk = none → a.pend = none → a.now < a.lastEnd + cfg.maxW) →
      ∃ a', specStep cfg a idx .req (obsOf (doReq cfg.par s).1 (doReq cfg.par s).2) = (.ok, a') ∧
        Cpl cfg.par (doReq cfg.par s).1 a' o false := fun hnx hk hov => by
    rw [doReq_none _ hnx]
    exact ⟨a, specStep_req_down hcl hk rfl fun hpo => ⟨(runTurn_ev _ hev).2, fun ⟨_, h1, h2⟩ =>
        Nat.not_le.mpr (hov hpo h1) (Nat.le_trans (Nat.add_le_add_right (Nat.le_max_right ..) _) h2)⟩,
      cpl_turn_same hp hC (.inl hk)⟩
  cases hl with
  | up h1 h2 h3 hd hn' hs hr' hk hi =>
    cases hin : a.inst with
    | some k =>
      rw [doReq_some _ (hn'.trans hin)]
      exact ⟨a, specStep_req_up hcl h1 (fun _ => nofun) (fun j hj => by cases hin.symm.trans hj; rfl), hC.same⟩
    | none =>
      rw [doReq_none _ (hn'.trans hin)]
      exact ⟨a, specStep_req_up hcl h1 (fun h => (nomatch (hi hin).symm.trans h)) (fun j hj => (nomatch hin.symm.trans hj)),
        cpl_turn_same hp hC (.inr (hi hin))⟩
  | upDown h1 h2 h3 h4 hc' hz => exact (hC.no_upDown h1 h4 hc' hz).elim
  | resumingR k w h1 h2 h3 h4 h5 hc' hr' htt =>
    rw [doReq_none _ hc'.2.1]
    exact ⟨a.learn, specStep_req_learn hcl h1 h4 rfl, afterTurn_learn h3 h4 h1 ▸ cpl_turn hp hC⟩
  | sleeping h1 h2 h3 h4 h5 hc' hz =>
    refine down hc'.2.1 h1 fun _ _ => ?_
    rw [hn]
    rcases hz with ⟨_, _, hle, _⟩ | ⟨wk, w, _, h6, h7, _, h9, _⟩
    · rw [hle]; exact Nat.lt_add_of_pos_right hmax
    · exact Nat.lt_of_lt_of_le h9 (Nat.le_trans h6 (Nat.add_le_add_left h7 _))
  | failing k w h1 h2 h3 h4 h5 hc' hr' htt hl' hw =>
    exact down hc'.2.1 h1 fun _ _ => by rw [hn, hl']; exact Nat.lt_add_of_pos_right hmax
  | pending k w h1 h2 h3 h4 h5 hc' hr' hnk hw => exact down hc'.2.1 h1 fun _ hp => nomatch h2.symm.trans hp
  | resuming k w h1 h2 h3 h4 h5 hc' hr' htt hnk => exact down hc'.2.1 h1 fun hp => nomatch h3.symm.trans hp
  | resumed k h1 h2 h3 h4 h5 hd hn' hs hr' hnk =>
    rw [doReq_some _ hn']
    exact ⟨_, specStep_req_resumed hcl h1 h3 rfl, (hC.recover h3 hd).same⟩

theorem step_ok (cfg : Cfg) (hc : cfgWF cfg = true) (s : St) (a : SS) (o c : Bool) (idx : Nat) (op : Op)
    (hC : Cpl cfg.par s a o c) (hop : opOk s o c op = true) :
    ∃ a', specStep cfg a idx op
        (obsOf (stepSt cfg.par (clearEv s) op).1 (stepSt cfg.par (clearEv s) op).2) = (.ok, a') ∧
      Cpl cfg.par (stepSt cfg.par (clearEv s) op).1 a' (o || isOpn op) (c || isClose op) := by
  have hev : (clearEv s).ev = [] := rfl
  rw [← opOk_clearEv] at hop
  replace hC : Cpl cfg.par (clearEv s) a o c := hC.same
  generalize clearEv s = s at hC hop hev
  cases c with
  | true =>
    obtain ⟨h1, h2, h3⟩ := shut_step cfg.par s o op (hC.hshut rfl) hC.hq hev hop
    exact ⟨a, specStep_closed cfg idx op hC.hclosed h3, hC.hclosed, h2, nofun, fun _ => h1, nofun, nofun⟩
  | false =>
    have hp := cfg_ok cfg hc
    have hcl : a.closed = false := hC.hclosed
    -- The open-channel branch of `specStep`, its `match` on the operation, stated by Lean's own unfolding equation so that
    -- the right side need not be written out; below, the tests of that `match` generate the cases.
    have opened := fun op o => (specStep.eq_def cfg a idx op o).trans (if_neg (by rw [hcl]; nofun))
    cases op <;> simp only [isOpn, isClose, Bool.or_false, Bool.or_true]
    case opn =>
      simp only [opOk, Bool.and_eq_true, Bool.not_eq_true'] at hop
      cases hop.1
      exact step_opn cfg idx hC hev
    case close => exact ⟨_, opened .., cpl_close hC⟩
    case reach r => exact ⟨_, opened .., cpl_reach hC r⟩
    case turn => exact ⟨_, specStep_turn hcl, cpl_turn hp hC⟩
    case req => exact step_req cfg hp s a o idx hC hev
    case fault k =>
      simp only [opOk, Bool.and_eq_true, decide_eq_true_eq] at hop
      obtain ⟨⟨hk, _⟩, hwf⟩ := hop
      obtain rfl := hC.opened_of_sink hk
      rw [opened]
      dsimp only
      split
      next hpo => exact ⟨_, rfl, cpl_fault_pendOk hC hk hpo⟩
      split
      next hpo hin => exact ⟨_, rfl, cpl_fault_inst hC hk hin.1 hin.2⟩
      next hpo hin => exact ⟨_, rfl, cpl_fault_stale hC hk hpo hin fun w hw => by rw [hw] at hwf; simp at hwf⟩
    case done k ok =>
      simp only [opOk, Bool.and_eq_true, decide_eq_true_eq] at hop
      obtain ⟨⟨_, hk⟩, hwf⟩ := hop
      obtain rfl := hC.opened_of_sink hk
      by_cases hp : a.pend = some k
      · exact step_done_pend cfg idx hC hp ok
      · have h := cpl_done_other hC ok hp fun w r hr => by rw [hr] at hwf; simpa using hwf
        rw [opened]
        dsimp only
        rw [if_neg hp]
        split
        · exact ⟨_, rfl, h.same⟩
        · exact ⟨_, rfl, h⟩
    case tick d =>
      simp only [opOk, Bool.and_eq_true, decide_eq_true_eq, List.isEmpty_iff] at hop
      obtain ⟨⟨_, htk⟩, hwf⟩ := hop
      show ∃ a', specStep cfg a idx (.tick d) (obsOf (doTick cfg.par s d) .none) = (.ok, a') ∧
        Cpl cfg.par (doTick cfg.par s d) a' o false
      by_cases hwake : ∃ wk w, s.res = .sleep wk w ∧ wk ≤ s.now + d
      · obtain ⟨wk, w, hres, hle⟩ := hwake
        have heq : s.now + d = wk := by rw [hres] at hwf; simp at hwf; omega
        rw [doTick_wake _ hres hle]
        exact step_tick_wake cfg hp.grows idx hC htk hres heq hev
      · have hlt : ∀ wk w, s.res = .sleep wk w → ¬wk ≤ s.now + d := fun wk w h1 h2 => hwake ⟨wk, w, h1, h2⟩
        rw [doTick_quiet _ hlt]
        exact ⟨_, by rw [opened, show (obsOf (advance s d) .none).ev = [] from hev]; rfl, cpl_tick_quiet hC d htk fun wk w h => Nat.lt_of_not_le (hlt wk w h)⟩

theorem cpl_init (p : Par) : Cpl p {} {} false false :=
  ⟨rfl, ⟨nofun, nofun⟩, fun _ => ⟨.up rfl rfl rfl rfl rfl rfl rfl nofun fun _ => rfl, rfl, rfl⟩, nofun, nofun,
    fun _ _ => ⟨rfl, rfl, rfl, rfl⟩⟩

end Scales.Res
