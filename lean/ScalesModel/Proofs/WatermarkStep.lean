/-
  Proofs/WatermarkStep.lean — C07: one operation of the model keeps the invariant, keeps the
  specification's monitor coupled to the model, and is accepted by every clause of the specification
  (`step_ok`); hence every history is accepted and ends in a state that satisfies the invariant
  (`spec_trace`, `reached_runOps`).
-/
import ScalesModel.Proofs.WatermarkProcs

namespace Scales.Watermark

section stepSt
variable (cfg : Cfg) {s : St} {c sid : Nat}

theorem step_fst (s : St) (op : Op) : (step cfg s op).1 = finish (stepSt cfg s op) := rfl
theorem step_evs (s : St) (op : Op) : (step cfg s op).2.evs = (stepSt cfg s op).evs := rfl
theorem finish_base (s : St) : (finish s).base = s.view := rfl

theorem stepSt_respond (s : St) (c : Nat) :
    stepSt cfg s (.respond c) =
      match s.stat c with
      | some (.started _) => drainCall cfg s c .reply
      | some (.zombie sid) => release cfg s sid
      | _ => s := rfl

theorem stepSt_respond_started (h : s.stat c = some (.started sid)) :
    stepSt cfg s (.respond c) = (release cfg s sid).emit (.done c .reply) := by
  simp only [stepSt_respond, h, drainCall]

theorem stepSt_respond_zombie (h : s.stat c = some (.zombie sid)) :
    stepSt cfg s (.respond c) = release cfg s sid := by
  rw [stepSt_respond, h]

theorem stepSt_run (s : St) :
    stepSt cfg s .run =
      match s.tasks with
      | [] => s
      | sid :: rest => procQueue cfg { s with tasks := rest } sid s.waiters := rfl

theorem stepSt_run_cons {rest : List Nat} (h : s.tasks = sid :: rest) :
    stepSt cfg s .run = procQueue cfg { s with tasks := rest } sid s.waiters := by
  rw [stepSt_run, h]

theorem stepSt_request (s : St) (ok lat : Bool) :
    stepSt cfg s (.request ok lat) =
      match get cfg { s with base := preOp s.base (.request ok lat) } (lat || ok) with
      | (s1, .sink sid fresh) =>
        if fresh && lat then s1.emit (.connecting sid s.base.calls.length)
        else s1.emit (.sent sid s.base.calls.length)
      | (s1, .queue) =>
        ({ s1 with waiters := s1.waiters ++ [s.base.calls.length] }).emit (.queued s.base.calls.length)
      | (s1, .fail) => s1.emit (.done s.base.calls.length .maxWaiters) := rfl

theorem openedSt_of_opening (h : isOpening s.view sid = true) :
    ∃ c, holderOf s.view sid = some c ∧ openedSt s sid = s.emit (.sent sid c) := by
  rw [isOpening_eq, Bool.and_eq_true] at h
  obtain ⟨c, hl⟩ := Option.isSome_iff_exists.1 h.2
  refine ⟨c, hl, ?_⟩
  unfold openedSt
  rw [sinks_get (holderOf_lt hl)]
  rw [openFlag_sinkAt] at h; rw [holderOf_sinkAt] at hl
  simp only [h.1, hl, if_true]

theorem openedSt_of_not_opening (h : isOpening s.view sid = false) : openedSt s sid = s := by
  unfold openedSt
  by_cases hlt : sid < s.view.sinks.length
  · rw [sinks_get hlt]
    rw [isOpening_eq, openFlag_sinkAt, holderOf_sinkAt, Bool.and_eq_false_iff] at h
    rcases h with h | h
    · simp only [h, Bool.false_eq_true, if_false]
    · cases hl : (sinkAt s.view.sinks sid).lent with
      | none => simp only [hl, ite_self]
      | some c => rw [hl] at h; cases h
  · rw [List.getElem?_eq_none (Nat.le_of_not_lt hlt)]

end stepSt

section run
variable {cfg : Cfg} {s : St} {sid : Nat}

/-- a hand-off skips the waiters that are no longer waiting: the equation of `_ProcessQueue`, whatever the state -/
theorem run_skips {c : Nat} {rest w1 w2 : List Nat} (ht : s.tasks = sid :: rest) (hw : s.waiters = w1 ++ c :: w2)
    (hgone : ∀ x ∈ w1, s.view.calls[x]? ≠ some .pending) (hc : s.view.calls[c]? = some .pending) :
    stepSt cfg s .run = ({ s with tasks := rest, waiters := w2 }).emit (.sent sid c) := by
  have key := procQueue_skip cfg sid c w2 w1 { s with tasks := rest } hgone hc
  rw [← hw] at key
  rw [stepSt_run_cons cfg ht, key]

/-- nobody in the queue is waiting any more: the connection goes back through `_Release`, on an empty queue -/
theorem run_skips_all {rest : List Nat} (ht : s.tasks = sid :: rest)
    (hgone : ∀ x ∈ s.waiters, s.view.calls[x]? ≠ some .pending) :
    stepSt cfg s .run = release cfg { s with tasks := rest, waiters := [] } sid := by
  rw [stepSt_run_cons cfg ht]
  exact procQueue_skip_all cfg sid s.waiters { s with tasks := rest } rfl hgone

end run

section clauses
variable {cfg : Cfg} {s : St}

theorem clQueueBound_ok (hi : Inv cfg none s) : clQueueBound cfg s.view = .ok :=
  if_neg (Nat.not_lt.2 (Nat.le_trans hi.wait.pendingIds_le hi.wq))

theorem clSize_ok (hi : Inv cfg none s) : clSize s.view (obsOf s) = .ok :=
  if_neg (not_not.2 hi.acct.size_none)

theorem Link.lent_nil_of_allDone {v : View} (hl : Link v) (hd : allDone v = true) (x : Nat) :
    holderOf v x = none := by
  cases hh : holderOf v x with
  | none => rfl
  | some c =>
    obtain ⟨st, h2, h4⟩ := hl.lentCall x c hh
    have := List.all_eq_true.1 hd _ (List.mem_of_getElem? h2)
    rw [beq_iff_eq] at this
    rw [this] at h4; cases h4

theorem work_quiescent (hi : Inv cfg none s) (ht : s.tasks = []) (hp : pendingIds s.view ≠ []) :
    idleIds s.view = [] := by
  obtain ⟨c, hc⟩ := List.exists_mem_of_ne_nil _ hp
  have hcache := hi.cacheW (List.ne_nil_of_mem (hi.pendW c (mem_pendingIds.1 hc)))
  refine List.filter_eq_nil_iff.2 fun x _ hx => ?_
  rw [Bool.and_eq_true, Bool.not_eq_true', isLent_eq] at hx
  rcases hi.acct.alive_none hx.1 with h1 | h1 | h1
  · rw [hx.2] at h1; cases h1
  · rw [hcache] at h1; cases h1
  · rw [ht] at h1; cases h1

theorem clWork_ok (hi : Inv cfg none s) : clWork s.view (obsOf s) = .ok := by
  refine if_neg fun hcond => ?_
  simp only [Bool.and_eq_true, Bool.not_eq_true', List.isEmpty_eq_false_iff, List.isEmpty_iff, obsOf] at hcond
  exact hcond.2 (work_quiescent hi hcond.1.1 hcond.1.2)

theorem idle_retains (hi : Inv cfg none s) (ht : s.tasks = []) (hd : allDone s.view = true) :
    (aliveIds s.view).length ≤ cfg.min := by
  refine Nat.le_trans ((nodup_ids _ _).length_le_of_subset fun x hx => ?_) hi.cacheMin
  rcases hi.acct.alive_none (mem_aliveIds.1 hx) with h1 | h1 | h1
  · rw [hi.link.lent_nil_of_allDone hd] at h1; cases h1
  · exact h1
  · rw [ht] at h1; cases h1

theorem clIdle_ok (hi : Inv cfg none s) : clIdle cfg s.view (obsOf s) = .ok := by
  refine if_neg fun hcond => ?_
  simp only [Bool.and_eq_true, decide_eq_true_eq, List.isEmpty_iff, obsOf] at hcond
  exact Nat.not_le_of_lt hcond.2 (idle_retains hi hcond.1.1 hcond.1.2)

theorem clLeak_ok {conn : List Nat} (hi : Inv cfg none s)
    (hconn : ∀ x, isOpening s.view x = true → x ∈ conn) : clLeak s.view conn (obsOf s) = .ok := by
  have h1 : (openingIds s.view).filter (fun sid => !conn.contains sid) = [] :=
    List.filter_eq_nil_iff.2 fun a ha => by simp [hconn a (mem_openingIds.1 ha)]
  have h2 : (aliveIds s.view).filter
      (fun sid => !(isLent s.view sid || (obsOf s).cache.contains sid || (obsOf s).tasks.contains sid)) = [] := by
    refine List.filter_eq_nil_iff.2 fun a ha => ?_
    rcases hi.acct.alive_none (mem_aliveIds.1 ha) with h | h | h
    · rw [← isLent_eq] at h; simp [h]
    · simp [obsOf, h]
    · simp [obsOf, h]
  unfold clLeak
  rw [h1]; simp only; rw [h2]

end clauses

theorem code_eq_four (p : PState) : p.code = 4 ↔ p = .closed := by
  cases p <;> simp [PState.code]

structure Coupled (s : St) (m : Mon) : Prop where
  view : m.view = s.base
  pstate : m.pstate = s.pstate.code
  tasks : m.tasks = s.tasks
  closed : m.closedSeen = false → s.everClosed = false
  evs : s.evs = []
  conn : ∀ x, isOpening s.base x = true → x ∈ m.connects

structure StepOk (cfg : Cfg) (m : Mon) (s : St) (op : Op) (r : St) : Prop where
  minv : MInv cfg (isRun op) (!m.closedSeen) none r
  base : r.base = preOp s.base op
  surplus : clSurplus cfg m op (obsOf r) = .ok
  handoff : clHandoff m (preOp s.base op) op (obsOf r) = .ok
  close : clClose m (preOp s.base op) op (obsOf r) = .ok
  flag : r.everClosed = true → s.everClosed = true ∨ r.pstate = .closed
  raise : clRaise op (obsOf r) = .ok

theorem clRaise_of_NR (op : Op) {o : Obs} (h : NR o.evs) : clRaise op o = .ok := by
  unfold clRaise; rw [filter_of_NR h]

theorem clClose_of_not_dead {m : Mon} {v0 : View} {op : Op} {o : Obs}
    (h1 : deadRelease m v0 op o = false) (h2 : op ≠ .close) : clClose m v0 op o = .ok := by
  unfold clClose
  rw [h1, beq_false_of_ne h2]; rfl

theorem clClose_of_closed {m : Mon} {v0 : View} {op : Op} {o : Obs} (hp : o.pstate = 4)
    (hall : Failed v0 o.evs) : clClose m v0 op o = .ok := by
  have : (pendingIds v0).find? (fun c => !doneWith o.evs c .serviceClosed) = none :=
    List.find?_eq_none.2 fun c hc => by simp [doneWith, hall c (mem_pendingIds.1 hc)]
  unfold clClose
  rw [if_neg (not_not.2 hp), this]
  split <;> rfl

theorem clClose_of_dead {m : Mon} {v0 : View} {op : Op} {o : Obs} (hne : op ≠ .close)
    (h : ∀ sid tail, o.evs = .rel sid :: tail → isAlive v0 sid = false → m.pstate ≠ 4 →
      o.pstate = 4 ∧ Failed v0 o.evs) :
    clClose m v0 op o = .ok := by
  cases hd : deadRelease m v0 op o with
  | false => exact clClose_of_not_dead hd hne
  | true =>
    simp only [deadRelease, Bool.and_eq_true, bne_iff_ne] at hd
    obtain ⟨⟨_, h2⟩, h3⟩ := hd
    split at h2
    · next sid tail heq =>
      obtain ⟨a, b⟩ := h sid tail heq (by simpa using h2) h3
      exact clClose_of_closed a b
    · cases h2

/-- What `StepOk` asks of every operation alike: the pool's code, started on `s0`, has reached `r` with the invariant
    and only accepted events, on the start's base, has raised `everClosed` only by closing the pool, and let no
    exception escape.  The clauses an operation owns (surplus, hand-off, close) come on top. -/
structure Quiet (cfg : Cfg) (hf gate : Bool) (s0 r : St) : Prop where
  minv : MInv cfg hf gate none r
  base : r.base = s0.base
  flag : r.everClosed = true → s0.everClosed = true ∨ r.pstate = .closed
  nr : NR r.evs

/-- the pool's code, started on `s0` before any event, has reached `r` -/
structure Ran (cfg : Cfg) (hf gate : Bool) (s0 r : St) : Prop extends Quiet cfg hf gate s0 r where
  /-- if it began with `_Release` of a dead connection on a pool that was not closed, the pool is
      closed now and every waiting call has been failed -/
  dead : ∀ sid tail, r.evs = .rel sid :: tail → s0.pstate ≠ .closed → isAlive s0.view sid = false →
    r.pstate = .closed ∧ Failed s0.view r.evs

section ran
variable {cfg : Cfg} {hf gate : Bool} {s : St}

theorem Ran.start (hr : Reached cfg s) : Ran cfg hf gate s s :=
  ⟨⟨hr.minv hf gate, rfl, Or.inl, NR_of_nil hr.evs⟩, fun _ _ h => by rw [hr.evs] at h; cases h⟩

theorem Ran.done {r : St} (hr : Ran cfg hf gate s r) (c : Nat) (out : Outcome) {st : CStat}
    (hc : r.view.calls[c]? = some st) (ha : st.answerable = true) : Ran cfg hf gate s (r.emit (.done c out)) := by
  refine ⟨⟨hr.minv.done c out hc ha, hr.base, hr.flag, NR_append hr.nr rfl⟩, fun sid tail h => ?_⟩
  cases hevs : r.evs with
  | nil => rw [emit_evs, hevs] at h; cases h
  | cons e tl =>
    rw [emit_evs, hevs] at h
    cases h
    exact fun hp hd => (hr.dead sid tl hevs hp hd).imp_right (·.append _)

/-- `_Release` run on `s'`, which shows the picture, state and closed-flag of the operation's start `s` (other lists) -/
theorem ran_of_rel {s' : St} {sid : Nat} (hr : Reached cfg s) (hm : MInv cfg hf gate (some sid) (s'.emit (.rel sid)))
    (hb : s'.base = s.base) (hev : s'.evs = s.evs) (hp : s'.pstate = s.pstate) (hc : s'.everClosed = s.everClosed) :
    Ran cfg hf gate s (release cfg s' sid) ∧ ∃ tail, (release cfg s' sid).evs = .rel sid :: tail := by
  obtain ⟨a1, a2, a3⟩ := release_spec hm
  obtain ⟨tail, htail⟩ := a2.evs
  have hevs : (release cfg s' sid).evs = .rel sid :: tail := by rw [htail, emit_evs, hev, hr.evs]; rfl
  refine ⟨⟨⟨a1, a2.base.trans hb, fun h => (a2.flag h).imp_left (hc ▸ ·),
    a2.nr (NR_append (NR_of_nil (hev.trans hr.evs)) rfl)⟩, fun sid' tail' h hp' hd => ?_⟩, tail, hevs⟩
  rw [hevs] at h; cases h
  rw [view_emit, view_congr hb hev] at a3
  exact (a3 (hp ▸ hp') ((isAlive_rel ..).trans hd)).imp_right (·.anti fun _ => hr.inv.link.pending_rel sid)

theorem release_lent {c sid : Nat} {st0 : CStat} (hr : Reached cfg s) (hcs : s.view.calls[c]? = some st0)
    (hholds : st0.holds = some sid) :
    Ran cfg hf gate s (release cfg s sid) ∧ (∃ tail, (release cfg s sid).evs = .rel sid :: tail) ∧
    (release cfg s sid).view.calls[c]? = some (relStat s.view c) ∧
    ∀ c' : Nat, c' ≠ c → pot (release cfg s sid) c' ≤ pot s c' := by
  have hl := hr.inv.startedLent sid c _ hcs hholds
  have hC := CallSet.of_set (calls_rel_lent _ hl) hcs
  have hm := (hr.minv hf gate).rel_lent hl
  have a2 := (release_spec hm).2.1
  obtain ⟨b1, b2⟩ := ran_of_rel hr hm rfl rfl rfl rfl
  exact ⟨b1, b2, a2.keep c _ (by rw [view_emit, hC.get, if_pos rfl]) (relStat_not_pending _ _),
    fun c' hne => Nat.le_trans (a2.pot c') (Nat.le_of_eq (pot_emit_other s _ c' rfl (by rw [hC.get, if_neg hne])))⟩

theorem drain_ran (out : Outcome) (hr : Reached cfg s) (c : Nat) :
    Ran cfg hf gate s (drainCall cfg s c out) := by
  have h0 : Ran cfg hf gate s s := .start hr
  unfold drainCall
  split
  · next h => exact h0.done c out h rfl
  · next _ h => exact h0.done c out h rfl
  · next sid h =>
    obtain ⟨a1, _, a3, _⟩ := release_lent hr h rfl
    exact a1.done c out (st := .released) (by rw [a3, relStat, show s.view.calls[c]? = _ from h]) rfl
  · exact h0

end ran

section ops
variable {cfg : Cfg} {m : Mon} {s : St}

theorem stepOk_of_ran {op : Op} {r : St} (hc : Coupled s m) (hpre : preOp s.base op = s.base) (hne : op ≠ .close)
    (hr : Ran cfg (isRun op) (!m.closedSeen) s r) (hs : clSurplus cfg m op (obsOf r) = .ok)
    (hh : clHandoff m s.base op (obsOf r) = .ok) : StepOk cfg m s op r := by
  have hv := view_of_nil hc.evs
  refine ⟨hr.minv, hr.base.trans hpre.symm, hs, hpre.symm ▸ hh, ?_, hr.flag, clRaise_of_NR _ hr.nr⟩
  rw [hpre]
  refine clClose_of_dead hne fun sid tail he hd hp => ?_
  obtain ⟨a, b⟩ := hr.dead sid tail he (fun h => hp (by rw [hc.pstate, h]; rfl)) (hv ▸ hd)
  exact ⟨(code_eq_four _).2 a, hv ▸ b⟩

/-- an operation that the hand-off and close clauses do not look at (`hq`: any but `respond`, `timeout`,
    `run`, `close`) and in which no exception escapes -/
theorem stepOk_quiet {op : Op} {r : St} (hq : ∀ v o, clHandoff m v op o = .ok ∧ clClose m v op o = .ok)
    (h : Quiet cfg (isRun op) (!m.closedSeen) { s with base := preOp s.base op } r)
    (hs : clSurplus cfg m op (obsOf r) = .ok) : StepOk cfg m s op r :=
  ⟨h.minv, h.base, hs, (hq _ _).1, (hq _ _).2, h.flag, clRaise_of_NR _ h.nr⟩

theorem stepOk_die (sid : Nat) (hr : Reached cfg s) :
    StepOk cfg m s (.die sid) (stepSt cfg s (.die sid)) :=
  stepOk_quiet (fun _ _ => ⟨rfl, rfl⟩) ⟨(inv_preOp_die hr sid).minv _ _, rfl, Or.inl, NR_of_nil hr.evs⟩ rfl

theorem stepOk_close (hr : Reached cfg s) : StepOk cfg m s .close (stepSt cfg s .close) := by
  obtain ⟨a1, a2, _, a4, a5⟩ := closePool_spec (set_closed hr.inv) (hr.minv false _).ev
  refine ⟨a1, a2.base, rfl, rfl, clClose_of_closed ((code_eq_four _).2 a4) (hr.view ▸ a5),
    fun _ => Or.inr a4, clRaise_of_NR _ (a2.nr (NR_of_nil hr.evs))⟩

theorem stepOk_timeout (c : Nat) (hr : Reached cfg s) (hc : Coupled s m) :
    StepOk cfg m s (.timeout c) (stepSt cfg s (.timeout c)) :=
  stepOk_of_ran hc rfl nofun (drain_ran .timeout hr c) rfl rfl

theorem stepOk_respond (c : Nat) (hr : Reached cfg s) (hc : Coupled s m) :
    StepOk cfg m s (.respond c) (stepSt cfg s (.respond c)) := by
  rw [stepSt_respond]
  split
  · exact stepOk_of_ran hc rfl nofun (drain_ran .reply hr c) rfl rfl
  · next sid h =>
    -- the caller was answered long ago: the connection's answer only releases the connection
    exact stepOk_of_ran hc rfl nofun
      (release_lent hr h rfl).1 rfl rfl
  · exact stepOk_of_ran hc rfl nofun (.start hr) rfl rfl

theorem stepOk_run (hr : Reached cfg s) (hc : Coupled s m) : StepOk cfg m s .run (stepSt cfg s .run) := by
  have hv := hr.view
  cases ht : s.tasks with
  | nil =>
    rw [stepSt_run, ht]
    exact stepOk_of_ran hc rfl nofun (.start hr) rfl (by simp [clHandoff, hc.tasks, ht])
  | cons sid rest =>
    have hi := take_task hr.inv ht
    have hev := (hr.minv true (!m.closedSeen)).ev
    cases hold : oldestPending s.base with
    | some c =>
      obtain ⟨hcp, w1, w2, hw, hgone⟩ := hr.waiters_split hold
      rw [run_skips ht hw hgone hcp]
      refine stepOk_of_ran hc rfl nofun ?_ rfl (by simp [clHandoff, hc.tasks, ht, hold, obsOf])
      rw [← hv] at hold
      have hi2 : Inv cfg (some sid) { s with tasks := rest, waiters := c :: w2 } := drop_waiters hi hw hgone
      have hf := hi2.hand
      exact ⟨⟨⟨hi2.emit_sent hcp rfl (List.erase_cons_head c w2),
          evOk_emit (s := { s with tasks := rest, waiters := w2 }) hev
            (evCheck_sent hf.1 hf.2 (.inr hcp) (fun _ => hold) nofun)⟩,
        rfl, Or.inl, NR_append (NR_of_nil hr.evs) rfl⟩,
       fun _ _ h => by rw [emit_evs_of_nil (s := { s with tasks := rest, waiters := w2 }) hr.evs] at h; cases h⟩
    | none =>
      have hp : pendingIds s.view = [] := List.head?_eq_none_iff.1 (hv ▸ hold)
      have hgone : ∀ x ∈ s.waiters, s.view.calls[x]? ≠ some .pending := fun x _ hx => by
        have := mem_pendingIds.2 hx; rw [hp] at this; cases this
      rw [run_skips_all ht hgone]
      exact stepOk_of_ran hc rfl nofun (ran_of_rel hr
        (MInv.rel_free ⟨drop_waiters hi (List.append_nil _).symm hgone, hev⟩) rfl rfl rfl rfl).1 rfl
        (by simp [clHandoff, hc.tasks, ht, hold])

theorem clSurplus_request_of (cfg : Cfg) (m : Mon) (ok lat : Bool) {o : Obs} {ev : Ev} (hev : ev ∈ o.evs)
    (h : (pendingIds m.view).length < cfg.maxq ∨ (∃ sid, ev = .sent sid m.view.calls.length) ∨
         (∃ sid, ev = .connecting sid m.view.calls.length) ∨ ev = .done m.view.calls.length .maxWaiters) :
    clSurplus cfg m (.request ok lat) o = .ok := by
  refine if_neg fun hcond => ?_
  simp only [Bool.and_eq_true, decide_eq_true_eq, Bool.not_eq_true', List.any_eq_false] at hcond
  obtain ⟨⟨h1, h2⟩, h3⟩ := hcond
  rcases h with h | ⟨sid, rfl⟩ | ⟨sid, rfl⟩ | rfl
  · omega
  · simpa using h2 _ hev
  · simpa using h2 _ hev
  · simp [doneWith, hev] at h3

theorem arriving_after_get {ok lat : Bool} (he : s.evs = []) {s1 : St}
    (g1 : Same { s with base := preOp s.base (.request ok lat) } s1) :
    s1.view.calls[s.base.calls.length]? = some .arriving ∧ s.base.calls.length + 1 = s1.view.calls.length := by
  have hv0 : ({ s with base := preOp s.base (.request ok lat) } : St).view.calls = s.base.calls ++ [.arriving] :=
    congrArg View.calls (view_of_nil (s := { s with base := preOp s.base (.request ok lat) }) he)
  have h0 : s1.view.calls[s.base.calls.length]? = some .arriving := by rw [g1.calls, hv0]; simp
  have h1 : s1.view.calls[s.base.calls.length + 1]? = none := by rw [g1.calls, hv0]; simp
  have := getElem?_lt h0
  rw [List.getElem?_eq_none_iff] at h1
  exact ⟨h0, by omega⟩

theorem stepOk_request (ok lat : Bool) (hr : Reached cfg s) (hc : Coupled s m) :
    StepOk cfg m s (.request ok lat) (stepSt cfg s (.request ok lat)) := by
  rw [stepSt_request]
  cases hg : get cfg { s with base := preOp s.base (.request ok lat) } (lat || ok) with | mk s1 res
  obtain ⟨g1, g2⟩ := get_spec (cfg := cfg) (lat || ok) rfl
    ((inv_preOp_request hr ok lat).minv false (!m.closedSeen)) s1 res hg
  obtain ⟨hcarr, hlen⟩ := arriving_after_get hr.evs g1
  have hmc : s.base.calls.length = m.view.calls.length := by rw [hc.view]
  -- every branch emits one event `ev` (not `raised`) on `s1`, whose waiters it may have extended to `w`
  have fin : ∀ (w : List Nat) (ev : Ev), MInv cfg false (!m.closedSeen) none (({ s1 with waiters := w }).emit ev) →
      isRaised ev = false →
      ((pendingIds m.view).length < cfg.maxq ∨ (∃ sid, ev = .sent sid m.view.calls.length) ∨
        (∃ sid, ev = .connecting sid m.view.calls.length) ∨ ev = .done m.view.calls.length .maxWaiters) →
      StepOk cfg m s (.request ok lat) (({ s1 with waiters := w }).emit ev) := fun w ev hm hnr hs =>
    stepOk_quiet (fun _ _ => ⟨rfl, rfl⟩)
      ⟨hm, g1.frame.base, fun h => .inl (g1.everClosed ▸ h), NR_append (g1.frame.nr (NR_of_nil hr.evs)) hnr⟩
      (clSurplus_request_of _ _ _ _ (List.mem_append_right _ (List.mem_singleton_self ev)) hs)
  cases res with
  | sink sid fresh =>
    obtain ⟨k1, k3⟩ := g2
    have hf := k1.inv.hand
    have hsub : s1.waiters.erase s.base.calls.length = s1.waiters := List.erase_of_not_mem fun hx => by
      rcases k1.inv.wStat _ hx with h | h <;> rw [hcarr] at h <;> cases h
    have hgate : false = false → (!m.closedSeen) = true → pendingIds s1.view = [] := fun _ hg =>
      pendingIds_nil_of_waiters_nil k1.inv
        (k3 (by rw [g1.everClosed]; exact hc.closed ((Bool.not_eq_true' _).mp hg)))
    show StepOk cfg m s _ (if (fresh && lat) = true then _ else _)
    split
    · exact fin s1.waiters _ ⟨k1.inv.emit_connecting hcarr hsub,
          evOk_emit k1.ev (evCheck_connecting hf.1 hf.2 hcarr hgate)⟩ rfl (.inr (.inr (.inl ⟨sid, by rw [hmc]⟩)))
    · exact fin s1.waiters _ ⟨k1.inv.emit_sent hcarr rfl hsub,
          evOk_emit k1.ev (evCheck_sent hf.1 hf.2 (.inl hcarr) nofun hgate)⟩ rfl (.inr (.inl ⟨sid, by rw [hmc]⟩))
  | queue =>
    obtain ⟨k1, k2, k3, k4⟩ := g2
    refine fin _ _ ⟨k1.inv.emit_queued hcarr hlen k2 k3 k4,
      evOk_emit (s := { s1 with waiters := s1.waiters ++ [s.base.calls.length] }) k1.ev (evCheck_queued hcarr)⟩
      rfl (.inl ?_)
    have := hr.wait.pendingIds_le
    rw [← hc.view, ← g1.waiters] at this
    exact Nat.lt_of_le_of_lt this k2
  | fail => exact fin s1.waiters _ (g2.done _ _ hcarr rfl) rfl (.inr (.inr (.inr (by rw [hmc]))))

theorem openEnd_ok {s2 : St} (ok : Bool) (h : Quiet cfg false (!m.closedSeen) s s2) :
    StepOk cfg m s (.openPool ok) (openEnd s2) := by
  unfold openEnd
  split
  · next hp =>
    refine ⟨⟨h.minv.inv.emit_raised _, evOk_emit h.minv.ev rfl⟩, h.base, rfl, rfl, clClose_of_not_dead rfl nofun,
      fun _ => Or.inr hp, ?_⟩
    have : (obsOf (s2.emit (.raised "ServiceClosedError"))).evs.filter isRaised = [.raised "ServiceClosedError"] := by
      show (s2.evs ++ [_]).filter isRaised = _
      rw [List.filter_append, filter_of_NR h.nr]; rfl
    have hp4 : (obsOf (s2.emit (.raised "ServiceClosedError"))).pstate = 4 := (code_eq_four _).2 hp
    unfold clRaise
    rw [this]
    simp [isOpenPool, hp4]
  · next hp =>
    exact stepOk_quiet (fun _ _ => ⟨rfl, rfl⟩) ⟨⟨set_opened h.minv.inv, h.minv.ev⟩, h.base,
      fun h' => (h.flag h').imp_right fun h1 => absurd h1 hp, h.nr⟩ rfl

theorem openPool_pre {hf gate : Bool} (ok : Bool) (hr : Reached cfg s) :
    ∃ x, stepSt cfg s (.openPool ok) = openEnd x ∧ Quiet cfg hf gate s x := by
  show ∃ x, openEnd (match get cfg s ok with
     | (s1, .sink sid _) => release cfg s1 sid
     | (s1, _) => s1) = openEnd x ∧ _
  cases hg : get cfg s ok with | mk s1 res
  obtain ⟨g1, g2⟩ := get_spec (cfg := cfg) ok rfl (hr.minv hf gate) s1 res hg
  have hnr1 : NR s1.evs := g1.frame.nr (NR_of_nil hr.evs)
  cases res with
  | sink sid fresh =>
    obtain ⟨c1, c2, _⟩ := release_spec (cfg := cfg) g2.1.rel_free
    exact ⟨_, rfl, c1, c2.base.trans g1.frame.base, fun h => (c2.flag h).imp_left fun h1 => g1.everClosed ▸ h1,
      c2.nr (NR_append hnr1 rfl)⟩
  | queue => exact ⟨_, rfl, g2.1, g1.frame.base, g1.frame.flag, hnr1⟩
  | fail => exact ⟨_, rfl, g2, g1.frame.base, g1.frame.flag, hnr1⟩

theorem stepOk_openPool (ok : Bool) (hr : Reached cfg s) :
    StepOk cfg m s (.openPool ok) (stepSt cfg s (.openPool ok)) := by
  obtain ⟨x, hx, a⟩ := openPool_pre (cfg := cfg) ok hr
  rw [hx]; exact openEnd_ok ok a

theorem stepOk_opened (sid : Nat) (ok : Bool) (hr : Reached cfg s) :
    StepOk cfg m s (.opened sid ok) (stepSt cfg s (.opened sid ok)) := by
  have hm0 : MInv cfg false (!m.closedSeen) none { s with base := preOp s.base (.opened sid ok) } :=
    (inv_preOp_opened hr sid ok).minv _ _
  show StepOk cfg m s (.opened sid ok) (openedSt { s with base := preOp s.base (.opened sid ok) } sid)
  cases ho : isOpening ({ s with base := preOp s.base (.opened sid ok) } : St).view sid with
  | false =>
    rw [openedSt_of_not_opening ho]
    exact stepOk_quiet (fun _ _ => ⟨rfl, rfl⟩) ⟨hm0, rfl, Or.inl, NR_of_nil hr.evs⟩ rfl
  | true =>
    obtain ⟨c, hl, heq⟩ := openedSt_of_opening ho
    rw [heq]
    exact stepOk_quiet (fun _ _ => ⟨rfl, rfl⟩) ⟨⟨hm0.inv.emit_sent_opened hl, evOk_emit hm0.ev (evCheck_sent_opened ho hl)⟩,
      rfl, Or.inl, NR_append (NR_of_nil hr.evs) rfl⟩ rfl

theorem stepSt_ok (op : Op) (hi : Inv cfg none s) (hc : Coupled s m) :
    StepOk cfg m s op (stepSt cfg s op) := by
  have hr : Reached cfg s := ⟨hi, hc.evs⟩
  cases op with
  | request ok lat => exact stepOk_request ok lat hr hc
  | opened sid ok => exact stepOk_opened sid ok hr
  | respond c => exact stepOk_respond c hr hc
  | timeout c => exact stepOk_timeout c hr hc
  | die sid => exact stepOk_die sid hr
  | run => exact stepOk_run hr hc
  | close => exact stepOk_close hr
  | openPool ok => exact stepOk_openPool ok hr

end ops

theorem isOpening_apply {v : View} {ev : Ev} {x : Nat} (h : isOpening (v.apply ev) x = true) :
    isOpening v x = true ∨ ∃ c, ev = .connecting x c := by
  rw [isOpening_eq] at h ⊢
  cases ev with
  | created sid ok => rw [openFlag_created, holderOf_created] at h; exact .inl h
  | closed sid => rw [openFlag_closed, holderOf_closed] at h; exact .inl h
  | sent sid c =>
    rw [openFlag_sent, holderOf_sent] at h
    split_ifs at h
    · cases h
    · exact .inl h
  | connecting sid c =>
    rw [openFlag_connecting, holderOf_connecting] at h
    split_ifs at h with hx
    · exact .inr ⟨c, by rw [hx.1]⟩
    · exact .inl h
  | rel sid =>
    rw [openFlag_rel, holderOf_rel] at h
    split_ifs at h
    · cases h
    · exact .inl h
  | queued c => exact .inl h
  | done c o => exact .inl h
  | raised w => exact .inl h

theorem mem_addConn {l : List Nat} {ev : Ev} {x : Nat} :
    x ∈ addConn l ev ↔ x ∈ l ∨ ∃ c, ev = .connecting x c := by
  unfold addConn
  split
  · simp [eq_comm]
  · next h => exact ⟨.inl, fun h1 => h1.elim id fun ⟨c, hc⟩ => absurd hc (h x c)⟩

/-- the specification's list of connects and the picture, folded over the same events, stay in step -/
theorem conn_foldl {x : Nat} : ∀ (evs : List Ev) (v : View) (l : List Nat), (isOpening v x = true → x ∈ l) →
    isOpening (evs.foldl View.apply v) x = true → x ∈ evs.foldl addConn l
  | [], _, _, hl => hl
  | ev :: evs, v, l, hl => conn_foldl evs (v.apply ev) (addConn l ev) fun h =>
    mem_addConn.2 ((isOpening_apply h).imp_left hl)

theorem isOpening_preOp (v : View) (op : Op) (x : Nat) : isOpening (preOp v op) x = isOpening v x := by
  rw [isOpening_eq, isOpening_eq, holderOf_preOp, openFlag_preOp]

theorem opened_clears (cfg : Cfg) (s : St) (sid : Nat) (ok : Bool) :
    isOpening (stepSt cfg s (.opened sid ok)).view sid = false := by
  show isOpening (openedSt { s with base := preOp s.base (.opened sid ok) } sid).view sid = false
  generalize ({ s with base := preOp s.base (.opened sid ok) } : St) = s'
  cases ho : isOpening s'.view sid with
  | false => rw [openedSt_of_not_opening ho]; exact ho
  | true =>
    obtain ⟨c, hl, heq⟩ := openedSt_of_opening ho
    rw [heq, view_emit, isOpening_eq, openFlag_sent, if_pos ⟨rfl, holderOf_lt hl⟩]; rfl

theorem conn_step {cfg : Cfg} {conn : List Nat} {s : St} (op : Op)
    (hconn : ∀ x, isOpening s.base x = true → x ∈ conn)
    (hbase : (stepSt cfg s op).base = preOp s.base op) :
    ∀ x, isOpening (stepSt cfg s op).view x = true → x ∈ connAfter conn op (stepSt cfg s op).evs := by
  intro x hx
  refine conn_foldl _ _ _ (fun h1 => ?_) (by unfold St.view at hx; rwa [hbase] at hx)
  rw [isOpening_preOp] at h1
  have hm := hconn x h1
  cases op with
  | opened sid ok =>
    have hne : x ≠ sid := by rintro rfl; rw [opened_clears] at hx; cases hx
    simp [rmConn, hm, hne]
  | _ => exact hm

theorem answer_rel {cfg : Cfg} {s : St} {c sid : Nat} (hr : Reached cfg s)
    (hst : s.base.calls[c]? = some (.started sid) ∨ s.base.calls[c]? = some (.zombie sid)) :
    ∃ tail, (stepSt cfg s (.respond c)).evs = .rel sid :: tail := by
  rw [← hr.view] at hst
  rcases hst with hst | hst
  · obtain ⟨_, ⟨tail, a2⟩, _⟩ := release_lent (cfg := cfg) (hf := false) (gate := false) hr hst rfl
    exact ⟨tail ++ [.done c .reply], by rw [stepSt_respond_started cfg hst, emit_evs, a2]; rfl⟩
  · obtain ⟨_, a2, _⟩ := release_lent (cfg := cfg) (hf := false) (gate := false) hr hst rfl
    rw [stepSt_respond_zombie cfg hst]; exact a2

theorem clAnswer_ok {cfg : Cfg} {s : St} (op : Op) (hr : Reached cfg s) :
    clAnswer (preOp s.base op) op (obsOf (stepSt cfg s op)) = .ok := by
  unfold clAnswer
  split
  · next c =>
    show (match s.base.calls[c]? with
      | some (.started sid) => _
      | some (.zombie sid) => _
      | _ => _) = _
    split
    · next sid h => obtain ⟨tail, h⟩ := answer_rel (cfg := cfg) hr (.inl h); simp [obsOf, h]
    · next sid h => obtain ⟨tail, h⟩ := answer_rel (cfg := cfg) hr (.inr h); simp [obsOf, h]
    · rfl
  · rfl

theorem coupled_init : Coupled St.init {} :=
  ⟨rfl, rfl, rfl, fun _ => rfl, rfl, fun x h => by simp [isOpening, St.init] at h⟩

set_option linter.unusedVariables false in
/-- one operation of the model: the invariant is kept, the specification's monitor stays in
    step with the model, and every clause of the specification accepts the observation
    (`opOk` is constantly `true`: `hop` excludes nothing) -/
theorem step_ok {cfg : Cfg} {m : Mon} {s : St} (op : Op) (hi : Inv cfg none s) (hc : Coupled s m)
    (hop : opOk op = true) :
    Inv cfg none (step cfg s op).1 ∧ Coupled (step cfg s op).1 (m.next op (step cfg s op).2) ∧
    m.check cfg op (step cfg s op).2 = .ok := by
  have h := stepSt_ok (cfg := cfg) op hi hc
  have hview : (obsOf (stepSt cfg s op)).evs.foldl View.apply (preOp m.view op) = (stepSt cfg s op).view := by
    unfold St.view; rw [hc.view, h.base]; rfl
  have hconn := conn_step (cfg := cfg) op hc.conn h.base
  refine ⟨inv_finish h.minv.inv, ⟨hview, rfl, rfl, fun hcs => ?_, rfl, hconn⟩, ?_⟩
  · have hcs' : (m.closedSeen || (obsOf (stepSt cfg s op)).pstate == 4) = false := hcs
    rw [Bool.or_eq_false_iff, beq_eq_false_iff_ne] at hcs'
    cases hne : (stepSt cfg s op).everClosed with
    | false => exact hne
    | true =>
      rcases h.flag hne with h1 | h1
      · rw [hc.closed hcs'.1] at h1; cases h1
      · exact absurd ((code_eq_four _).2 h1) hcs'.2
  · show Mon.check cfg m op (obsOf (stepSt cfg s op)) = .ok
    unfold Mon.check
    rw [Verdict.and_eq_ok]
    refine ⟨by have := h.minv.ev; rwa [EvOk, h.base, ← hc.view] at this, ?_⟩
    rw [hview, hc.view]
    exact Verdict.all_eq_ok.2 (by
      simp only [List.mem_cons, List.mem_nil_iff, or_false]
      rintro v (rfl | rfl | rfl | rfl | rfl | rfl | rfl | rfl | rfl | rfl)
      exacts [h.surplus, clQueueBound_ok h.minv.inv, h.handoff, h.close, clSize_ok h.minv.inv,
        clLeak_ok h.minv.inv hconn, clAnswer_ok op ⟨hi, hc.evs⟩, clWork_ok h.minv.inv, clIdle_ok h.minv.inv, h.raise])

def runOps (cfg : Cfg) (s : St) (ops : List Op) : St := ops.foldl (fun s op => (step cfg s op).1) s

theorem spec_trace {cfg : Cfg} : ∀ (ops : List Op) (s : St) (m : Mon), Inv cfg none s → Coupled s m →
    ops.all opOk = true → specGo cfg m (comp.trace cfg s ops) = .ok ∧
      Inv cfg none (runOps cfg s ops) ∧ Coupled (runOps cfg s ops) (monRun m (comp.trace cfg s ops)) := by
  intro ops
  induction ops with
  | nil => exact fun s m hi hc _ => ⟨rfl, hi, hc⟩
  | cons op ops ih =>
    intro s m hi hc hall
    rw [List.all_cons, Bool.and_eq_true] at hall
    obtain ⟨a1, a2, a3⟩ := step_ok (cfg := cfg) op hi hc hall.1
    obtain ⟨b1, b2, b3⟩ := ih _ _ a1 a2 hall.2
    exact ⟨Verdict.and_eq_ok.2 ⟨a3, b1⟩, b2, b3⟩

theorem trace_init (cfg : Cfg) (ops : List Op) :
    comp.spec cfg (comp.modelTrace cfg ops) = .ok ∧ Inv cfg none (runOps cfg St.init ops) ∧
      Coupled (runOps cfg St.init ops) (monRun {} (comp.modelTrace cfg ops)) :=
  spec_trace (cfg := cfg) ops St.init {} (inv_init cfg) coupled_init (List.all_eq_true.2 fun _ _ => rfl)

theorem reached_runOps (cfg : Cfg) (ops : List Op) : Reached cfg (runOps cfg St.init ops) :=
  ⟨(trace_init cfg ops).2.1, (trace_init cfg ops).2.2.evs⟩

end Scales.Watermark
