import ScalesModel.Proofs.HeapOrder

/-! `fixUp` / `fixDown` on the model state: they only permute the heap (`Frame`), keep `WF`, restore
    the order under the usual preconditions, and leave the slots beyond their range alone. -/
namespace Scales.Heap

/-- `s'` differs from `s` only by a rearrangement of the heap.  The weaker relations each free what one kind of
    change touches: `FrameW` (HeapInv; a channel event: `chan`), `GFrame` (HeapGet; `__Get`: loads of heap nodes and
    the down list), `MFrame` (HeapChans; a hook may add nodes), `HFrame` (HeapMember; membership under `WF` alone). -/
structure Frame (s s' : HS) : Prop where
  size : s'.size = s.size
  len : s'.nodes.length = s.nodes.length
  fields : ∀ id, (s'.node id).load = (s.node id).load ∧ (s'.node id).ep = (s.node id).ep ∧
    (s'.node id).chan = (s.node id).chan ∧ (s'.node id).closed = (s.node id).closed
  inHeap : ∀ id, InHeap s' id ↔ InHeap s id
  down : s'.down = s.down
  reqs : s'.reqs = s.reqs
  servers : s'.servers = s.servers
  offIndex : ∀ id, ¬ InHeap s id → (s'.node id).index = (s.node id).index

theorem Frame.refl (s : HS) : Frame s s :=
  ⟨rfl, rfl, fun _ => ⟨rfl, rfl, rfl, rfl⟩, fun _ => Iff.rfl, rfl, rfl, rfl, fun _ _ => rfl⟩

theorem Frame.trans {a b c : HS} (h1 : Frame a b) (h2 : Frame b c) : Frame a c := by
  refine ⟨h2.size.trans h1.size, h2.len.trans h1.len, ?_, fun id => (h2.inHeap id).trans (h1.inHeap id),
    h2.down.trans h1.down, h2.reqs.trans h1.reqs, h2.servers.trans h1.servers, ?_⟩
  · intro id
    obtain ⟨a1, a2, a3, a4⟩ := h1.fields id
    obtain ⟨b1, b2, b3, b4⟩ := h2.fields id
    exact ⟨b1.trans a1, b2.trans a2, b3.trans a3, b4.trans a4⟩
  · intro id hn
    rw [h2.offIndex id (fun h => hn ((h1.inHeap id).mp h)), h1.offIndex id hn]

theorem Frame.L_eq {s s' : HS} (f : Frame s s') (p : Nat) (h : s'.idAt p = s.idAt p) : L s' p = L s p := by
  unfold L HS.at
  rw [h]; exact (f.fields _).1

theorem swap_Frame (s : HS) (hw : WF s) (i j : Nat) (hi1 : 1 ≤ i) (hi2 : i ≤ s.size)
    (hj1 : 1 ≤ j) (hj2 : j ≤ s.size) : Frame s (s.swap i j) :=
  ⟨swap_size s i j, swap_len s i j, swap_node_fields s i j, swap_inHeap s i j hi1 hi2 hj1 hj2, rfl, rfl, rfl,
    fun id hn => swap_index_off s hw i j id hi1 hi2 hj1 hj2 hn⟩

theorem swap_L_fsw (s : HS) (i j : Nat) (hi1 : 1 ≤ i) (hi2 : i ≤ s.size)
    (hj1 : 1 ≤ j) (hj2 : j ≤ s.size) : L (s.swap i j) = fsw (L s) i j := by
  funext k
  unfold L HS.at fsw
  rw [(swap_node_fields s i j _).1, swap_idAt s i j k hi1 hi2 hj1 hj2]
  split
  · rfl
  · split <;> rfl

theorem setLoad_L (s : HS) (hw : WF s) (id : Nat) (v : Int) (h : InHeap s id) :
    L (s.setLoad id v) = Function.update (L s) (pos s id) v := by
  obtain ⟨_, _, p3, _, hl⟩ := pos_spec s hw id h
  funext k
  unfold L HS.at
  rw [setLoad_load s id _ v hl, setLoad_idAt]
  by_cases hk : k = pos s id
  · rw [hk, p3, if_pos rfl, Function.update_self]
  · rw [if_neg (idAt_ne_of_pos s hw id h k hk), Function.update_of_ne hk _ _]

/-- under `WF` the (load, index) comparison of two heap slots is a comparison of loads with
    the position as tie-break -/
theorem lt_iff (s : HS) (hw : WF s) (p q : Nat) (hp1 : 1 ≤ p) (hp2 : p ≤ s.size)
    (hq1 : 1 ≤ q) (hq2 : q ≤ s.size) :
    (s.at p).lt (s.at q) = true ↔ (L s p < L s q ∨ (L s p = L s q ∧ p < q)) := by
  unfold Node.lt L
  rw [hw.idx p hp1 hp2, hw.idx q hq1 hq2]
  rcases Int.lt_trichotomy (s.at p).load (s.at q).load with h | h | h
  · rw [if_neg (Int.lt_asymm h), if_pos h]
    exact ⟨fun _ => Or.inl h, fun _ => rfl⟩
  · rw [if_neg (h ▸ Int.lt_irrefl _), if_neg (h ▸ Int.lt_irrefl _), decide_eq_true_eq, Int.ofNat_lt]
    exact ⟨fun x => Or.inr ⟨h, x⟩, fun x => x.elim (fun y => absurd y (h ▸ Int.lt_irrefl _)) And.right⟩
  · rw [if_pos h]
    exact ⟨fun x => Bool.noConfusion x,
      fun x => x.elim (fun y => absurd y (Int.lt_asymm h)) fun y => absurd y.1 (Int.ne_of_gt h)⟩

theorem lt_iff_of_gt (s : HS) (hw : WF s) {p q : Nat} (hq1 : 1 ≤ q) (hqp : q < p) (hp2 : p ≤ s.size) :
    (s.at p).lt (s.at q) = true ↔ L s p < L s q := by
  rw [lt_iff s hw p q (Nat.le_trans hq1 (Nat.le_of_lt hqp)) hp2 hq1 (Nat.le_trans (Nat.le_of_lt hqp) hp2)]
  exact ⟨fun h => h.elim id fun x => absurd x.2 (Nat.lt_asymm hqp), Or.inl⟩

theorem lt_iff_of_lt (s : HS) (hw : WF s) {p q : Nat} (hp1 : 1 ≤ p) (hpq : p < q) (hq2 : q ≤ s.size) :
    (s.at p).lt (s.at q) = true ↔ L s p ≤ L s q := by
  rw [lt_iff s hw p q hp1 (Nat.le_trans (Nat.le_of_lt hpq) hq2) (Nat.le_trans hp1 (Nat.le_of_lt hpq)) hq2]
  constructor
  · rintro (h | h)
    · exact Int.le_of_lt h
    · exact Int.le_of_eq h.1
  · intro h
    rcases Int.lt_or_eq_of_le h with h | h
    · exact Or.inl h
    · exact Or.inr ⟨h, hpq⟩

theorem fixUp_spec (s : HS) (i : Nat) (hw : WF s) (hi : i ≤ s.size) :
    WF (s.fixUp i) ∧ Frame s (s.fixUp i) ∧ (∀ p, i < p → (s.fixUp i).idAt p = s.idAt p) ∧
    (∀ n, n ≤ s.size → i ≤ n → OrdExUp (L s) n i → GP (L s) n i → Ord (L (s.fixUp i)) n) := by
  fun_induction HS.fixUp s i with
  | case1 s i hc ih =>
    obtain ⟨hi1, hlt⟩ := hc
    have h1 : 1 ≤ i := Nat.le_of_lt hi1
    have hp1 : 1 ≤ i / 2 := half_pos hi1
    have hpi : i / 2 < i := half_lt hi1
    have hp2 : i / 2 ≤ s.size := Nat.le_trans (Nat.le_of_lt hpi) hi
    obtain ⟨w, f, a, o⟩ := ih (swap_WF s hw i (i / 2) h1 hi hp1 hp2) (by rw [swap_size]; exact hp2)
    refine ⟨w, (swap_Frame s hw i (i / 2) h1 hi hp1 hp2).trans f, fun p hp => ?_, ?_⟩
    · rw [a p (Nat.lt_trans hpi hp), swap_idAt s i (i / 2) p h1 hi hp1 hp2,
        if_neg (Nat.ne_of_gt (Nat.lt_trans hpi hp)), if_neg (Nat.ne_of_gt hp)]
    intro n hn hin hO hG
    have := up_step (L s) n i hi1 ((lt_iff_of_gt s hw hp1 hpi hi).1 hlt) hin hO hG
    rw [← swap_L_fsw s i (i / 2) h1 hi hp1 hp2] at this
    exact o n (by rw [swap_size]; exact hn) (Nat.le_trans (Nat.le_of_lt hpi) hin) this.1 this.2
  | case2 s i hc =>
    refine ⟨hw, Frame.refl s, fun _ _ => rfl, fun n _ _ hO _ => up_done (L s) n i ?_ hO⟩
    rintro ⟨h1, h2⟩
    exact hc ⟨h1, (lt_iff_of_gt s hw (half_pos h1) (half_lt h1) hi).2 h2⟩

theorem fixUp_noop (s : HS) (i : Nat) (hw : WF s) (hi : i ≤ s.size)
    (h : i ≤ 1 ∨ L s (i / 2) ≤ L s i) : s.fixUp i = s := by
  unfold HS.fixUp
  rw [if_neg]
  rintro ⟨h1, h2⟩
  rcases h with h | h
  · exact absurd h1 (Nat.not_lt.2 h)
  · exact absurd ((lt_iff_of_gt s hw (half_pos h1) (half_lt h1) hi).1 h2) (Int.not_lt.2 h)

theorem fixUp_reqs (s : HS) (i : Nat) : (s.fixUp i).reqs = s.reqs := by
  fun_induction HS.fixUp s i with
  | case1 s i hc ih => rw [ih]; rfl
  | case2 s i hc => rfl

/-- the child `FixDown` compares with is the one `pick` names on the loads -/
theorem pick_eq (s : HS) (hw : WF s) (i j : Nat) (hi : 1 ≤ i) (h2 : 2 * i ≤ j) (hj : j ≤ s.size) :
    (if j = 2 * i ∨ (s.at (2 * i)).lt (s.at (2 * i + 1)) = true then 2 * i else 2 * i + 1) = pick (L s) i j := by
  unfold pick
  by_cases hj2 : j = 2 * i
  · rw [if_pos (Or.inl hj2), if_pos (Or.inl hj2)]
  · simp only [lt_iff_of_lt s hw (p := 2 * i) (q := 2 * i + 1) (Nat.le_trans hi (Nat.le_mul_of_pos_left i (by decide)))
      (Nat.lt_succ_self _) (Nat.le_trans (Nat.lt_of_le_of_ne h2 (Ne.symm hj2)) hj)]

theorem fixDown_spec (s : HS) (i j : Nat) (hw : WF s) (hj : j ≤ s.size) :
    WF (s.fixDown i j) ∧ Frame s (s.fixDown i j) ∧ (∀ p, j < p → (s.fixDown i j).idAt p = s.idAt p) ∧
    (1 ≤ i → OrdExDown (L s) j i → GP (L s) j i → Ord (L (s.fixDown i j)) j) := by
  fun_induction HS.fixDown s i j with
  | case1 s i hc m hlt ih =>
    obtain ⟨hi1, h2⟩ := hc
    have hm : m = pick (L s) i j := pick_eq s hw i j hi1 h2 hj
    obtain ⟨hm2, hmj, _⟩ := pick_spec (L s) (i := i) h2
    rw [hm] at ih hlt ⊢
    obtain ⟨hm1, him⟩ := child_facts hm2 hi1
    have hm1' : 1 ≤ pick (L s) i j := Nat.le_of_succ_le hm1
    have hms : pick (L s) i j ≤ s.size := Nat.le_trans hmj hj
    have his : i ≤ s.size := Nat.le_trans (Nat.le_of_lt him) hms
    obtain ⟨w, f, a, o⟩ := ih (swap_WF s hw i _ hi1 his hm1' hms) (by rw [swap_size]; exact hj)
    refine ⟨w, (swap_Frame s hw i _ hi1 his hm1' hms).trans f, fun p hp => ?_, ?_⟩
    · rw [a p hp, swap_idAt s i _ p hi1 his hm1' hms, if_neg (Nat.ne_of_gt (Nat.lt_of_le_of_lt hmj hp)),
        if_neg (Nat.ne_of_gt (Nat.lt_trans him (Nat.lt_of_le_of_lt hmj hp)))]
    intro _ hO hG
    have := down_step (L s) j i hi1 h2 ((lt_iff_of_gt s hw hi1 him hms).1 hlt) hO hG
    rw [← swap_L_fsw s i _ hi1 his hm1' hms] at this
    exact o hm1' this.1 this.2
  | case2 s i hc m hlt =>
    obtain ⟨hi1, h2⟩ := hc
    have hm : m = pick (L s) i j := pick_eq s hw i j hi1 h2 hj
    obtain ⟨hm2, hmj, _⟩ := pick_spec (L s) (i := i) h2
    refine ⟨hw, Frame.refl s, fun _ _ => rfl, fun _ hO _ => down_done (L s) j i (Or.inr fun hc => hlt ?_) hO⟩
    rw [hm]
    exact (lt_iff_of_gt s hw hi1 (child_facts hm2 hi1).2 (Nat.le_trans hmj hj)).2 hc
  | case3 s i hc =>
    exact ⟨hw, Frame.refl s, fun _ _ => rfl, fun hi1 hO _ => down_done (L s) j i (Or.inl fun h => hc ⟨hi1, h⟩) hO⟩

theorem fixDown_noop (s : HS) (i j : Nat) (hw : WF s) (hj : j ≤ s.size) (hi : 1 ≤ i)
    (h : ∀ c, c ≤ j → c / 2 = i → 2 ≤ c → L s i ≤ L s c) : s.fixDown i j = s := by
  unfold HS.fixDown
  by_cases hc : 1 ≤ i ∧ 2 * i ≤ j
  · rw [dif_pos hc]
    simp only
    rw [pick_eq s hw i j hc.1 hc.2 hj, if_neg]
    obtain ⟨hm2, hmj, _⟩ := pick_spec (L s) (i := i) hc.2
    obtain ⟨hm1, him⟩ := child_facts hm2 hi
    intro hlt
    exact absurd ((lt_iff_of_gt s hw hi him (Nat.le_trans hmj hj)).1 hlt) (Int.not_lt.2 (h _ hmj hm2 hm1))
  · rw [dif_neg hc]

theorem fixDown_big (s : HS) (i j : Nat) (h : j < 2 * i) : s.fixDown i j = s := by
  unfold HS.fixDown
  rw [dif_neg fun hc => absurd hc.2 (Nat.not_le.2 h)]

theorem fixDown_reqs (s : HS) (i j : Nat) : (s.fixDown i j).reqs = s.reqs := by
  fun_induction HS.fixDown s i j with
  | case1 s i hc m hlt ih => rw [ih]; rfl
  | case2 s i hc m hlt => rfl
  | case3 s i hc => rfl

/-- delete-style repair of slot `i`: sift down, then up -/
theorem hole_repair (s : HS) (i n : Nat) (hw : WF s) (hn : n ≤ s.size) (hi1 : 1 ≤ i) (hin : i ≤ n) :
    WF ((s.fixDown i n).fixUp i) ∧ Frame s ((s.fixDown i n).fixUp i) ∧
    (∀ p, n < p → ((s.fixDown i n).fixUp i).idAt p = s.idAt p) ∧
    (OrdHole (L s) n i → GP (L s) n i → Ord (L ((s.fixDown i n).fixUp i)) n) := by
  have his : i ≤ s.size := Nat.le_trans hin hn
  obtain ⟨wd, fd, ad, od⟩ := fixDown_spec s i n hw hn
  obtain ⟨wu, fu, au, _⟩ := fixUp_spec (s.fixDown i n) i wd (fd.size ▸ his)
  refine ⟨wu, fd.trans fu, fun p hp => (au p (Nat.lt_of_le_of_lt hin hp)).trans (ad p hp), fun hH hG => ?_⟩
  by_cases hcase : 2 ≤ i ∧ L s i < L s (i / 2)
  · -- smaller than the parent, hence than the children: only sift up
    obtain ⟨hi2, hlt⟩ := hcase
    rw [fixDown_noop s i n hw hn hi1 fun c hc hci _ => Int.le_trans (Int.le_of_lt hlt) (hG c hc hci hi2)]
    refine (fixUp_spec s i hw his).2.2.2 n hn hin ?_ hG
    intro k hk2 hkn hki
    by_cases hk : k / 2 = i
    · rw [hk]; exact Int.le_trans (Int.le_of_lt hlt) (hG k hkn hk hi2)
    · exact hH k hk2 hkn hki hk
  · -- not smaller than the parent: sift down, after which sifting up is a no-op
    have hO : OrdExDown (L s) n i := by
      intro k hk2 hkn hk
      by_cases hki : k = i
      · subst hki
        exact Int.not_lt.1 fun h => hcase ⟨hk2, h⟩
      · exact hH k hk2 hkn hki hk
    have hord := od hi1 hO hG
    rw [fixUp_noop _ i wd (fd.size ▸ his)
      ((Nat.lt_or_ge 1 i).elim (fun h => Or.inr (hord i h hin)) Or.inl)]
    exact hord

end Scales.Heap
