/-
  Proofs/ServerSetSettle.lean — C19: every history can be brought to a quiet state by scheduler
  steps alone (deliver the oldest fired event; serve / return the read in flight of the worker or
  of a listing).  In a state that is not quiet some such step is enabled (with a suitable label)
  and decreases the measure `mu` (`progress`), so a schedule that reaches a quiet state exists
  (`settles_from`) — in particular the worker is never left behind the blocker.  That *every*
  enabled scheduler step decreases `mu` is not shown.
-/
import ScalesModel.Proofs.ServerSetSteps
namespace Scales.ServerSet

/-- a scheduler step (no change of the tree, no new ServerSet, no new listing) -/
def Op.isSched : Op → Bool
  | .deliver _ => true
  | .serve => true
  | .ret _ => true
  | .lserve _ => true
  | .lret _ _ => true
  | _ => false

def rdCost : Rd → Nat
  | .requested _ => 2
  | .served _ _ => 1

def jobCost : Option Job → Nat
  | none => 0
  | some j => 2 * j.todo.length + rdCost j.cur

def qCost : List (List Nat) → Nat
  | [] => 0
  | l :: q => 2 * l.length + 1 + qCost q

def lCost : List Lst → Nat
  | [] => 0
  | l :: ls => 2 * l.todo.length + rdCost l.cur + lCost ls

/-- What the schedule built by `settles_from` counts down: a read costs 2 (served, returned), a queued
    child list its reads and 1 for taking it, and a fired event more than the longest list its callback can queue
    (`2 * kids + 1`, `CbOut.cost`) — a weight that stays put along a schedule, since scheduler steps leave
    the tree alone (`WakeOut.tree`, `CbOut.tree`). -/
def mu (s : St) : Nat :=
  (2 * s.tree.kids.length + 2) * s.pending.length + qCost s.queue + jobCost s.job + lCost s.lists

theorem qCost_append (a b : List (List Nat)) : qCost (a ++ b) = qCost a + qCost b := by
  induction a with
  | nil => exact (Nat.zero_add _).symm
  | cons x xs ih => rw [List.cons_append, qCost, qCost, ih, Nat.add_assoc (2 * x.length + 1)]

theorem length_erase_lt {l : List Nat} {m : Nat} (h : m ∈ l) : (l.erase m).length + 1 = l.length := by
  rw [List.length_erase_of_mem h]
  exact Nat.succ_pred_eq_of_pos (List.length_pos_of_mem h)

theorem pump_enabled (queue : List (List Nat)) : ∀ (members : List Nat),
    ∃ nxt w, pump members queue nxt = some w := by
  induction queue with
  | nil => exact fun members => ⟨none, _, rfl⟩
  | cons q qs ih =>
    intro members
    cases ht : q.filter (fun n => !members.contains n) with
    | nil =>
      obtain ⟨nxt, w, hw⟩ := ih (finishJob members q []).1
      refine ⟨nxt, { w with notes := (finishJob members q []).2 ++ w.notes }, ?_⟩
      simp only [pump, ht, List.isEmpty_nil, if_true, hw, Option.map_some]
    | cons n rest =>
      refine ⟨some n, ⟨members, qs, some ⟨q, (n :: rest).erase n, .requested n, []⟩, []⟩, ?_⟩
      have hc : (n :: rest).contains n = true := List.contains_iff_mem.mpr List.mem_cons_self
      simp only [pump, ht, List.isEmpty_cons, Bool.false_eq_true, if_false, hc, if_true]

structure WakeOut (s1 s2 : St) : Prop where
  pending : s2.pending = s1.pending
  tree : s2.tree = s1.tree
  lists : s2.lists = s1.lists
  started : s2.started = s1.started
  cost : qCost s2.queue + jobCost s2.job ≤ qCost s1.queue + jobCost s1.job

theorem Woke.out {s1 s2 : St} {ns : List Note} (h : Woke s1 s2 ns) : WakeOut s1 s2 := by
  induction h with
  | stay => exact ⟨rfl, rfl, rfl, rfl, Nat.le_refl _⟩
  | @skip s s' q qs ns _ _ ih =>
    exact ⟨ih.pending, ih.tree, ih.lists, ih.started,
      Nat.le_trans ih.cost (Nat.add_le_add_right (Nat.le_add_left _ _) _)⟩
  | @read s q qs n hn =>
    have h : ((q.filter (fun n => !s.members.contains n)).erase n).length + 1 ≤ q.length :=
      length_erase_lt hn ▸ List.length_filter_le _ _
    refine ⟨rfl, rfl, rfl, rfl, ?_⟩
    rw [Nat.add_comm]
    exact Nat.add_le_add_right (Nat.le_succ_of_le (Nat.mul_le_mul_left 2 h)) _

theorem wake_enabled (s1 : St) : ∃ nxt s2 ns, wake s1 nxt = some (s2, ns) := by
  unfold wake
  cases hjob : s1.job with
  | some j => exact ⟨none, s1, [], rfl⟩
  | none =>
    cases hf : s1.lists.isEmpty with
    | true =>
      obtain ⟨nxt, w, hw⟩ := pump_enabled s1.queue s1.members
      exact ⟨nxt, _, _, by rw [pumpB, if_pos rfl, hw]; rfl⟩
    | false => exact ⟨none, _, _, rfl⟩

structure CbOut (s0 s1 : St) : Prop where
  pending : s1.pending = s0.pending
  tree : s1.tree = s0.tree
  lists : s1.lists = s0.lists
  started : s1.started = s0.started
  job : s1.job = s0.job
  cost : qCost s1.queue ≤ qCost s0.queue + 2 * s0.tree.kids.length + 1

theorem CbFrame.out {cfg : Cfg} {s0 s1 : St} (fr : CbFrame cfg s0 s1) : CbOut s0 s1 := by
  refine ⟨fr.pending, fr.tree, fr.lists, fr.started, fr.job, ?_⟩
  rcases fr.queue with ⟨hq, _⟩ | ⟨hq, hn⟩
  · rw [hq, Nat.add_assoc]; exact Nat.le_add_right _ _
  · have : s1.nodes.length ≤ s0.tree.kids.length := by
      rcases hn with hn | hn <;> rw [hn]
      exacts [Nat.zero_le _, List.length_filter_le _ _]
    rw [hq, qCost_append]
    show qCost s0.queue + (2 * s1.nodes.length + 1 + 0) ≤ _
    omega

theorem lCost_upd_lt {i : Nat} {f : Lst → Lst} {l : Lst} {ls : List Lst}
    (hf : ls.find? (fun x => x.id = i) = some l)
    (hlt : 2 * (f l).todo.length + rdCost (f l).cur < 2 * l.todo.length + rdCost l.cur) :
    lCost (Lst.upd i f ls) < lCost ls := by
  fun_induction Lst.upd i f ls with
  | case1 => cases hf
  | case2 x xs hx =>
    rw [List.find?_cons, decide_eq_true hx] at hf
    cases Option.some.inj hf
    exact Nat.add_lt_add_right hlt _
  | case3 x xs hx ih =>
    rw [List.find?_cons, decide_eq_false hx] at hf
    exact Nat.add_lt_add_left (ih hf) _

theorem lCost_drop_lt {i : Nat} {l : Lst} {ls : List Lst}
    (hf : ls.find? (fun x => x.id = i) = some l) : lCost (Lst.drop i ls) < lCost ls := by
  fun_induction Lst.drop i ls with
  | case1 => cases hf
  | case2 x xs hx =>
    have : 0 < rdCost x.cur := by cases x.cur <;> exact Nat.succ_pos _
    exact Nat.lt_add_of_pos_left (Nat.add_pos_right _ this)
  | case3 x xs hx ih =>
    rw [List.find?_cons, decide_eq_false hx] at hf
    exact Nat.add_lt_add_left (ih hf) _

theorem mu_eq (s : St) : mu s =
    (2 * s.tree.kids.length + 2) * s.pending.length + (qCost s.queue + jobCost s.job + lCost s.lists) := by
  simp only [mu, Nat.add_assoc]

theorem mu_job_lt {s : St} {m : List Nat} {j' : Option Job} (h : jobCost j' < jobCost s.job) :
    mu { s with members := m, job := j' } < mu s :=
  Nat.add_lt_add_right (Nat.add_lt_add_left h _) _

theorem mu_lists_lt {s : St} {ls : List Lst} {d : List (Nat × List Nat)} (h : lCost ls < lCost s.lists) :
    mu { s with lists := ls, done := d } < mu s :=
  Nat.add_lt_add_left h _

theorem WakeOut.mu_le {s1 s2 : St} (w : WakeOut s1 s2) : mu s2 ≤ mu s1 := by
  rw [mu_eq, mu_eq, w.pending, w.tree, w.lists]
  exact Nat.add_le_add_left (Nat.add_le_add_right w.cost _) _

/-- an event is delivered: the callback may queue the children once more, the event is gone -/
theorem mu_deliver {s s1 : St} {e : Ev} {rest : List Ev} (hp : s.pending = e :: rest)
    (c : CbOut { s with pending := rest } s1) : mu s1 < mu s := by
  have hc : qCost s1.queue ≤ qCost s.queue + 2 * s.tree.kids.length + 1 := c.cost
  rw [mu_eq, mu_eq, c.pending, c.tree, c.lists, c.job, hp]
  show (2 * s.tree.kids.length + 2) * rest.length + (qCost s1.queue + jobCost s.job + lCost s.lists) <
    (2 * s.tree.kids.length + 2) * (rest.length + 1) + (qCost s.queue + jobCost s.job + lCost s.lists)
  rw [Nat.mul_succ]
  omega

def Good (cfg : Cfg) (s : St) (op : Op) : Prop :=
  match next cfg s op with
  | some (s', _) => s'.started = true ∧ mu s' < mu s
  | none => False

theorem Good_iff {cfg : Cfg} {s : St} {op : Op} :
    Good cfg s op ↔ ∃ s' ns, next cfg s op = some (s', ns) ∧ s'.started = true ∧ mu s' < mu s := by
  unfold Good
  cases next cfg s op with
  | none => exact ⟨False.elim, fun ⟨_, _, hn, _⟩ => nomatch hn⟩
  | some p => exact ⟨fun h => ⟨p.1, p.2, rfl, h⟩, fun ⟨_, _, hp, h⟩ => Option.some.inj hp ▸ h⟩

/-- the transition is followed by the worker's wake-up, for which some label fits -/
theorem Good.woken {cfg : Cfg} {s s1 : St} {op : Option Nat → Op} (hop : ∀ nxt, (op nxt).isSched = true)
    (h : ∀ nxt p, wake s1 nxt = some p → ∃ ns, next cfg s (op nxt) = some (p.1, ns))
    (hst : s1.started = true) (hmu : mu s1 < mu s) : ∃ op, op.isSched = true ∧ Good cfg s op := by
  obtain ⟨nxt, s2, ns, hw⟩ := wake_enabled s1
  have w := (wake_woke hw).out
  obtain ⟨ns', hn⟩ := h nxt _ hw
  exact ⟨_, hop nxt, Good_iff.mpr ⟨s2, ns', hn, w.started.trans hst, Nat.lt_of_le_of_lt w.mu_le hmu⟩⟩

theorem progress (cfg : Cfg) (s : St) (hst : s.started = true) (hq : s.quiet = false) :
    ∃ op, op.isSched = true ∧ Good cfg s op := by
  cases hpend : s.pending with
  | cons e rest =>
    -- a fired event is waiting: its callback runs, then the worker wakes
    have : ∃ s1, CbFrame cfg { s with pending := rest } s1 ∧
        ∀ nxt, next cfg s (.deliver nxt) = wake s1 nxt := by
      cases e with
      | data => exact ⟨_, dataDeliver_frame cfg _, fun nxt => (if_pos hst).trans (by rw [hpend])⟩
      | child tag => exact ⟨_, childDeliver_frame cfg _ tag, fun nxt => (if_pos hst).trans (by rw [hpend])⟩
    obtain ⟨s1, fr, hnext⟩ := this
    exact Good.woken (op := .deliver) (fun _ => rfl) (fun nxt p hw => ⟨p.2, (hnext nxt).trans hw⟩)
      (fr.started.trans hst) (mu_deliver hpend fr.out)
  | nil =>
    cases hjob : s.job with
    | some j =>
      -- the worker's read moves on
      cases hcur : j.cur with
      | requested n =>
        refine ⟨.serve, rfl, Good_iff.mpr ⟨_, [], congrArg (Option.map (·, [])) (serveStep_requested hjob hcur),
          hst, mu_job_lt ?_⟩⟩
        rw [hjob, jobCost, jobCost, hcur]; exact Nat.lt_succ_self _
      | served n found =>
        cases htodo : j.todo with
        | nil =>
          exact Good.woken (op := .ret) (fun _ => rfl)
            (fun nxt p hw => ⟨_, (retStep_finish hjob hcur htodo).trans (congrArg _ hw)⟩) hst
            (mu_job_lt (by rw [hjob, jobCost, jobCost, hcur]; exact Nat.succ_pos _))
        | cons m rest =>
          have hm : m ∈ j.todo := htodo ▸ List.mem_cons_self
          refine ⟨.ret (some m), rfl, Good_iff.mpr ⟨_, [], retStep_more hjob hcur hm, hst, mu_job_lt ?_⟩⟩
          rw [hjob, jobCost, jobCost, hcur, ← length_erase_lt hm]
          exact Nat.lt_succ_self _
    | none =>
      cases hlists : s.lists with
      | nil =>
        rw [St.quiet, hst, hpend, hjob, hlists] at hq
        cases hq
      | cons l ls =>
        -- the read of the first listing moves on
        have hfind : s.lists.find? (fun x => x.id = l.id) = some l := by
          rw [hlists, List.find?_cons, decide_eq_true rfl]
        cases hcur : l.cur with
        | requested n =>
          refine ⟨.lserve l.id, rfl, Good_iff.mpr ⟨_, [],
            (if_pos hst).trans (congrArg (Option.map (·, [])) (lserveStep_requested hfind hcur)), hst,
            mu_lists_lt (lCost_upd_lt hfind ?_)⟩⟩
          rw [hcur]; exact Nat.lt_succ_self _
        | served n found =>
          cases htodo : l.todo with
          | nil =>
            exact Good.woken (op := .lret l.id) (fun _ => rfl)
              (fun nxt p hw => ⟨p.2, ((if_pos hst).trans (lretStep_last hfind hcur htodo)).trans hw⟩)
              hst (mu_lists_lt (lCost_drop_lt hfind))
          | cons m rest =>
            have hm : m ∈ l.todo := htodo ▸ List.mem_cons_self
            refine ⟨.lret l.id (some m), rfl, Good_iff.mpr ⟨_, [],
              (if_pos hst).trans (lretStep_more hfind hcur hm), hst, mu_lists_lt (lCost_upd_lt hfind ?_)⟩⟩
            rw [hcur, ← length_erase_lt hm]
            exact Nat.lt_succ_self _

theorem settles_from (cfg : Cfg) : ∀ (k : Nat) (s : St), mu s < k → s.started = true →
    ∃ sched : List Op, (∀ op ∈ sched, op.isSched = true) ∧ wfGo cfg s sched = true ∧
      (exec cfg s sched).1.quiet = true := by
  intro k
  induction k with
  | zero => exact fun s h => absurd h (Nat.not_lt_zero _)
  | succ k ih =>
    intro s hk hst
    cases hq : s.quiet with
    | true => exact ⟨[], nofun, rfl, hq⟩
    | false =>
      obtain ⟨op, hop, hg⟩ := progress cfg s hst hq
      obtain ⟨s', ns, hn, hst', hmu⟩ := Good_iff.mp hg
      obtain ⟨sched, h1, h2, h3⟩ := ih s' (Nat.lt_of_lt_of_le hmu (Nat.le_of_lt_succ hk)) hst'
      refine ⟨op :: sched, List.forall_mem_cons.mpr ⟨hop, h1⟩, ?_, ?_⟩
      · rw [wfGo, hn]; exact h2
      · rw [exec, hn]; exact h3

theorem foldl_specTree_sched (sched : List Op) (h : ∀ op ∈ sched, op.isSched = true) :
    ∀ (t : Tree), sched.foldl specTree t = t := by
  induction sched with
  | nil => intro t; rfl
  | cons op ops ih =>
    intro t
    have hop := h op List.mem_cons_self
    have : specTree t op = t := by
      cases op with
      | tree o => cases hop
      | _ => rfl
    rw [List.foldl_cons, this]
    exact ih (fun o ho => h o (List.mem_cons_of_mem _ ho)) t

end Scales.ServerSet
