/-
  Proofs/E2EMonitorLemmas.lean — what the state of the end-to-end monitors (Adapter/E2E.lean) means.

  The monitors fold an event log into a state `St` and judge every event in the state reached before it.  The verdict
  `monGo` is the first check `checkAt … l i` that is not `ok`, so reading the checks as the clauses of a property reads the
  verdict (`Reads`, `monGo_reading`).  The state is tied to the log by two relations that one event keeps: `Rep p s` (the
  call records and closed connections of `s` are what predicates over the event list alone say of the history `p`) and
  `View9 log j s` (the part only the C09 checks read, by positions, as the C09 clauses speak).
-/
import ScalesModel.Adapter.E2E
import ScalesModel.Proofs.VerdictLemmas
import Mathlib.Data.List.Basic
import Mathlib.Data.List.Induction
namespace Scales.E2E
open Scales.Verdict (and_eq_ok and_eq_fail)

def Ev.isIssue : Ev → Bool
  | .issue _ _ _ _ => true
  | _ => false

/-- calls are numbered 0, 1, … in the order of their `issue` events, whatever number the event carries -/
def nIssues (p : List Ev) : Nat := p.countP Ev.isIssue

def Ev.isReach (ep : Nat) : Ev → Bool
  | .reach ep' _ _ _ => ep' == ep
  | _ => false

def Ev.isConnect (ep : Nat) : Ev → Bool
  | .connect ep' _ => ep' == ep
  | _ => false

/-- the call an event is recorded under: `stStep` changes the record of this call, if it has one, and no other -/
def Ev.call? : Ev → Option Nat
  | .done c _ _ | .wrote (.ofNat c) _ _ _ _ => some c
  | _ => none

theorem _root_.Scales.V.ofNat_inj {a b : Nat} (h : V.ofNat a = V.ofNat b) : a = b := by
  simp only [V.ofNat, V.n.injEq] at h
  exact Int.ofNat.inj h

/-- `e` occurs in `l` right after the history `p` -/
def Occ (l p : List Ev) (e : Ev) : Prop := ∃ r, l = p ++ e :: r

theorem occ_prefix {l p : List Ev} {e : Ev} : Occ l p e ↔ p ++ [e] <+: l := by
  simp only [Occ, List.IsPrefix, List.append_assoc, List.singleton_append, eq_comm]

theorem occ_nil {p : List Ev} {e : Ev} : ¬ Occ [] p e := by simp [occ_prefix]

theorem occ_snoc {l p : List Ev} {x e : Ev} :
    Occ (l ++ [x]) p e ↔ Occ l p e ∨ (p = l ∧ e = x) := by
  rw [occ_prefix, occ_prefix, List.prefix_concat_iff, or_comm, List.append_singleton_inj]

theorem occ_iff {l p : List Ev} {e : Ev} : Occ l p e ↔ ∃ i, l[i]? = some e ∧ l.take i = p := by
  constructor
  · rintro ⟨r, rfl⟩; exact ⟨p.length, by simp, by simp⟩
  · rintro ⟨i, hi, rfl⟩
    obtain ⟨hlt, rfl⟩ := List.getElem?_eq_some_iff.mp hi
    exact ⟨l.drop (i + 1), by rw [← List.drop_eq_getElem_cons hlt, List.take_append_drop]⟩

theorem exists_occ_iff {l : List Ev} {φ : List Ev → Ev → Prop} :
    (∃ p e, Occ l p e ∧ φ p e) ↔ ∃ i e, l[i]? = some e ∧ φ (l.take i) e := by
  rw [exists_comm]
  simp only [occ_iff, exists_exists_and_eq_and]
  exact exists_comm

theorem exists_occ_take {l : List Ev} {j : Nat} {e : Ev} {ψ : List Ev → Prop} :
    (∃ p, Occ (l.take j) p e ∧ ψ p) ↔ ∃ i, i < j ∧ l[i]? = some e ∧ ψ (l.take i) := by
  simp only [occ_iff, List.getElem?_take, Option.ite_none_right_eq_some, List.take_take, and_assoc]
  exact ⟨fun ⟨_, ⟨i, hlt, hi, rfl⟩, h⟩ => ⟨i, hlt, hi, Nat.min_eq_left (Nat.le_of_lt hlt) ▸ h⟩,
    fun ⟨i, hlt, hi, h⟩ => ⟨_, ⟨i, hlt, hi, rfl⟩, (Nat.min_eq_left (Nat.le_of_lt hlt)).symm ▸ h⟩⟩

theorem exists_rotate {α β γ : Sort _} {p : α → β → γ → Prop} : (∃ a b c, p a b c) ↔ ∃ b c a, p a b c :=
  ⟨fun ⟨a, b, c, h⟩ => ⟨b, c, a, h⟩, fun ⟨b, c, a, h⟩ => ⟨a, b, c, h⟩⟩

def stAfter (s : St) (l : List Ev) : St := l.foldl stStep s

@[simp] theorem stAfter_nil (s : St) : stAfter s [] = s := rfl
@[simp] theorem stAfter_cons (s : St) (e : Ev) (l : List Ev) : stAfter s (e :: l) = stAfter (stStep s e) l := rfl
@[simp] theorem stAfter_snoc (s : St) (l : List Ev) (e : Ev) : stAfter s (l ++ [e]) = stStep (stAfter s l) e := by
  simp [stAfter, List.foldl_append]

/-- what `monGo`, run from `s` with positions reported from `idx`, checks at position `i` of `l`: before and on the
    event `l[i]`; at `i = l.length` the end-of-log check -/
def checkAt (w : Nat) (mux : Bool) (s : St) (idx : Nat) (l : List Ev) (i : Nat) : Verdict :=
  match l[i]? with
  | some e => (preV w (stAfter s (l.take i)) (i + idx) e).and fun _ => verdictAt w (stAfter s (l.take i)) (i + idx) e
  | none => if i = l.length then finalV w mux (stAfter s l) (i + idx) else .ok

section
variable {w : Nat} {mux : Bool} {s : St} {idx : Nat}

theorem checkAt_nil (i : Nat) : checkAt w mux s idx [] i = if i = 0 then finalV w mux s idx else .ok := by
  unfold checkAt
  split <;> simp_all

theorem checkAt_cons_zero (a : Ev) (l : List Ev) :
    checkAt w mux s idx (a :: l) 0 = (preV w s idx a).and fun _ => verdictAt w s idx a := by
  simp [checkAt]

theorem checkAt_cons_succ (a : Ev) (l : List Ev) (i : Nat) :
    checkAt w mux s idx (a :: l) (i + 1) = checkAt w mux (stStep s a) (idx + 1) l i := by
  simp only [checkAt, List.getElem?_cons_succ, List.take_succ_cons, stAfter_cons, List.length_cons,
    Nat.add_right_cancel_iff, Nat.add_right_comm i 1 idx, Nat.add_assoc]

end

theorem monGo_eq_ok_iff (w : Nat) (mux : Bool) : ∀ (l : List Ev) (s : St) (idx : Nat),
    monGo w mux s idx l = .ok ↔ ∀ i, checkAt w mux s idx l i = .ok
  | [], s, idx => by
    simp only [monGo, checkAt_nil]
    exact ⟨fun h i => by split <;> [exact h; rfl], fun h => h 0⟩
  | a :: l, s, idx => by
    rw [← Nat.and_forall_add_one]
    simp only [monGo, and_eq_ok, monGo_eq_ok_iff w mux l, checkAt_cons_zero, checkAt_cons_succ, and_assoc]

theorem monGo_eq_fail_iff (w : Nat) (mux : Bool) (cl : String) (ps : List V) : ∀ (l : List Ev) (s : St) (idx : Nat),
    monGo w mux s idx l = .fail cl ps ↔
      ∃ i, checkAt w mux s idx l i = .fail cl ps ∧ ∀ i', i' < i → checkAt w mux s idx l i' = .ok
  | [], s, idx => by
    simp only [monGo, checkAt_nil]
    constructor
    · intro h; exact ⟨0, h, by simp⟩
    · rintro ⟨i, h, -⟩; split at h <;> [exact h; cases h]
  | a :: l, s, idx => by
    rw [← Nat.or_exists_add_one]
    simp only [monGo, and_eq_fail, monGo_eq_fail_iff w mux cl ps l, checkAt_cons_zero, checkAt_cons_succ,
      Nat.forall_lt_succ_left, and_eq_ok, Nat.not_lt_zero, false_imp_iff, implies_true, and_true]
    constructor
    · rintro (h | ⟨hp, h | ⟨hv, i, h, hb⟩⟩)
      · exact Or.inl (Or.inl h)
      · exact Or.inl (Or.inr ⟨hp, h⟩)
      · exact Or.inr ⟨i, h, ⟨hp, hv⟩, hb⟩
    · rintro ((h | ⟨hp, h⟩) | ⟨i, h, ⟨hp, hv⟩, hb⟩)
      · exact Or.inl h
      · exact Or.inr ⟨hp, Or.inl h⟩
      · exact Or.inr ⟨hp, Or.inr ⟨hv, i, h, hb⟩⟩

theorem checkAt_eq_fail {w : Nat} {mux : Bool} {s : St} {idx : Nat} {l : List Ev} {i : Nat} {cl : String} {ps : List V}
    (h : checkAt w mux s idx l i = .fail cl ps) :
    (∃ e, l[i]? = some e ∧ (preV w (stAfter s (l.take i)) (i + idx) e = .fail cl ps ∨
      verdictAt w (stAfter s (l.take i)) (i + idx) e = .fail cl ps)) ∨
    (i = l.length ∧ finalV w mux (stAfter s l) (i + idx) = .fail cl ps) := by
  unfold checkAt at h
  split at h
  · rename_i e he
    exact Or.inl ⟨e, he, (and_eq_fail.mp h).imp_right (·.2)⟩
  · split at h
    · exact Or.inr ⟨‹_›, h⟩
    · cases h

theorem monGo_eq_fail (w : Nat) (mux : Bool) (cl : String) (ps : List V) : ∀ (l : List Ev) (s : St) (idx : Nat),
    monGo w mux s idx l = .fail cl ps →
      (∃ p e, Occ l p e ∧
        (preV w (stAfter s p) (idx + p.length) e = .fail cl ps ∨
         verdictAt w (stAfter s p) (idx + p.length) e = .fail cl ps)) ∨
      finalV w mux (stAfter s l) (idx + l.length) = .fail cl ps := by
  intro l s idx h
  obtain ⟨i, hi, -⟩ := (monGo_eq_fail_iff w mux cl ps l s idx).mp h
  rcases checkAt_eq_fail hi with ⟨e, he, hv⟩ | ⟨rfl, hv⟩
  · have hl : (l.take i).length = i := List.length_take_of_le (Nat.le_of_lt (List.getElem?_eq_some_iff.mp he).1)
    exact Or.inl ⟨l.take i, e, occ_iff.mpr ⟨i, he, rfl⟩, by rwa [hl, Nat.add_comm]⟩
  · exact Or.inr (by rwa [Nat.add_comm])

section
variable {w : Nat} {mux : Bool} {log : List Ev} {j : Nat}

theorem checkAt_of_getElem? {e : Ev} (h : log[j]? = some e) :
    checkAt w mux {} 0 log j =
      (preV w (stAfter {} (log.take j)) j e).and fun _ => verdictAt w (stAfter {} (log.take j)) j e := by
  simp only [checkAt, h]; rfl

theorem checkAt_length : checkAt w mux {} 0 log log.length = finalV w mux (stAfter {} log) log.length := by
  simp [checkAt]

theorem checkAt_of_event {e : Ev} {v : Verdict} (h : log[j]? = some e)
    (hp : preV w (stAfter {} (log.take j)) j e = .ok) (hv : verdictAt w (stAfter {} (log.take j)) j e = v) :
    checkAt w mux {} 0 log j = v := by
  rw [checkAt_of_getElem? h, hp, hv]; rfl

theorem checkAt_ne_ok_of_event {v : Verdict} (h : ∃ e, log[j]? = some e ∧ verdictAt w (stAfter {} (log.take j)) j e = v)
    (hv : v ≠ .ok) : checkAt w mux {} 0 log j ≠ .ok := by
  obtain ⟨e, hj, rfl⟩ := h
  rw [checkAt_of_getElem? hj, Ne, and_eq_ok]; exact fun hok => hv hok.2

/-- the verdicts of monitor `w` on `log` read as the clauses `Violated cl j rest` ("clause `cl` is violated at
    position `j`", `rest` the parameters reported after the position).  `fail_iff` is the exact form: a given `fail` at
    `j` exactly when the check at `j` yields it and nothing is violated before `j`. -/
structure Reads (w : Nat) (mux : Bool) (log : List Ev) (Violated : String → Nat → List V → Prop) : Prop where
  ok_iff : monGo w mux {} 0 log = .ok ↔ ∀ cl j rest, ¬ Violated cl j rest
  fail_sound : ∀ {cl ps}, monGo w mux {} 0 log = .fail cl ps → ∃ j rest, ps = V.ofNat j :: rest ∧ Violated cl j rest
  fail_first : ∀ {cl ps}, monGo w mux {} 0 log = .fail cl ps →
    ∃ j rest, ps = V.ofNat j :: rest ∧ ∀ i, i < j → ∀ cl' rest', ¬ Violated cl' i rest'
  fail_iff : ∀ cl j rest, monGo w mux {} 0 log = .fail cl (V.ofNat j :: rest) ↔
    checkAt w mux {} 0 log j = .fail cl (V.ofNat j :: rest) ∧ ∀ i, i < j → ∀ cl' rest', ¬ Violated cl' i rest'

theorem monGo_reading {Violated : String → Nat → List V → Prop}
    (hP : ∀ {j e cl ps}, log[j]? = some e → preV w (stAfter {} (log.take j)) j e = .fail cl ps →
      ∃ rest, ps = V.ofNat j :: rest ∧ Violated cl j rest)
    (hA : ∀ {j e cl ps}, log[j]? = some e → verdictAt w (stAfter {} (log.take j)) j e = .fail cl ps →
      ∃ rest, ps = V.ofNat j :: rest ∧ Violated cl j rest)
    (hA' : ∀ {cl ps}, finalV w mux (stAfter {} log) log.length = .fail cl ps →
      ∃ rest, ps = V.ofNat log.length :: rest ∧ Violated cl log.length rest)
    (hB : ∀ {j cl rest}, Violated cl j rest → checkAt w mux {} 0 log j ≠ .ok) : Reads w mux log Violated := by
  have hA : ∀ j cl ps, checkAt w mux {} 0 log j = .fail cl ps → ∃ rest, ps = V.ofNat j :: rest ∧ Violated cl j rest :=
    fun j cl ps h => (checkAt_eq_fail h).elim (fun ⟨e, hj, hv⟩ => hv.elim (hP hj) (hA hj))
      fun ⟨hj, hv⟩ => by subst hj; exact hA' hv
  have hok : ∀ i, checkAt w mux {} 0 log i = .ok ↔ ∀ cl rest, ¬ Violated cl i rest := fun i => by
    refine ⟨fun h cl rest hv => hB hv h, fun h => ?_⟩
    rcases hc : checkAt w mux {} 0 log i with _ | ⟨cl, ps⟩
    · rfl
    · obtain ⟨rest, -, hv⟩ := hA i cl ps hc
      exact absurd hv (h cl rest)
  refine ⟨?_, fun {cl ps} h => ?_, ?_, fun cl j rest => ?_⟩
  · simp only [monGo_eq_ok_iff, hok]
    exact ⟨fun h cl j rest => h j cl rest, fun h j cl rest => h cl j rest⟩
  · obtain ⟨j, hj, -⟩ := (monGo_eq_fail_iff ..).mp h
    exact ⟨j, hA j cl ps hj⟩
  · simp only [monGo_eq_fail_iff, hok]
    rintro cl ps ⟨j, hj, hfirst⟩
    exact ⟨j, (hA j cl ps hj).imp fun _ h => ⟨h.1, hfirst⟩⟩
  · simp only [monGo_eq_fail_iff, hok]
    refine ⟨?_, fun h => ⟨j, h⟩⟩
    rintro ⟨i, hi, hfirst⟩
    obtain ⟨rest', hps, -⟩ := hA i cl _ hi
    obtain rfl : j = i := V.ofNat_inj (List.cons.inj hps).1
    exact ⟨hi, hfirst⟩

variable {Violated : String → Nat → List V → Prop} (r : Reads w mux log Violated)
include r

theorem Reads.detected {cl : String} {j : Nat} {rest : List V} (hv : Violated cl j rest) :
    monGo w mux {} 0 log ≠ .ok :=
  fun hok => r.ok_iff.mp hok cl j rest hv

end

@[simp] theorem nIssues_nil : nIssues [] = 0 := rfl
theorem nIssues_snoc (p : List Ev) (e : Ev) : nIssues (p ++ [e]) = nIssues p + (if e.isIssue then 1 else 0) := by
  simp [nIssues, List.countP_append, List.countP_cons]
theorem nIssues_occ_lt {l p : List Ev} {e : Ev} {c : Nat} (h : Occ l p e) (hc : c < nIssues p) : c < nIssues l :=
  Nat.lt_of_lt_of_le hc ((List.prefix_append p [e]).trans (occ_prefix.mp h)).sublist.countP_le

/-- call `c` was issued in `p`, at time `t`, with timeout `T` (`pre`: before the client had opened).  Below,
    `c < nIssues p1`: an event naming a call not issued so far is not recorded (`St.upd`). -/
def IssuedIn (p : List Ev) (c T t : Nat) (pre : Bool) : Prop :=
  ∃ p1 c', Occ p p1 (.issue c' T t pre) ∧ nIssues p1 = c

def DoneAt (p p1 : List Ev) (c : Nat) (o : Outcome) (t : Nat) : Prop :=
  Occ p p1 (.done c o t) ∧ c < nIssues p1

def Completed (p : List Ev) (c : Nat) : Prop := ∃ p1 o t, DoneAt p p1 c o t

def FirstDone (p : List Ev) (c : Nat) (o : Outcome) (t : Nat) : Prop :=
  ∃ p1, DoneAt p p1 c o t ∧ ¬ Completed p1 c

def ReqIn (p : List Ev) (c conn tag t : Nat) : Prop :=
  ∃ p1, Occ p p1 (.wrote (c : Int) conn false tag t) ∧ c < nIssues p1

def DiscIn (p : List Ev) (c conn tag : Nat) : Prop :=
  ∃ p1 t, Occ p p1 (.wrote (c : Int) conn true tag t) ∧ c < nIssues p1

theorem issuedIn_snoc {p : List Ev} {e : Ev} {c T t : Nat} {pre : Bool} :
    IssuedIn (p ++ [e]) c T t pre ↔ IssuedIn p c T t pre ∨ ∃ c', e = .issue c' T t pre ∧ nIssues p = c := by
  simp only [IssuedIn, occ_snoc, or_and_right, exists_or, and_assoc, exists_and_left, exists_eq_left, eq_comm (b := e)]

theorem completed_snoc {p : List Ev} {e : Ev} {c : Nat} :
    Completed (p ++ [e]) c ↔ Completed p c ∨ ∃ o t, e = .done c o t ∧ c < nIssues p := by
  simp only [Completed, DoneAt, occ_snoc, or_and_right, exists_or, and_assoc, exists_and_left, exists_eq_left,
    eq_comm (b := e)]

theorem firstDone_snoc {p : List Ev} {e : Ev} {c : Nat} {o : Outcome} {t : Nat} :
    FirstDone (p ++ [e]) c o t ↔ FirstDone p c o t ∨ (e = .done c o t ∧ c < nIssues p ∧ ¬ Completed p c) := by
  simp only [FirstDone, DoneAt, occ_snoc, or_and_right, exists_or, and_assoc, exists_eq_left, eq_comm (b := e)]

theorem reqIn_snoc {p : List Ev} {e : Ev} {c conn tag t : Nat} :
    ReqIn (p ++ [e]) c conn tag t ↔ ReqIn p c conn tag t ∨ (e = .wrote (c : Int) conn false tag t ∧ c < nIssues p) := by
  simp only [ReqIn, occ_snoc, or_and_right, exists_or, and_assoc, exists_eq_left, eq_comm (b := e)]

theorem discIn_snoc {p : List Ev} {e : Ev} {c conn tag : Nat} :
    DiscIn (p ++ [e]) c conn tag ↔ DiscIn p c conn tag ∨ ∃ t, e = .wrote (c : Int) conn true tag t ∧ c < nIssues p := by
  simp only [DiscIn, occ_snoc, or_and_right, exists_or, and_assoc, exists_and_left, exists_eq_left, eq_comm (b := e)]

theorem reqIn_iff {l : List Ev} {c conn tag t : Nat} :
    ReqIn l c conn tag t ↔ ∃ i, l[i]? = some (.wrote (c : Int) conn false tag t) ∧ c < nIssues (l.take i) := by
  simp only [ReqIn, occ_iff, exists_exists_and_eq_and]

theorem discIn_iff {l : List Ev} {c conn tag : Nat} :
    DiscIn l c conn tag ↔ ∃ i t, l[i]? = some (.wrote (c : Int) conn true tag t) ∧ c < nIssues (l.take i) := by
  rw [DiscIn, exists_comm]
  simp only [occ_iff, exists_exists_and_eq_and]
  exact exists_comm

theorem issuedIn_lt {p : List Ev} {c T t : Nat} {pre : Bool} (h : IssuedIn p c T t pre) : c < nIssues p := by
  obtain ⟨p1, c', ⟨r, rfl⟩, rfl⟩ := h
  simp [nIssues, List.countP_cons, Ev.isIssue]

theorem completed_lt {p : List Ev} {c : Nat} (h : Completed p c) : c < nIssues p :=
  let ⟨_, _, _, ho, hn⟩ := h
  nIssues_occ_lt ho hn

theorem reqIn_lt {p : List Ev} {c conn tag t : Nat} (h : ReqIn p c conn tag t) : c < nIssues p :=
  let ⟨_, ho, hn⟩ := h
  nIssues_occ_lt ho hn

theorem discIn_lt {p : List Ev} {c conn tag : Nat} (h : DiscIn p c conn tag) : c < nIssues p :=
  let ⟨_, _, ho, hn⟩ := h
  nIssues_occ_lt ho hn

theorem issuedIn_fun {c : Nat} : ∀ {p : List Ev} {T t : Nat} {pre : Bool} {T' t' : Nat} {pre' : Bool},
    IssuedIn p c T t pre → IssuedIn p c T' t' pre' → T = T' ∧ t = t' ∧ pre = pre' := by
  intro p
  induction p using List.reverseRecOn with
  | nil => rintro _ _ _ _ _ _ ⟨_, _, h, _⟩; exact absurd h occ_nil
  | append_singleton p e ih =>
    intro T t pre T' t' pre' h h'
    rcases issuedIn_snoc.mp h with h | ⟨c1, rfl, hn⟩ <;> rcases issuedIn_snoc.mp h' with h' | ⟨c2, he, hn'⟩
    · exact ih h h'
    · have := issuedIn_lt h; omega
    · have := issuedIn_lt h'; omega
    · cases he; exact ⟨rfl, rfl, rfl⟩

theorem firstDone_completed {p : List Ev} {c : Nat} {o : Outcome} {t : Nat} (h : FirstDone p c o t) :
    Completed p c := by
  obtain ⟨p1, h, _⟩ := h; exact ⟨p1, o, t, h⟩

theorem completed_firstDone {c : Nat} : ∀ {p : List Ev}, Completed p c → ∃ o t, FirstDone p c o t := by
  intro p
  induction p using List.reverseRecOn with
  | nil => rintro ⟨_, _, _, h, _⟩; exact absurd h occ_nil
  | append_singleton p e ih =>
    intro h
    by_cases hc : Completed p c
    · obtain ⟨o, t, h'⟩ := ih hc
      exact ⟨o, t, firstDone_snoc.mpr (Or.inl h')⟩
    · rcases completed_snoc.mp h with h | ⟨o, t, rfl, hn⟩
      · exact absurd h hc
      · exact ⟨o, t, firstDone_snoc.mpr (Or.inr ⟨rfl, hn, hc⟩)⟩

/-- what the monitor's record `cl` of call `c` says, read off the history `p` -/
structure CallRep (p : List Ev) (c : Nat) (cl : CallSt) : Prop where
  issued : IssuedIn p c cl.T cl.issueT cl.pre
  done : ∀ o t, cl.done = some (o, t) ↔ FirstDone p c o t
  reqs : ∀ conn tag t, (conn, tag, t) ∈ cl.reqs ↔ ReqIn p c conn tag t
  discs : ∀ conn tag, (conn, tag) ∈ cl.discards ↔ DiscIn p c conn tag

theorem CallRep.isSome {p : List Ev} {c : Nat} {cl : CallSt} (h : CallRep p c cl) :
    cl.done.isSome = true ↔ Completed p c := by
  constructor
  · intro hs
    obtain ⟨⟨o, t⟩, hd⟩ := Option.isSome_iff_exists.mp hs
    exact firstDone_completed ((h.done o t).mp hd)
  · intro hc
    obtain ⟨o, t, hf⟩ := completed_firstDone hc
    rw [(h.done o t).mpr hf]; rfl

theorem CallRep.snoc {p : List Ev} {c : Nat} {cl cl' : CallSt} (h : CallRep p c cl) (e : Ev)
    (hT : cl'.T = cl.T ∧ cl'.issueT = cl.issueT ∧ cl'.pre = cl.pre)
    (hdone : ∀ o t, cl'.done = some (o, t) ↔ cl.done = some (o, t) ∨ (e = .done c o t ∧ ¬ cl.done.isSome = true))
    (hreqs : ∀ conn tag t,
      (conn, tag, t) ∈ cl'.reqs ↔ (conn, tag, t) ∈ cl.reqs ∨ e = .wrote (c : Int) conn false tag t)
    (hdiscs : ∀ conn tag,
      (conn, tag) ∈ cl'.discards ↔ (conn, tag) ∈ cl.discards ∨ ∃ t, e = .wrote (c : Int) conn true tag t) :
    CallRep (p ++ [e]) c cl' := by
  have hlt : c < nIssues p := issuedIn_lt h.issued
  refine ⟨?_, fun o t => ?_, fun conn tag t => ?_, fun conn tag => ?_⟩
  · rw [hT.1, hT.2.1, hT.2.2]; exact issuedIn_snoc.mpr (Or.inl h.issued)
  · simp only [hdone, firstDone_snoc, h.done, h.isSome, hlt, true_and]
  · simp only [hreqs, reqIn_snoc, h.reqs, hlt, and_true]
  · simp only [hdiscs, discIn_snoc, h.discs, hlt, and_true]

theorem CallRep.snoc_other {p : List Ev} {c : Nat} {cl : CallSt} (h : CallRep p c cl) {e : Ev}
    (he : e.call? ≠ some c) : CallRep (p ++ [e]) c cl :=
  h.snoc e ⟨rfl, rfl, rfl⟩ (fun _ _ => ⟨Or.inl, (·.elim id fun h => absurd (h.1 ▸ rfl) he)⟩)
    (fun _ _ _ => ⟨Or.inl, (·.elim id fun h => absurd (h ▸ rfl) he)⟩)
    (fun _ _ => ⟨Or.inl, (·.elim id fun ⟨_, h⟩ => absurd (h ▸ rfl) he)⟩)

theorem CallRep.snoc_done {p : List Ev} {c : Nat} {cl : CallSt} (h : CallRep p c cl) (o : Outcome) (t : Nat) :
    CallRep (p ++ [.done c o t]) c (if cl.done.isSome then cl else { cl with done := some (o, t) }) := by
  refine h.snoc _ (by split <;> exact ⟨rfl, rfl, rfl⟩) (fun o' t' => ?_) (fun _ _ _ => ?_) (fun _ _ => ?_)
  · cases hd : cl.done <;> simp [hd]
  · split <;> exact ⟨Or.inl, (·.elim id nofun)⟩
  · split <;> exact ⟨Or.inl, (·.elim id nofun)⟩

theorem CallRep.snoc_req {p : List Ev} {c : Nat} {cl : CallSt} (h : CallRep p c cl) (conn tag t : Nat) :
    CallRep (p ++ [.wrote c conn false tag t]) c { cl with reqs := cl.reqs ++ [(conn, tag, t)] } :=
  h.snoc _ ⟨rfl, rfl, rfl⟩ (fun _ _ => ⟨Or.inl, (·.elim id nofun)⟩)
    (fun conn' tag' t' => by simp [eq_comm]) (fun _ _ => ⟨Or.inl, (·.elim id nofun)⟩)

theorem CallRep.snoc_disc {p : List Ev} {c : Nat} {cl : CallSt} (h : CallRep p c cl) (conn tag t : Nat) :
    CallRep (p ++ [.wrote c conn true tag t]) c { cl with discards := cl.discards ++ [(conn, tag)] } :=
  h.snoc _ ⟨rfl, rfl, rfl⟩ (fun _ _ => ⟨Or.inl, (·.elim id nofun)⟩)
    (fun _ _ _ => ⟨Or.inl, (·.elim id nofun)⟩) (fun conn' tag' => by simp [eq_comm])

theorem callRep_new (p : List Ev) (c' T t : Nat) (pre : Bool) :
    CallRep (p ++ [.issue c' T t pre]) (nIssues p) { issueT := t, T := T, pre := pre } := by
  refine ⟨issuedIn_snoc.mpr (Or.inr ⟨c', rfl, rfl⟩), fun _ _ => ⟨nofun, fun h => ?_⟩,
    fun _ _ _ => ⟨nofun, fun h => ?_⟩, fun _ _ => ⟨nofun, fun h => ?_⟩⟩
  · exact (firstDone_snoc.mp h).elim (fun h => absurd (completed_lt (firstDone_completed h)) (Nat.lt_irrefl _)) nofun
  · exact (reqIn_snoc.mp h).elim (fun h => absurd (reqIn_lt h) (Nat.lt_irrefl _)) nofun
  · exact (discIn_snoc.mp h).elim (fun h => absurd (discIn_lt h) (Nat.lt_irrefl _)) nofun

theorem upd_eq (s : St) (c : Nat) (f : CallSt → CallSt) : s.upd c f = { s with calls := s.calls.modify c f } := by
  unfold St.upd
  split
  · rename_i cl hcl
    obtain ⟨hlt, rfl⟩ := List.getElem?_eq_some_iff.mp hcl
    rw [List.modify_eq_take_cons_drop hlt, List.set_eq_take_append_cons_drop, if_pos hlt]
  · rename_i hnone
    rw [List.modify_eq_self (List.getElem?_eq_none_iff.mp hnone)]

/-- one step, field by field: the call records change on `issue`, `done` and `wrote` events only, and these change
    nothing else -/
theorem stStep_eq (s : St) (e : Ev) : stStep s e =
    { calls := match e with | .issue .. | .done .. | .wrote .. => (stStep s e).calls | _ => s.calls
      openedAt := match e with | .opened t => some t | _ => s.openedAt
      closed := match e with | .connclosed conn t => s.closed ++ [(conn, t)] | _ => s.closed
      clientClosedAt := match e with | .clientclosed t => some t | _ => s.clientClosedAt
      down := match e with
        | .reach ep up t _ => if up then s.down.filter (·.1 != ep) else (ep, t) :: s.down.filter (·.1 != ep)
        | _ => s.down
      upSince := match e with
        | .reach ep up t mw => if up then (ep, t, mw) :: s.upSince.filter (·.1 != ep) else s.upSince.filter (·.1 != ep)
        | _ => s.upSince
      owed := match e with
        | .connect ep t =>
          if s.down.any (·.1 == ep) then (ep, t) :: s.owed.filter (·.1 != ep) else s.owed.filter (·.1 != ep)
        | _ => s.owed } := by
  cases e with
  | done c o t => rw [stStep, upd_eq]
  | wrote c conn d tag t =>
    by_cases h : c < 0
    · simp only [stStep, if_pos h]
    · cases d <;> simp only [stStep, if_neg h, upd_eq, Bool.false_eq_true, if_true, if_false]
  | connect ep t => exact (apply_ite (fun o => ({ s with owed := o } : St)) ..).symm
  | reach ep up t mw => cases up <;> rfl
  | _ => rfl

def RepCalls (p : List Ev) (s : St) : Prop :=
  s.calls.length = nIssues p ∧ ∀ c cl, s.calls[c]? = some cl → CallRep p c cl

theorem RepCalls.upd {p : List Ev} {s : St} {e : Ev} {c : Nat} {f : CallSt → CallSt} (h : RepCalls p s)
    (he : e.isIssue = false) (hk : e.call? = some c) (hf : ∀ cl, CallRep p c cl → CallRep (p ++ [e]) c (f cl)) :
    RepCalls (p ++ [e]) (s.upd c f) := by
  rw [upd_eq]
  refine ⟨by rw [List.length_modify, nIssues_snoc, he, h.1]; rfl, fun c' cl' hc => ?_⟩
  rw [List.getElem?_modify] at hc
  obtain ⟨cl, hs, rfl⟩ := Option.map_eq_some_iff.mp hc
  split
  · subst c'
    exact hf cl (h.2 _ _ hs)
  · rename_i hne
    exact (h.2 _ _ hs).snoc_other (hk ▸ fun h => hne (Option.some.inj h))

theorem RepCalls.same {p : List Ev} {s s' : St} {e : Ev} (h : RepCalls p s) (he : e.isIssue = false)
    (hn : e.call? = none) (hs : s'.calls = s.calls) : RepCalls (p ++ [e]) s' := by
  rw [RepCalls, hs]
  exact ⟨by rw [nIssues_snoc, he, h.1]; rfl, fun c cl hc => (h.2 c cl hc).snoc_other (hn ▸ nofun)⟩

theorem repCalls_step {p : List Ev} {s : St} (e : Ev) (h : RepCalls p s) : RepCalls (p ++ [e]) (stStep s e) := by
  cases e with
  | issue c' T t pre =>
    refine ⟨by rw [nIssues_snoc, ← h.1]; exact List.length_append, fun c cl hc => ?_⟩
    rcases Nat.lt_trichotomy c s.calls.length with hlt | rfl | hgt
    · rw [stStep, List.getElem?_append_left hlt] at hc
      exact (h.2 c _ hc).snoc_other nofun
    · rw [stStep, List.getElem?_concat_length] at hc
      cases hc
      rw [h.1]
      exact callRep_new p c' T t pre
    · rw [stStep, List.getElem?_eq_none (by simp; omega)] at hc
      cases hc
  | done c o t => exact h.upd rfl rfl fun cl hcl => hcl.snoc_done o t
  | wrote ci conn d tag t =>
    cases ci with
    | negSucc n => exact h.same rfl rfl (by rw [stStep, if_pos (Int.negSucc_lt_zero n)])
    | ofNat c =>
      rw [stStep, if_neg (Int.not_lt.mpr (Int.natCast_nonneg c) : ¬ Int.ofNat c < 0)]
      cases d
      · exact h.upd rfl rfl fun cl hcl => hcl.snoc_req conn tag t
      · exact h.upd rfl rfl fun cl hcl => hcl.snoc_disc conn tag t
  | _ => exact h.same rfl rfl (by rw [stStep_eq])

theorem calls_none {p : List Ev} {s : St} (h : RepCalls p s) {c : Nat} : s.calls[c]? = none ↔ nIssues p ≤ c := by
  rw [List.getElem?_eq_none_iff, h.1]

theorem calls_some {p : List Ev} {s : St} (h : RepCalls p s) {c : Nat} (hc : c < nIssues p) :
    ∃ cl, s.calls[c]? = some cl ∧ CallRep p c cl := by
  have hlt : c < s.calls.length := by rw [h.1]; exact hc
  exact ⟨s.calls[c], List.getElem?_eq_getElem hlt, h.2 c _ (List.getElem?_eq_getElem hlt)⟩

/-- the state `s` represents the history `p`: the call records and the closed connections are exactly what the
    history predicates say of `p`.  This, not the state itself, is what the checks depend on (up to which of several
    offenders a scan meets first), so their readings are stated for any `s` with `Rep p s`. -/
structure Rep (p : List Ev) (s : St) : Prop where
  calls : RepCalls p s
  closed : ∀ conn t, (conn, t) ∈ s.closed ↔ Ev.connclosed conn t ∈ p

theorem Rep.step {p : List Ev} {s : St} (h : Rep p s) (e : Ev) : Rep (p ++ [e]) (stStep s e) := by
  refine ⟨repCalls_step e h.calls, fun conn t => ?_⟩
  rw [stStep_eq, List.mem_append, List.mem_singleton, ← h.closed]
  cases e <;> simp

theorem rep (p : List Ev) : Rep p (stAfter {} p) := by
  induction p using List.reverseRecOn with
  | nil => exact ⟨⟨rfl, fun c cl h => by simp at h⟩, by simp⟩
  | append_singleton p e ih => rw [stAfter_snoc]; exact ih.step e

theorem repCalls (p : List Ev) : RepCalls p (stAfter {} p) := (rep p).calls

/-! Through the state that represents it: every issued call has a record, and a record has one value in each field. -/

theorem issuedIn_exists {p : List Ev} : ∀ {c : Nat}, c < nIssues p → ∃ T t pre, IssuedIn p c T t pre := fun hc =>
  let ⟨_, _, h⟩ := calls_some (repCalls p) hc
  ⟨_, _, _, h.issued⟩

theorem firstDone_fun {c : Nat} : ∀ {p : List Ev} {o : Outcome} {t : Nat} {o' : Outcome} {t' : Nat},
    FirstDone p c o t → FirstDone p c o' t' → o = o' ∧ t = t' := by
  intro p o t o' t' h h'
  obtain ⟨cl, -, r⟩ := calls_some (repCalls p) (completed_lt (firstDone_completed h))
  cases ((r.done o t).mpr h).symm.trans ((r.done o' t').mpr h')
  exact ⟨rfl, rfl⟩

/-! `down`, `upSince` and `owed` are association lists written by "drop the key, then perhaps add it": the last write
    for a key is the only entry with that key. -/

theorem mem_drop {β : Type} {l : List (Nat × β)} {k k' : Nat} {v : β} :
    (k, v) ∈ l.filter (·.1 != k') ↔ ¬ k' = k ∧ (k, v) ∈ l := by
  rw [List.mem_filter, and_comm]
  exact and_congr_left' (by simp [ne_comm])

theorem mem_put {β : Type} {l : List (Nat × β)} {k k' : Nat} {v v' : β} :
    (k, v) ∈ (k', v') :: l.filter (·.1 != k') ↔ (k' = k ∧ v' = v) ∨ (¬ k' = k ∧ (k, v) ∈ l) := by
  rw [List.mem_cons, mem_drop, Prod.mk.injEq, eq_comm (a := k), eq_comm (a := v)]

section
variable {log : List Ev} {j : Nat} {x : Ev}

/-- `e`, at position `i < j`, is the last event before `j` that satisfies `q` (given that `e` does) -/
def LastBefore (q : Ev → Bool) (log : List Ev) (j i : Nat) (e : Ev) : Prop :=
  i < j ∧ log[i]? = some e ∧ ∀ k x, i < k → k < j → log[k]? = some x → q x = false

theorem lastBefore_succ {q : Ev → Bool} {i : Nat} {e : Ev} (hj : log[j]? = some x) :
    LastBefore q log (j + 1) i e ↔ (i = j ∧ e = x) ∨ (q x = false ∧ LastBefore q log j i e) := by
  constructor
  · rintro ⟨hlt, hi, hall⟩
    rcases Nat.lt_succ_iff_lt_or_eq.mp hlt with h | rfl
    · exact Or.inr ⟨hall j x h (Nat.lt_succ_self j) hj, h, hi, fun k y hk hkj => hall k y hk (Nat.lt_succ_of_lt hkj)⟩
    · rw [hj] at hi; cases hi; exact Or.inl ⟨rfl, rfl⟩
  · rintro (⟨rfl, rfl⟩ | ⟨hq, hlt, hi, hall⟩)
    · exact ⟨Nat.lt_succ_self _, hj, fun k y hk hkj => by omega⟩
    · refine ⟨Nat.lt_succ_of_lt hlt, hi, fun k y hk hkj hy => ?_⟩
      rcases Nat.lt_succ_iff_lt_or_eq.mp hkj with h | rfl
      · exact hall k y hk h hy
      · rw [hj] at hy; cases hy; exact hq

theorem lastBefore_fun {q : Ev → Bool} {i i' : Nat} {e e' : Ev} (h : LastBefore q log j i e) (h' : LastBefore q log j i' e')
    (hq : q e = true) (hq' : q e' = true) : e = e' := by
  obtain ⟨hlt, hi, hall⟩ := h
  obtain ⟨hlt', hi', hall'⟩ := h'
  rcases Nat.lt_trichotomy i i' with h | rfl | h
  · rw [hall i' e' h hlt' hi'] at hq'; cases hq'
  · rw [hi] at hi'; cases hi'; rfl
  · rw [hall' i e h hlt hi] at hq; cases hq

def ReachBefore (log : List Ev) (j ep : Nat) (up : Bool) (t mw : Nat) : Prop :=
  ∃ i, LastBefore (Ev.isReach ep) log j i (.reach ep up t mw)

def DownAt (log : List Ev) (j ep : Nat) : Prop := ∃ td mw, ReachBefore log j ep false td mw

/-- the last connection attempt to `ep` before `j` was made at `t` while `ep` refused connections -/
def OwedBefore (log : List Ev) (j ep t : Nat) : Prop :=
  ∃ i, LastBefore (Ev.isConnect ep) log j i (.connect ep t) ∧ DownAt log i ep

section
variable (hj : log[j]? = some x)
include hj

theorem reachBefore_succ {ep : Nat} {up : Bool} {t mw : Nat} : ReachBefore log (j + 1) ep up t mw ↔
    x = .reach ep up t mw ∨ (Ev.isReach ep x = false ∧ ReachBefore log j ep up t mw) := by
  simp only [ReachBefore, lastBefore_succ hj, exists_or, exists_and_left, exists_eq_left, eq_comm (b := x)]

theorem owedBefore_succ {ep t : Nat} : OwedBefore log (j + 1) ep t ↔
    (x = .connect ep t ∧ DownAt log j ep) ∨ (Ev.isConnect ep x = false ∧ OwedBefore log j ep t) := by
  simp only [OwedBefore, lastBefore_succ hj, or_and_right, exists_or, and_assoc, exists_and_left, exists_eq_left,
    eq_comm (b := x)]

end

theorem reachBefore_fun {ep : Nat} {up up' : Bool} {t mw t' mw' : Nat} (h : ReachBefore log j ep up t mw)
    (h' : ReachBefore log j ep up' t' mw') : up = up' ∧ t = t' ∧ mw = mw' := by
  obtain ⟨i, h⟩ := h
  obtain ⟨i', h'⟩ := h'
  cases lastBefore_fun h h' (beq_self_eq_true ep) (beq_self_eq_true ep); exact ⟨rfl, rfl, rfl⟩

/-- the part of the state that only the C09 checks read (client closed, endpoints down / up, retries owed), for a state `s`
    reached before position `j` of `log`.  By positions, where `Rep` goes by prefixes: the C09 clauses say "the last event
    before `j` that …", which speaks of the positions after an event. -/
structure View9 (log : List Ev) (j : Nat) (s : St) : Prop where
  clientClosed : s.clientClosedAt.isSome = true ↔ ∃ i, i < j ∧ ∃ t, log[i]? = some (.clientclosed t)
  down : ∀ ep t, (ep, t) ∈ s.down ↔ ∃ mw, ReachBefore log j ep false t mw
  up : ∀ ep t mw, (ep, t, mw) ∈ s.upSince ↔ ReachBefore log j ep true t mw
  owed : ∀ ep t, (ep, t) ∈ s.owed ↔ OwedBefore log j ep t

theorem View9.step {s : St} (h : View9 log j s) (hj : log[j]? = some x) : View9 log (j + 1) (stStep s x) := by
  have hreach : ∀ ep, (∀ t, (ep, t) ∈ (stStep s x).down ↔ ∃ mw, ReachBefore log (j + 1) ep false t mw) ∧
      ∀ t mw, (ep, t, mw) ∈ (stStep s x).upSince ↔ ReachBefore log (j + 1) ep true t mw := fun ep => by
    rw [stStep_eq]
    simp only [reachBefore_succ hj, exists_or, exists_and_left, ← h.down, ← h.up]
    cases x with
    | reach ep' up t' mw' => cases up <;> simp [Ev.isReach, -List.mem_cons, -List.mem_filter, mem_put, mem_drop]
    | _ => simp [Ev.isReach]
  refine ⟨?_, fun ep => (hreach ep).1, fun ep => (hreach ep).2, fun ep t => ?_⟩
  · rw [stStep_eq]
    simp only [Nat.exists_lt_succ_right, hj, Option.some.injEq, ← h.clientClosed]
    cases x <;> simp
  · rw [stStep_eq, owedBefore_succ hj, ← h.owed]
    cases x with
    | connect ep' t' =>
      have hany : (s.down.any fun d => d.1 == ep') = true ↔ DownAt log j ep' := by
        simp only [List.any_eq_true, beq_iff_eq, Prod.exists, h.down]
        exact ⟨fun ⟨_, b, h, rfl⟩ => ⟨b, h⟩, fun ⟨b, h⟩ => ⟨_, b, h, rfl⟩⟩
      simp only [Ev.isConnect, beq_eq_false_iff_ne, ne_eq, Ev.connect.injEq]
      by_cases hd : DownAt log j ep'
      · rw [if_pos (hany.mpr hd), mem_put]
        exact or_congr_left ⟨fun h => ⟨h, h.1 ▸ hd⟩, And.left⟩
      · rw [if_neg (mt hany.mp hd), mem_drop]
        exact (or_iff_right fun h : (ep' = ep ∧ t' = t) ∧ DownAt log j ep => hd (h.1.1 ▸ h.2)).symm
    | _ => simp [Ev.isConnect]

/-- the C09 checks are made before and on an event, never at the end of the log -/
theorem view9 {e : Ev} (h : log[j]? = some e) : View9 log j (stAfter {} (log.take j)) := by
  induction j generalizing e with
  | zero =>
    have h0 : ∀ {q i e}, ¬ LastBefore q log 0 i e := fun h => Nat.not_lt_zero _ h.1
    exact ⟨by simp, by simp [ReachBefore, h0], by simp [ReachBefore, h0], by simp [OwedBefore, h0]⟩
  | succ j ih =>
    have hlt : j < log.length := Nat.lt_of_succ_lt (List.getElem?_eq_some_iff.mp h).1
    have hj : log[j]? = some log[j] := List.getElem?_eq_getElem hlt
    rw [List.take_succ_eq_append_getElem hlt, stAfter_snoc]
    exact (ih hj).step hj

end

end Scales.E2E
