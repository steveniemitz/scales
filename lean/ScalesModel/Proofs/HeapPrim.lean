import ScalesModel.Proofs.HeapFix

/-! The heap manipulations the operations are made of, each with the order fact it restores:
    delete-at-slot (swap with last, sift), re-insert of the last slot, append, drop of the last slot.
    (A key that shrinks or grows: `shrink_spec`, `grow_spec` in HeapGet, stated with the frame `__Get` needs.) -/
namespace Scales.Heap

def HS.delAt (s : HS) (i : Nat) : HS :=
  let s2 := s.swap i s.size
  let s3 := s2.fixDown i (s2.size - 1)
  if i ≠ s3.size then s3.fixUp i else s3

theorem delAt_reqs (s : HS) (i : Nat) : (s.delAt i).reqs = s.reqs := by
  unfold HS.delAt
  dsimp only
  split
  · rw [fixUp_reqs, fixDown_reqs]; rfl
  · rw [fixDown_reqs]; rfl

/-- the deletion `__Put` and `_RemoveSink` share, before the last slot is dropped: the arrangement facts hold of
    every well-formed heap, the order of the prefix if the slot was the only place out of order -/
theorem delAt_spec (s : HS) (hw : WF s) (i : Nat) (hi1 : 1 ≤ i) (hi2 : i ≤ s.size) :
    WF (s.delAt i) ∧ Frame s (s.delAt i) ∧ (s.delAt i).idAt s.size = s.idAt i ∧
    (OrdHole (L s) (s.size - 1) i → GP (L s) (s.size - 1) i → Ord (L (s.delAt i)) (s.size - 1)) := by
  have hn1 : 1 ≤ s.size := Nat.le_trans hi1 hi2
  have hpred : ∀ {k}, k ≤ s.size - 1 → k < s.size := fun hk => Nat.lt_of_le_of_lt hk (Nat.sub_lt hn1 Nat.one_pos)
  have hw2 := swap_WF s hw i s.size hi1 hi2 hn1 (Nat.le_refl _)
  have hf2 := swap_Frame s hw i s.size hi1 hi2 hn1 (Nat.le_refl _)
  have hid2 : (s.swap i s.size).idAt s.size = s.idAt i := by
    rw [swap_idAt s i s.size s.size hi1 hi2 hn1 (Nat.le_refl _), if_pos rfl]
  -- the swap moves the last slot into the hole; nothing else in the prefix changes
  have hL : ∀ k, 1 ≤ k → k ≤ s.size - 1 → k ≠ i → L (s.swap i s.size) k = L s k := by
    intro k _ hk hki
    rw [swap_L_fsw s i s.size hi1 hi2 hn1 (Nat.le_refl _), fsw_ne _ hki (Nat.ne_of_lt (hpred hk))]
  unfold HS.delAt
  simp only [swap_size]
  by_cases hc : i = s.size
  · -- the hole is the last slot: nothing to repair
    rw [fixDown_big _ _ _ (by omega), if_neg (by rw [swap_size]; exact not_not.2 hc)]
    exact ⟨hw2, hf2, hid2, fun hH _ k hk2 hkn => OrdHole.congr hL hH k hk2 hkn (hc ▸ Nat.ne_of_lt (hpred hkn))
      (hc ▸ Nat.ne_of_lt (Nat.lt_of_le_of_lt (Nat.div_le_self k 2) (hpred hkn)))⟩
  · have hlt : i ≤ s.size - 1 := Nat.le_sub_one_of_lt (Nat.lt_of_le_of_ne hi2 hc)
    have hsz2 : s.size - 1 ≤ (s.swap i s.size).size := by rw [swap_size]; exact Nat.sub_le _ _
    obtain ⟨w, f, a, o⟩ := hole_repair (s.swap i s.size) i (s.size - 1) hw2 hsz2 hi1 hlt
    rw [((fixDown_spec (s.swap i s.size) i (s.size - 1) hw2 hsz2).2.1.size.trans (swap_size s _ _)), if_pos hc]
    exact ⟨w, hf2.trans f, (a s.size (hpred (Nat.le_refl _))).trans hid2,
      fun hH hG => o (OrdHole.congr hL hH) (GP.congr hL hG)⟩

/-- re-insert: the last slot holds a minimum; swap it into slot `j`, sift both up -/
theorem reinsert_spec (s : HS) (hw : WF s) (j : Nat) (hj1 : 1 ≤ j) (hj2 : j ≤ s.size) :
    WF (((s.swap j s.size).fixUp j).fixUp ((s.swap j s.size).fixUp j).size) ∧
    Frame s (((s.swap j s.size).fixUp j).fixUp ((s.swap j s.size).fixUp j).size) ∧
    (Ord (L s) (s.size - 1) → (∀ p, 1 ≤ p → p ≤ s.size → L s s.size ≤ L s p) →
      Ord (L (((s.swap j s.size).fixUp j).fixUp ((s.swap j s.size).fixUp j).size)) s.size) := by
  have hn1 : 1 ≤ s.size := Nat.le_trans hj1 hj2
  have hpred : ∀ {k}, k ≤ s.size - 1 → k ≠ s.size := fun hk =>
    Nat.ne_of_lt (Nat.lt_of_le_of_lt hk (Nat.sub_lt hn1 Nat.one_pos))
  have hw4 := swap_WF s hw j s.size hj1 hj2 hn1 (Nat.le_refl _)
  have hf4 := swap_Frame s hw j s.size hj1 hj2 hn1 (Nat.le_refl _)
  have hsz4 := swap_size s j s.size
  obtain ⟨w5, f5, _, o5⟩ := fixUp_spec (s.swap j s.size) j hw4 (le_of_le_of_eq hj2 hsz4.symm)
  have hsz5 : ((s.swap j s.size).fixUp j).size = s.size := f5.size.trans hsz4
  rw [hsz5]
  obtain ⟨w6, f6, _, o6⟩ := fixUp_spec ((s.swap j s.size).fixUp j) s.size w5 (Nat.le_of_eq hsz5.symm)
  refine ⟨w6, (hf4.trans f5).trans f6, fun ho hmin => o6 s.size (Nat.le_of_eq hsz5.symm) (Nat.le_refl _)
    (Ord_up_top _ _ ?_) (GP_top _ _ hn1)⟩
  -- on the prefix the swap has put the minimum into slot `j`
  have hL : ∀ k, 1 ≤ k → k ≤ s.size - 1 → L (s.swap j s.size) k = Function.update (L s) j (L s s.size) k := by
    intro k _ hk
    rw [swap_L_fsw s j s.size hj1 hj2 hn1 (Nat.le_refl _)]
    by_cases e : k = j
    · rw [e, Function.update_self, fsw_fst _ (e ▸ hpred hk)]
    · rw [Function.update_of_ne e _ _, fsw_ne _ e (hpred hk)]
  have hu := upd_shrink (L s) (s.size - 1) j (L s s.size) ho (hmin j hj1 hj2)
  by_cases hc : j = s.size
  · -- the last slot stays where it is
    subst hc
    have hO : Ord (L (s.swap s.size s.size)) (s.size - 1) :=
      Ord.congr (fun k hk1 hk => (hL k hk1 hk).trans (Function.update_of_ne (hpred hk) _ _)) ho
    exact Ord_mono _ _ _ (o5 s.size (Nat.le_of_eq hsz4.symm) hj2 (Ord_up_top _ _ hO) (GP_top _ _ hn1))
      (Nat.sub_le _ _)
  · exact o5 (s.size - 1) (le_of_le_of_eq (Nat.sub_le _ _) hsz4.symm)
      (Nat.le_sub_one_of_lt (Nat.lt_of_le_of_ne hj2 hc)) (OrdExUp.congr hL hu.1)
      (GP.congr (fun k hk1 hk _ => hL k hk1 hk) hu.2)

def HS.push (s : HS) (nd : Node) : HS :=
  { s with nodes := s.nodes ++ [nd], heap := s.heap ++ [s.nodes.length] }

@[simp] theorem push_size (s : HS) (nd : Node) : (s.push nd).size = s.size + 1 := List.length_append
@[simp] theorem push_len (s : HS) (nd : Node) : (s.push nd).nodes.length = s.nodes.length + 1 := List.length_append
@[simp] theorem push_down (s : HS) (nd : Node) : (s.push nd).down = s.down := rfl
@[simp] theorem push_reqs (s : HS) (nd : Node) : (s.push nd).reqs = s.reqs := rfl
@[simp] theorem push_servers (s : HS) (nd : Node) : (s.push nd).servers = s.servers := rfl

theorem push_node (s : HS) (nd : Node) (id : Nat) :
    (s.push nd).node id = if id = s.nodes.length then nd else s.node id := by
  unfold HS.push HS.node
  rw [List.getD_eq_getElem?_getD, List.getD_eq_getElem?_getD]
  rcases Nat.lt_trichotomy id s.nodes.length with h | h | h
  · rw [List.getElem?_append_left h, if_neg (Nat.ne_of_lt h)]
  · rw [if_pos h, h, List.getElem?_append_right (Nat.le_refl _), Nat.sub_self]
    rfl
  · rw [if_neg (Nat.ne_of_gt h), List.getElem?_eq_none (Nat.le_of_lt h), List.getElem?_eq_none]
    rw [List.length_append]
    exact h

theorem push_node_old (s : HS) (nd : Node) {id : Nat} (h : id < s.nodes.length) : (s.push nd).node id = s.node id := by
  rw [push_node, if_neg (Nat.ne_of_lt h)]

theorem push_idAt_new (s : HS) (nd : Node) : (s.push nd).idAt (s.size + 1) = s.nodes.length := by
  unfold HS.idAt HS.push HS.size
  rw [if_neg (Nat.succ_ne_zero _), Nat.add_sub_cancel, List.getD_eq_getElem?_getD,
    List.getElem?_append_right (Nat.le_refl _), Nat.sub_self]
  rfl

theorem push_idAt_old (s : HS) (nd : Node) (p : Nat) (h1 : 1 ≤ p) (h2 : p ≤ s.size) :
    (s.push nd).idAt p = s.idAt p := by
  obtain ⟨hl, he⟩ := idAt_pos s p h1 h2
  rw [he]
  unfold HS.idAt HS.push
  rw [if_neg (Nat.ne_of_gt h1), List.getD_eq_getElem?_getD, List.getElem?_append_left hl,
    List.getElem?_eq_getElem hl]
  rfl

theorem push_inHeap (s : HS) (nd : Node) (id : Nat) :
    InHeap (s.push nd) id ↔ InHeap s id ∨ id = s.nodes.length := by
  constructor
  · rintro ⟨p, h1, h2, he⟩
    rw [push_size] at h2
    rcases Nat.lt_or_eq_of_le h2 with h | h
    · rw [push_idAt_old s nd p h1 (Nat.le_of_lt_succ h)] at he
      exact Or.inl ⟨p, h1, Nat.le_of_lt_succ h, he⟩
    · rw [h, push_idAt_new] at he
      exact Or.inr he.symm
  · rintro (⟨p, h1, h2, he⟩ | h)
    · exact ⟨p, h1, by rw [push_size]; exact Nat.le_succ_of_le h2, (push_idAt_old s nd p h1 h2).trans he⟩
    · exact ⟨s.size + 1, Nat.le_add_left 1 _, by rw [push_size], (push_idAt_new s nd).trans h.symm⟩

theorem push_WF (s : HS) (hw : WF s) (nd : Node) (hx : nd.index = (s.size + 1 : Nat)) : WF (s.push nd) := by
  have hnot : ∀ p, 1 ≤ p → p ≤ s.size → s.idAt p ≠ s.nodes.length :=
    fun p h1 h2 => Nat.ne_of_lt (hw.inStore p h1 h2)
  have hcase : ∀ p, p ≤ (s.push nd).size → p ≤ s.size ∨ p = s.size + 1 := by
    intro p h; rw [push_size] at h
    exact (Nat.lt_or_eq_of_le h).imp Nat.le_of_lt_succ id
  constructor
  · intro p h1 h2
    rw [push_len]
    rcases hcase p h2 with h | h
    · rw [push_idAt_old s nd p h1 h]; exact Nat.lt_succ_of_lt (hw.inStore p h1 h)
    · rw [h, push_idAt_new]; exact Nat.lt_succ_self _
  · intro p q a b c d e
    rcases hcase p b with hp | hp <;> rcases hcase q d with hq | hq
    · rw [push_idAt_old s nd p a hp, push_idAt_old s nd q c hq] at e
      exact hw.inj p q a hp c hq e
    · rw [push_idAt_old s nd p a hp, hq, push_idAt_new] at e
      exact absurd e (hnot p a hp)
    · rw [hp, push_idAt_new, push_idAt_old s nd q c hq] at e
      exact absurd e.symm (hnot q c hq)
    · rw [hp, hq]
  · intro p h1 h2
    unfold HS.at
    rcases hcase p h2 with h | h
    · rw [push_idAt_old s nd p h1 h, push_node_old s nd (hw.inStore p h1 h)]
      exact hw.idx p h1 h
    · rw [h, push_idAt_new, push_node, if_pos rfl, hx]
  · intro id hl hn
    rw [push_len] at hl
    rw [push_inHeap s nd id, not_or] at hn
    rw [push_node, if_neg hn.2]
    exact hw.off id (Nat.lt_of_le_of_ne (Nat.le_of_lt_succ hl) hn.2) hn.1

theorem push_L_old (s : HS) (hw : WF s) (nd : Node) (p : Nat) (h1 : 1 ≤ p) (h2 : p ≤ s.size) :
    L (s.push nd) p = L s p := by
  unfold L HS.at
  rw [push_idAt_old s nd p h1 h2, push_node_old s nd (hw.inStore p h1 h2)]

theorem push_spec (s : HS) (hw : WF s) (nd : Node) (hx : nd.index = (s.size + 1 : Nat)) :
    WF ((s.push nd).fixUp (s.size + 1)) ∧ Frame (s.push nd) ((s.push nd).fixUp (s.size + 1)) ∧
    (Ord (L s) s.size → Ord (L ((s.push nd).fixUp (s.size + 1))) (s.size + 1)) := by
  have hsz := push_size s nd
  obtain ⟨w, f, _, o⟩ := fixUp_spec (s.push nd) (s.size + 1) (push_WF s hw nd hx) (Nat.le_of_eq hsz.symm)
  exact ⟨w, f, fun ho => o (s.size + 1) (Nat.le_of_eq hsz.symm) (Nat.le_refl _)
    (Ord_up_top _ _ (Ord.congr (push_L_old s hw nd) ho)) (GP_top _ _ (Nat.le_add_left 1 _))⟩

def HS.pop (s : HS) (c : Nat) : HS :=
  let s3 : HS := { s with heap := s.heap.dropLast }
  let nid := s.idAt s.size
  s3.setNode nid { s3.node nid with index := -1, closed := c }

@[simp] theorem pop_size (s : HS) (c : Nat) : (s.pop c).size = s.size - 1 := List.length_dropLast
@[simp] theorem pop_len (s : HS) (c : Nat) : (s.pop c).nodes.length = s.nodes.length := List.length_set

theorem pop_idAt (s : HS) (c : Nat) (p : Nat) (h1 : 1 ≤ p) (h2 : p < s.size) : (s.pop c).idAt p = s.idAt p := by
  unfold HS.pop
  simp only [setNode_idAt]
  unfold HS.idAt HS.size at *
  rw [if_neg (Nat.ne_of_gt h1), if_neg (Nat.ne_of_gt h1), List.getD_eq_getElem?_getD, List.getD_eq_getElem?_getD,
    List.getElem?_dropLast, if_pos (by omega)]

theorem pop_node (s : HS) (c : Nat) (id : Nat) :
    (s.pop c).node id = if id = s.idAt s.size ∧ s.idAt s.size < s.nodes.length
      then { s.node id with index := -1, closed := c } else s.node id := by
  unfold HS.pop
  simp only
  rw [node_setNode]
  split
  · rename_i h; rw [h.1]; rfl
  · rfl

theorem pop_node_ne (s : HS) (c : Nat) {id : Nat} (h : id ≠ s.idAt s.size) : (s.pop c).node id = s.node id := by
  rw [pop_node, if_neg fun x => h x.1]

theorem idAt_ne_last (s : HS) (hw : WF s) (p : Nat) (h1 : 1 ≤ p) (h2 : p < s.size) : s.idAt p ≠ s.idAt s.size :=
  fun e => Nat.ne_of_lt h2 (hw.inj p s.size h1 (Nat.le_of_lt h2) (Nat.le_trans h1 (Nat.le_of_lt h2)) (Nat.le_refl _) e)

theorem pop_inHeap (s : HS) (hw : WF s) (hn : 1 ≤ s.size) (c : Nat) (id : Nat) :
    InHeap (s.pop c) id ↔ InHeap s id ∧ id ≠ s.idAt s.size := by
  constructor
  · rintro ⟨p, h1, h2, he⟩
    rw [pop_size] at h2
    have h2' : p < s.size := Nat.lt_of_le_of_lt h2 (Nat.sub_lt hn Nat.one_pos)
    rw [pop_idAt s c p h1 h2'] at he
    exact ⟨⟨p, h1, Nat.le_of_lt h2', he⟩, he ▸ idAt_ne_last s hw p h1 h2'⟩
  · rintro ⟨⟨p, h1, h2, he⟩, hne⟩
    have h2' : p < s.size := Nat.lt_of_le_of_ne h2 fun e => hne (by rw [← he, e])
    exact ⟨p, h1, by rw [pop_size]; exact Nat.le_sub_one_of_lt h2', (pop_idAt s c p h1 h2').trans he⟩

theorem pop_WF (s : HS) (hw : WF s) (hn : 1 ≤ s.size) (c : Nat) : WF (s.pop c) := by
  have hlt : ∀ p, p ≤ (s.pop c).size → p < s.size := fun p h =>
    Nat.lt_of_le_of_lt (pop_size s c ▸ h) (Nat.sub_lt hn Nat.one_pos)
  constructor
  · intro p h1 h2
    rw [pop_idAt s c p h1 (hlt p h2), pop_len]
    exact hw.inStore p h1 (Nat.le_of_lt (hlt p h2))
  · intro p q a b c' d e
    rw [pop_idAt s c p a (hlt p b), pop_idAt s c q c' (hlt q d)] at e
    exact hw.inj p q a (Nat.le_of_lt (hlt p b)) c' (Nat.le_of_lt (hlt q d)) e
  · intro p h1 h2
    unfold HS.at
    rw [pop_idAt s c p h1 (hlt p h2), pop_node_ne s c (idAt_ne_last s hw p h1 (hlt p h2))]
    exact hw.idx p h1 (Nat.le_of_lt (hlt p h2))
  · intro id hl hnot
    rw [pop_len] at hl
    rw [pop_inHeap s hw hn c id] at hnot
    by_cases e : id = s.idAt s.size
    · rw [pop_node, if_pos ⟨e, e ▸ hl⟩]
    · rw [pop_node_ne s c e]
      exact hw.off id hl fun h => hnot ⟨h, e⟩

theorem pop_L (s : HS) (hw : WF s) (c : Nat) (p : Nat) (h1 : 1 ≤ p) (h2 : p < s.size) :
    L (s.pop c) p = L s p := by
  unfold L HS.at
  rw [pop_idAt s c p h1 h2, pop_node_ne s c (idAt_ne_last s hw p h1 h2)]

end Scales.Heap
