import ScalesModel.Proofs.HeapMember
import ScalesModel.Adapter.LB
import ScalesModel.Proofs.EmaLemmas
import ScalesModel.Proofs.ApertureCalm

/-!
  Invariants of the aperture model (Model/Aperture.lean) that C05 and C06 rest on:
  * `PInv`: `WF` of the heap, and the eligible endpoints `E a` (heap nodes, then idle) are pairwise
    distinct — the two halves of the partition are disjoint and duplicate-free;
  * `LBd`: the active set is at least `min_size` large unless no idle endpoint is left;
  * `LogOk`: every `_AdjustAperture` call logged in the current operation followed the decision table.
  `Stable cfg a a'` says `a'` keeps all of this, has the same eligible endpoints as `a` and the same
  `_servers`; it holds for every function of the model that is not a join or a leave.
-/
namespace Scales.Aperture
open Scales.Heap

def E (a : AS) : List Nat := heapEps a.hs ++ a.idle

structure PInv (cfg : Cfg) (a : AS) : Prop where
  wf : WF a.hs
  nodup : (E a).Nodup
  /-- the plain heap balancer has no idle endpoints and no jitter -/
  kind : cfg.aperture = false → a.idle = [] ∧ a.jitterWait = none

/-- plain heap balancer: nothing is ever idle; aperture: `min_size` active unless nothing is idle -/
def LBd (cfg : Cfg) (a : AS) : Prop := cfg.minSize ≤ a.hs.size ∨ a.idle = []

/-- the decision table of `_AdjustAperture`, as a predicate on what one call saw and did -/
def adjGood (cfg : Cfg) (r : AdjRec) : Prop :=
  (r.size' = r.size + 1 → r.size' ≤ cfg.maxSize) ∧
  (LB.tableExpand cfg r = true → r.size' = r.size + 1) ∧
  (LB.tableExpand cfg r = false → LB.tableContract cfg r = true → r.size' + 1 = r.size) ∧
  (LB.tableExpand cfg r = false → LB.tableContract cfg r = false → r.size' = r.size) ∧
  0 ≤ r.dt

def LogOk (cfg : Cfg) (a : AS) : Prop := ∀ r ∈ a.adjLog, adjGood cfg r

structure Stable (cfg : Cfg) (a a' : AS) : Prop where
  inv : PInv cfg a'
  mem : ∀ x, x ∈ E a' ↔ x ∈ E a
  servers : a'.hs.servers = a.hs.servers
  lbd : LBd cfg a → LBd cfg a'
  log : LogOk cfg a → LogOk cfg a'

theorem Stable.refl {cfg : Cfg} {a : AS} (h : PInv cfg a) : Stable cfg a a :=
  ⟨h, fun _ => Iff.rfl, rfl, id, id⟩

theorem Stable.trans {cfg : Cfg} {a b c : AS} (h1 : Stable cfg a b) (h2 : Stable cfg b c) : Stable cfg a c :=
  ⟨h2.inv, fun x => (h2.mem x).trans (h1.mem x), h2.servers.trans h1.servers, fun h => h2.lbd (h1.lbd h),
   fun h => h2.log (h1.log h)⟩

theorem Stable.of_perm {cfg : Cfg} {a a' : AS} (inv : PInv cfg a) (hw : WF a'.hs) (hp : (E a').Perm (E a))
    (hs : a'.hs.servers = a.hs.servers) (hk : cfg.aperture = false → a'.idle = [] ∧ a'.jitterWait = none)
    (hb : LBd cfg a → LBd cfg a') (hl : a'.adjLog = a.adjLog) : Stable cfg a a' :=
  ⟨⟨hw, hp.nodup_iff.2 inv.nodup, hk⟩, fun _ => hp.mem_iff, hs, hb, fun h => by unfold LogOk; rw [hl]; exact h⟩

theorem Stable.of_hframe {cfg : Cfg} {a a' : AS} (inv : PInv cfg a) (h : HFrame a.hs a'.hs) (hi : a'.idle = a.idle)
    (hl : a'.adjLog = a.adjLog) (hj : a'.jitterWait = a.jitterWait) : Stable cfg a a' :=
  Stable.of_perm inv h.wf (by unfold E; rw [hi]; exact h.eps.append_right _) h.servers
    (by rw [hi, hj]; exact inv.kind) (by unfold LBd; rw [hi, h.size]; exact id) hl

theorem PInv.idle_nodup {cfg : Cfg} {a : AS} (inv : PInv cfg a) : a.idle.Nodup :=
  (List.nodup_append.1 inv.nodup).2.1

theorem PInv.not_both {cfg : Cfg} {a : AS} (inv : PInv cfg a) {x : Nat} (h : x ∈ heapEps a.hs) : x ∉ a.idle :=
  fun hi => (List.nodup_append.1 inv.nodup).2.2 x h x hi rfl

theorem PInv.aperture {cfg : Cfg} {a : AS} (inv : PInv cfg a) {x : Nat} (h : x ∈ a.idle) : cfg.aperture = true :=
  Bool.eq_true_of_not_eq_false fun hc => by rw [(inv.kind hc).1] at h; cases h

@[simp] theorem updVarz_hs (a : AS) : a.updVarz.hs = a.hs := rfl
@[simp] theorem updVarz_idle (a : AS) : a.updVarz.idle = a.idle := rfl
@[simp] theorem updVarz_adjLog (a : AS) : a.updVarz.adjLog = a.adjLog := rfl
@[simp] theorem updVarz_jitterWait (a : AS) : a.updVarz.jitterWait = a.jitterWait := rfl
@[simp] theorem heapAdd_jitterWait (cfg : Cfg) (a : AS) (ep : Nat) : (a.heapAdd cfg ep).jitterWait = a.jitterWait := rfl
@[simp] theorem heapAdd_hs (cfg : Cfg) (a : AS) (ep : Nat) : (a.heapAdd cfg ep).hs = a.hs.addSink ep := rfl
@[simp] theorem heapAdd_idle (cfg : Cfg) (a : AS) (ep : Nat) : (a.heapAdd cfg ep).idle = a.idle := rfl
@[simp] theorem heapAdd_adjLog (cfg : Cfg) (a : AS) (ep : Nat) : (a.heapAdd cfg ep).adjLog = a.adjLog := rfl

theorem addSink_size {s : HS} (hw : WF s) (ep : Nat) : (s.addSink ep).size = s.size + 1 := by
  have h := (addSink_eps hw ep).length_eq
  rwa [List.length_cons, heapEps_length, heapEps_length] at h

theorem addSink_servers {s : HS} (hw : WF s) (ep : Nat) : (s.addSink ep).servers = s.servers :=
  (addSink_spec hw ep).2.2.2.2.1

theorem removeSink_size {s : HS} (hw : WF s) (ep : Nat) (h : ep ∈ heapEps s) :
    (s.removeSink ep).1.size + 1 = s.size := by
  have h := (removeSink_eps hw ep (removeSink_of_mem hw ep h)).length_eq
  rw [List.length_cons, heapEps_length, heapEps_length] at h
  exact h.symm

theorem perm_cons_filter_ne {l : List Nat} (hn : l.Nodup) {c : Nat} (hc : c ∈ l) :
    l.Perm (c :: l.filter (· ≠ c)) := by
  have e : l.filter (· ≠ c) = l.erase c := by
    rw [hn.erase_eq_filter]; exact List.filter_congr (fun x _ => Bool.eq_iff_iff.2 (by rw [decide_eq_true_iff, bne_iff_ne]))
  rw [e]; exact List.perm_cons_erase hc

theorem filter_ne_self {l : List Nat} {c : Nat} (h : c ∉ l) : l.filter (· ≠ c) = l :=
  List.filter_eq_self.2 fun _ hx => decide_eq_true fun e => h (e ▸ hx)

theorem filter_ne_length {l : List Nat} (hn : l.Nodup) {c : Nat} (hc : c ∈ l) :
    (l.filter (· ≠ c)).length + 1 = l.length :=
  (perm_cons_filter_ne hn hc).length_eq.symm

theorem setAdd_of_not_mem {l : List Nat} {x : Nat} (h : x ∉ l) : setAdd l x = l ++ [x] := if_neg h

theorem expand_perm {cfg : Cfg} {a : AS} (inv : PInv cfg a) {c : Nat} (hc : c ∈ a.idle) :
    (heapEps (a.hs.addSink c) ++ a.idle.filter (· ≠ c)).Perm (E a) :=
  ((addSink_eps inv.wf c).append_right _).trans
    (List.perm_middle.symm.trans ((perm_cons_filter_ne inv.idle_nodup hc).symm.append_left _))

theorem numHealthy_le (a : AS) : a.numHealthy ≤ a.hs.size := List.length_filter_le _ _

theorem contractPick_mem {a : AS} {ep : Nat} (h : a.contractPick = some ep) : ep ∈ heapEps a.hs := by
  have key : ∀ (p : Nat → Bool) (id : Nat), a.hs.heap.find? p = some id → (a.hs.node id).ep ∈ heapEps a.hs :=
    fun p id hf => List.mem_map.2 ⟨id, List.mem_of_find?_eq_some hf, rfl⟩
  unfold AS.contractPick at h
  split at h
  · rename_i id hf
    exact Option.some.inj h ▸ key _ id hf
  · split at h
    · rename_i id hf
      exact Option.some.inj h ▸ key _ id hf
    · cases h

theorem contractPick_some {a : AS} (hp : a.pending = []) (hs : 0 < a.hs.size) : a.contractPick ≠ none := by
  obtain ⟨x, hx⟩ := List.exists_mem_of_length_pos hs
  have hf : a.hs.heap.find? (fun id => !(a.pending.contains (a.hs.node id).ep)) ≠ none := by
    rw [Ne, List.find?_eq_none]
    exact fun h => absurd (h x hx) (by rw [hp]; simp)
  unfold AS.contractPick
  split
  · exact Option.some_ne_none _
  · split
    · exact Option.some_ne_none _
    · rename_i h; exact absurd h hf

theorem shrink_perm {cfg : Cfg} {a : AS} (inv : PInv cfg a) {ep : Nat} (hep : ep ∈ heapEps a.hs) :
    (heapEps (a.hs.removeSink ep).1 ++ setAdd a.idle ep).Perm (E a) := by
  rw [setAdd_of_not_mem (inv.not_both hep), ← List.append_assoc]
  exact (List.perm_append_singleton _ _).trans
    ((removeSink_eps inv.wf ep (removeSink_of_mem inv.wf ep hep)).append_right _).symm

theorem Moves.stable {cfg : Cfg} {a a' : AS} (m : Moves cfg a a') (inv : PInv cfg a) : Stable cfg a a' := by
  induction m with
  | refl => exact Stable.refl inv
  | @same b c _ hs idle u jw ih =>
    exact ih.trans (Stable.of_perm ih.inv (hs ▸ ih.inv.wf) (by unfold E; rw [hs, idle]) (by rw [hs])
      (fun hk => ⟨by rw [idle]; exact (ih.inv.kind hk).1, jw hk (ih.inv.kind hk).2⟩)
      (by unfold LBd; rw [hs, idle]; exact id) u.adjLog)
  | expand _ x hx ih =>
    have inv := ih.inv
    refine ih.trans (Stable.of_perm inv (addSink_spec inv.wf x).1 (expand_perm inv hx) (addSink_servers inv.wf x)
      (fun hk => absurd (inv.aperture hx) (by rw [hk]; exact Bool.false_ne_true)) (fun hl => Or.inl ?_) rfl)
    rw [addSink_size inv.wf x]
    exact Nat.le_succ_of_le (hl.resolve_right (List.ne_nil_of_mem hx))
  | @shrink b _ ep hp hh hap ih =>
    have inv := ih.inv
    have hep := contractPick_mem hp
    -- a plain heap balancer is never waiting in `_Jitter`
    have hap' : cfg.aperture = true := hap.elim id fun hj => Bool.eq_true_of_not_eq_false fun hk => by
      rw [(inv.kind hk).2] at hj; cases hj
    refine ih.trans (Stable.of_perm inv (removeSink_spec inv.wf ep).1 (shrink_perm inv hep) (removeSink_spec inv.wf ep).2.1
      (fun hk => by rw [hap'] at hk; cases hk) (fun _ => Or.inl ?_) rfl)
    have hlt : cfg.minSize < (b.hs.removeSink ep).1.size + 1 :=
      removeSink_size inv.wf ep hep ▸ lt_of_lt_of_le hh (numHealthy_le b)
    exact Nat.le_of_lt_succ hlt

theorem tryExpand_spec (cfg : Cfg) {a : AS} (inv : PInv cfg a) (lp : Bool) :
    Stable cfg a (a.tryExpand cfg lp).1 ∧
    (a.idle = [] → (a.tryExpand cfg lp).1.hs = a.hs ∧ (a.tryExpand cfg lp).1.idle = []) ∧
    (a.idle ≠ [] → (a.tryExpand cfg lp).1.hs.size = a.hs.size + 1 ∧
      (a.tryExpand cfg lp).1.idle.length + 1 = a.idle.length) := by
  refine ⟨(tryExpand_moves cfg a lp).stable inv, ?_⟩
  rcases tryExpand_shape cfg a lp with ⟨hi, h⟩ | ⟨c, cs, b, on', hc, h⟩ <;> rw [h]
  · exact ⟨fun _ => ⟨rfl, hi⟩, fun hn => absurd hi hn⟩
  · exact ⟨fun hi => absurd hi (List.ne_nil_of_mem hc),
      fun _ => ⟨addSink_size inv.wf c, filter_ne_length inv.idle_nodup hc⟩⟩

theorem shrink_sizes {cfg : Cfg} {a : AS} (inv : PInv cfg a) {ep : Nat} (hp : a.contractPick = some ep) :
    (a.hs.removeSink ep).1.size + 1 = a.hs.size ∧ (setAdd a.idle ep).length = a.idle.length + 1 := by
  have hep := contractPick_mem hp
  refine ⟨removeSink_size inv.wf ep hep, ?_⟩
  rw [setAdd_of_not_mem (inv.not_both hep), List.length_append]; rfl

theorem onNodeDown_spec (cfg : Cfg) {a : AS} (inv : PInv cfg a) (nid : Nat) :
    Stable cfg a (a.onNodeDown cfg nid).1 ∧ a.hs.size ≤ (a.onNodeDown cfg nid).1.hs.size := by
  refine ⟨(onNodeDown_moves cfg a nid).stable inv, ?_⟩
  rcases onNodeDown_eq cfg a nid with e | e <;> rw [e]
  obtain ⟨_, h0, h1⟩ := tryExpand_spec cfg inv false
  by_cases hi : a.idle = []
  · rw [(h0 hi).1]
  · rw [(h1 hi).1]; exact Nat.le_succ _

theorem decision_cases (cfg : Cfg) (a : AS) (avg : Rat) :
    (a.growCond cfg avg ∧ a.decision cfg avg = .expand) ∨
    (¬ a.growCond cfg avg ∧ (apLoad cfg a.hs.size avg ≤ cfg.minLoad ∧ cfg.minSize < a.hs.size) ∧
      a.decision cfg avg = .contract) ∨
    (¬ a.growCond cfg avg ∧ ¬ (apLoad cfg a.hs.size avg ≤ cfg.minLoad ∧ cfg.minSize < a.hs.size) ∧
      a.decision cfg avg = .stay) := by
  unfold AS.decision AS.growCond
  by_cases h1 : cfg.maxLoad ≤ apLoad cfg a.hs.size avg ∧ a.idle ≠ [] ∧ a.hs.size < cfg.maxSize
  · exact Or.inl ⟨h1, if_pos h1⟩
  · by_cases h2 : apLoad cfg a.hs.size avg ≤ cfg.minLoad ∧ cfg.minSize < a.hs.size
    · exact Or.inr (Or.inl ⟨h1, h2, (if_neg h1).trans (if_pos h2)⟩)
    · exact Or.inr (Or.inr ⟨h1, h2, (if_neg h1).trans (if_neg h2)⟩)

theorem adjusted_spec (cfg : Cfg) {a : AS} (inv : PInv cfg a) (hap : cfg.aperture = true) (avg : Rat) :
    Stable cfg a (adjusted cfg a avg) ∧
    (a.growCond cfg avg → (adjusted cfg a avg).hs.size = a.hs.size + 1 ∧
      (adjusted cfg a avg).idle.length + 1 = a.idle.length) ∧
    (¬ a.growCond cfg avg → a.shrinkCond cfg avg → (adjusted cfg a avg).hs.size + 1 = a.hs.size ∧
      (adjusted cfg a avg).idle.length = a.idle.length + 1) ∧
    (¬ a.growCond cfg avg → ¬ a.shrinkCond cfg avg → (adjusted cfg a avg).hs.size = a.hs.size ∧
      (adjusted cfg a avg).idle.length = a.idle.length) := by
  refine ⟨(adjusted_moves cfg a avg (Or.inl hap)).stable inv, ?_⟩
  unfold adjusted
  rcases decision_cases cfg a avg with ⟨hg, hd⟩ | ⟨hg, hc, hd⟩ | ⟨hg, hc, hd⟩ <;> rw [hd]
  · exact ⟨fun _ => (tryExpand_spec cfg inv false).2.2 hg.2.1, fun h => absurd hg h, fun h => absurd hg h⟩
  · rcases contract_shape cfg a false with ⟨hn, e⟩ | ⟨ep, hp, h1, h2, e⟩ <;> rw [e]
    · -- nothing moved: the shrink condition fails
      refine ⟨fun h => absurd h hg, fun _ hs => ?_, fun _ _ => ⟨rfl, rfl⟩⟩
      rcases hn with hn | hn | hn
      · exact absurd hs.2.2.1 hn.1
      · exact absurd hs.2.2.2 (Nat.not_lt.2 hn)
      · exact absurd hn (contractPick_some hs.2.2.1 (Nat.zero_lt_of_lt hc.2))
    · -- an endpoint moved: the shrink condition holds
      exact ⟨fun h => absurd h hg, fun _ _ => shrink_sizes inv hp,
        fun _ hs => absurd ⟨hc.1, hc.2, h1.resolve_right Bool.false_ne_true, h2⟩ hs⟩
  · exact ⟨fun h => absurd h hg, fun _ hs => absurd ⟨hs.1, hs.2.1⟩ hc, fun _ _ => ⟨rfl, rfl⟩⟩

theorem tableExpand_iff (cfg : Cfg) (r : AdjRec) :
    LB.tableExpand cfg r = true ↔ (cfg.maxLoad ≤ apLoad cfg r.size r.avg ∧ 0 < r.idle ∧ r.size < cfg.maxSize) := by
  unfold LB.tableExpand
  rw [Bool.and_eq_true, Bool.and_eq_true, decide_eq_true_eq, decide_eq_true_eq, decide_eq_true_eq, and_assoc]

theorem tableContract_iff (cfg : Cfg) (r : AdjRec) :
    LB.tableContract cfg r = true ↔ (LB.tableExpand cfg r = false ∧ apLoad cfg r.size r.avg ≤ cfg.minLoad ∧
      cfg.minSize < r.size ∧ r.pend = 0 ∧ cfg.minSize < r.healthy) := by
  unfold LB.tableContract
  simp only [Bool.and_eq_true, decide_eq_true_eq, Bool.not_eq_true', and_assoc]

theorem adjGood_recOf (cfg : Cfg) (a a2 : AS) (amount : Int) (i : AdjIn)
    (hg : a.growCond cfg i.avg → a2.hs.size = a.hs.size + 1)
    (hs : ¬ a.growCond cfg i.avg → a.shrinkCond cfg i.avg → a2.hs.size + 1 = a.hs.size)
    (hn : ¬ a.growCond cfg i.avg → ¬ a.shrinkCond cfg i.avg → a2.hs.size = a.hs.size) :
    adjGood cfg (recOf a a2 amount i) := by
  have hE : LB.tableExpand cfg (recOf a a2 amount i) = true ↔ a.growCond cfg i.avg := by
    rw [tableExpand_iff]
    show _ ∧ 0 < a.idle.length ∧ _ ↔ _ ∧ a.idle ≠ [] ∧ _
    rw [List.length_pos_iff]; exact Iff.rfl
  have hC : LB.tableContract cfg (recOf a a2 amount i) = true ↔ ¬ a.growCond cfg i.avg ∧ a.shrinkCond cfg i.avg := by
    rw [tableContract_iff, ← Bool.not_eq_true, hE]
    show _ ∧ _ ∧ _ ∧ a.pending.length = 0 ∧ _ ↔ _ ∧ _ ∧ _ ∧ a.pending = [] ∧ _
    rw [List.length_eq_zero_iff]; exact Iff.rfl
  have hdt : (0 : Rat) ≤ (recOf a a2 amount i).dt := by
    show (0 : Rat) ≤ if a.ema.isSome = true then MonoClock.sample a.clock i.now - a.clock else 0
    split
    · exact sub_nonneg.2 (MonoClock.le_sample _ _)
    · exact le_refl _
  refine ⟨?_, fun h => hg (hE.1 h), fun h1 h2 => hs (hC.1 h2).1 (hC.1 h2).2, fun h1 h2 => ?_, hdt⟩
  · show a2.hs.size = a.hs.size + 1 → a2.hs.size ≤ cfg.maxSize
    intro h
    by_cases g : a.growCond cfg i.avg
    · rw [h]; exact g.2.2
    · by_cases s : a.shrinkCond cfg i.avg
      · exact absurd ((hs g s).symm.trans (congrArg (· + 1) h)) (Nat.ne_of_lt (Nat.lt_add_of_pos_right Nat.two_pos))
      · exact absurd ((hn g s).symm.trans h) (Nat.ne_of_lt (Nat.lt_succ_self _))
  · have g : ¬ a.growCond cfg i.avg := fun g => Bool.false_ne_true (h1.symm.trans (hE.2 g))
    exact hn g fun s => Bool.false_ne_true (h2.symm.trans (hC.2 ⟨g, s⟩))

/-- `_AdjustAperture` keeps the invariants: the sample touches none of them, the branch is a move (`adjusted_moves`), and the
    record of the call follows the table (`adjGood_recOf`) -/
theorem adjustWith_spec (cfg : Cfg) {a : AS} (inv : PInv cfg a) (hap : cfg.aperture = true) (amount : Int)
    (i : AdjIn) (rest : List AdjIn) (missing : Bool) : Stable cfg a (a.adjustWith cfg amount i rest missing) := by
  have s1 : Stable cfg a (sampled a amount i rest missing) :=
    Stable.of_hframe inv (HFrame.refl inv.wf) rfl rfl rfl
  obtain ⟨s2, hg, hs, hn⟩ := adjusted_spec cfg s1.inv hap i.avg
  have hr := adjGood_recOf cfg a _ amount i (fun g => (hg g).1) (fun g s => (hs g s).1) (fun g s => (hn g s).1)
  rw [adjustWith_eq]
  generalize adjusted cfg (sampled a amount i rest missing) i.avg = a2 at s2 hr
  have s12 := s1.trans s2
  refine ⟨⟨s12.inv.wf, s12.inv.nodup, s12.inv.kind⟩, s12.mem, s12.servers, s12.lbd, fun h0 r hr' => ?_⟩
  rcases List.mem_append.1 hr' with h | h
  · exact s12.log h0 r h
  · exact List.mem_singleton.1 h ▸ hr

/-- `_OnGet`/`_OnPut` -/
theorem onMove_spec (cfg : Cfg) {a : AS} (inv : PInv cfg a) (k : Int) :
    Stable cfg a (if cfg.aperture then a.adjust cfg k else a) := by
  split
  · rename_i hap
    obtain ⟨i, rest, m, h⟩ := adjust_eq cfg a k
    rw [h]; exact adjustWith_spec cfg inv hap k i rest m
  · exact Stable.refl inv

theorem getLoop_spec (cfg : Cfg) (fuel : Nat) : ∀ {a : AS}, PInv cfg a →
    Stable cfg a (a.getLoop cfg fuel).1 ∧ a.hs.size ≤ (a.getLoop cfg fuel).1.hs.size ∧
    (1 ≤ a.hs.size → InHeap (a.getLoop cfg fuel).1.hs (a.getLoop cfg fuel).2) := by
  induction fuel with
  | zero => exact fun inv => ⟨Stable.refl inv, le_refl _, fun h => ⟨1, le_refl _, h, rfl⟩⟩
  | succ fuel ih =>
    intro a inv
    have f1 := scanned_HFrame inv.wf
    rw [getLoop_step]
    split
    · exact ⟨Stable.of_hframe inv f1 rfl rfl rfl, f1.size.ge, fun h => ⟨1, le_refl _, f1.size ▸ h, rfl⟩⟩
    · have f2 := f1.trans (markRoot_HFrame f1.wf)
      have st1 : Stable cfg a { a with hs := a.hs.scanned.markRoot } := Stable.of_hframe inv f2 rfl rfl rfl
      obtain ⟨st2, sz2⟩ := onNodeDown_spec cfg st1.inv (a.hs.scanned.idAt 1)
      obtain ⟨st3, sz3, ih3⟩ := ih st2.inv
      have e : (a.hs.scanned.markRoot).size = a.hs.size := f2.size
      exact ⟨(st1.trans st2).trans st3, le_trans (e ▸ sz2) sz3, fun h => ih3 (le_trans (e ▸ h) sz2)⟩

theorem get_spec (cfg : Cfg) {a : AS} (inv : PInv cfg a) :
    Stable cfg a (a.get cfg).1 ∧
    (∀ nid ep r, (a.get cfg).2 = .node nid ep r → ep ∈ E (a.get cfg).1) := by
  by_cases hsz : a.hs.size = 0
  · rw [get_of_empty cfg a hsz]
    exact ⟨Stable.refl inv, fun _ _ _ h => by cases h⟩
  · rw [get_of_members cfg a hsz]
    obtain ⟨st1, _, hin⟩ := getLoop_spec cfg (a.hs.nodes.length + a.idle.length + 1) inv
    generalize a.getLoop cfg (a.hs.nodes.length + a.idle.length + 1) = g at st1 hin
    have st2 : Stable cfg g.1 { g.1 with hs := g.1.hs.dispatch g.2 } :=
      Stable.of_hframe st1.inv (dispatch_HFrame st1.inv.wf g.2) rfl rfl rfl
    have hmem : (g.1.hs.node g.2).ep ∈ E g.1 :=
      List.mem_append_left _ (List.mem_map.2 ⟨g.2, (mem_heap_iff _ _).2 (hin (Nat.pos_of_ne_zero hsz)), rfl⟩)
    have st3 := st2.trans (onMove_spec cfg st2.inv 1)
    refine ⟨st1.trans st3, fun nid ep r h => ?_⟩
    rw [← (GetRes.node.inj h).2.1]
    exact (st3.mem _).2 hmem

/-- the `random.randint` the model goes on with is one `__Put` may draw -/
theorem putDraw_ok {s : HS} {r nid : Nat} (hr : s.reqs[r]? = some (nid, false)) (j : Nat) :
    ∀ nid', s.reqs[r]? = some (nid', false) → s.putDraws nid' = true →
      1 ≤ putDraw s nid j ∧ putDraw s nid j ≤ s.size := by
  intro nid' h1 h2
  rw [hr] at h1
  cases h1
  exact putDraw_range h2 j

theorem put_spec (cfg : Cfg) {a : AS} (inv : PInv cfg a) (r j : Nat) : Stable cfg a (a.put cfg r j) := by
  rcases put_shape cfg a r j with ⟨nid, b, hr, e⟩ | ⟨_, b, e⟩ <;> rw [e]
  · have st1 : Stable cfg a { a with hs := a.hs.put r (putDraw a.hs nid j), bad := b } :=
      Stable.of_hframe inv (put_HFrame inv.wf r _ (putDraw_ok hr j)) rfl rfl rfl
    exact st1.trans (onMove_spec cfg st1.inv (-1))
  · exact Moves.stable .aux inv

theorem setChan_spec (cfg : Cfg) {a : AS} (inv : PInv cfg a) (nid st : Nat) : Stable cfg a (a.setChan nid st) := by
  unfold AS.setChan
  split
  · exact Stable.of_hframe inv (setChan_HFrame inv.wf nid st) rfl rfl rfl
  · exact Moves.stable .aux inv

theorem addSink_member (cfg : Cfg) {a : AS} (inv : PInv cfg a) (ep : Nat) (hep : ep ∉ E a) :
    PInv cfg (a.addSink cfg ep) ∧ (E (a.addSink cfg ep)).Perm (ep :: E a) ∧
    (a.addSink cfg ep).hs.servers = a.hs.servers ∧ (LBd cfg a → LBd cfg (a.addSink cfg ep)) := by
  have pinv : ∀ {a' : AS}, WF a'.hs → (E a').Perm (ep :: E a) →
      (cfg.aperture = false → a'.idle = [] ∧ a'.jitterWait = none) → PInv cfg a' :=
    fun hw hp hk => ⟨hw, hp.nodup_iff.2 (List.nodup_cons.2 ⟨hep, inv.nodup⟩), hk⟩
  rcases addSink_shape cfg a ep with ⟨on', g1, g2, e⟩ | ⟨hap, hh, g1, g2, e⟩ <;> rw [e]
  · -- the endpoint gets a heap node
    have hp : (heapEps (a.hs.addSink ep) ++ a.idle).Perm (ep :: E a) := (addSink_eps inv.wf ep).append_right _
    refine ⟨pinv (addSink_spec inv.wf ep).1 hp inv.kind, hp, addSink_servers inv.wf ep, fun h => ?_⟩
    show cfg.minSize ≤ (a.hs.addSink ep).size ∨ a.idle = []
    rw [addSink_size inv.wf ep]
    exact h.imp Nat.le_succ_of_le id
  · -- enough healthy members are active: the endpoint waits in the idle set
    have hp : (heapEps a.hs ++ setAdd a.idle ep).Perm (ep :: E a) := by
      rw [setAdd_of_not_mem fun h => hep (List.mem_append_right _ h), ← List.append_assoc]
      exact List.perm_append_singleton _ _
    exact ⟨pinv inv.wf hp fun h => (by rw [hap] at h; cases h), hp, rfl,
      fun _ => Or.inl (le_trans hh (numHealthy_le a))⟩

theorem removeSink_heap {cfg : Cfg} {a : AS} (inv : PInv cfg a) (ep : Nat) :
    PInv cfg { a with hs := (a.hs.removeSink ep).1 } ∧ ep ∉ heapEps (a.hs.removeSink ep).1 ∧
    ((E { a with hs := (a.hs.removeSink ep).1 }).filter (· ≠ ep)).Perm ((E a).filter (· ≠ ep)) ∧
    ((a.hs.removeSink ep).2 = true → ep ∉ a.idle ∧ (a.hs.removeSink ep).1.size + 1 = a.hs.size) ∧
    ((a.hs.removeSink ep).2 = false → (a.hs.removeSink ep).1 = a.hs) := by
  have hw := (removeSink_spec inv.wf ep).1
  cases hr : (a.hs.removeSink ep).2
  · obtain ⟨e, hn⟩ := removeSink_false inv.wf ep hr
    have e' : ({ a with hs := (a.hs.removeSink ep).1 } : AS) = a := by rw [e]
    exact ⟨e'.symm ▸ inv, e.symm ▸ hn, e'.symm ▸ List.Perm.refl _, fun h => (by cases h), fun _ => e⟩
  · have hp : (E a).Perm (ep :: E { a with hs := (a.hs.removeSink ep).1 }) :=
      (removeSink_eps inv.wf ep hr).append_right _
    have hnd := List.nodup_cons.1 (hp.nodup_iff.1 inv.nodup)
    have hmem : ep ∈ heapEps a.hs := (removeSink_eps inv.wf ep hr).mem_iff.2 List.mem_cons_self
    refine ⟨⟨hw, hnd.2, inv.kind⟩, fun h => hnd.1 (List.mem_append_left _ h), ?_,
      fun _ => ⟨inv.not_both hmem, removeSink_size inv.wf ep hmem⟩, fun h => (by cases h)⟩
    have := (hp.filter (· ≠ ep)).symm
    rwa [List.filter_cons_of_neg (by rw [decide_eq_true_eq]; exact fun h => h rfl)] at this

theorem strike_idle {cfg : Cfg} {a : AS} (inv : PInv cfg a) (hap : cfg.aperture = true) {ep : Nat}
    (hn : ep ∉ heapEps a.hs) :
    PInv cfg ({ a with idle := a.idle.filter (· ≠ ep) } : AS).updVarz ∧
    E ({ a with idle := a.idle.filter (· ≠ ep) } : AS).updVarz = (E a).filter (· ≠ ep) := by
  have e : E ({ a with idle := a.idle.filter (· ≠ ep) } : AS).updVarz = (E a).filter (· ≠ ep) := by
    show heapEps a.hs ++ a.idle.filter (· ≠ ep) = (heapEps a.hs ++ a.idle).filter (· ≠ ep)
    rw [List.filter_append, filter_ne_self hn]
  exact ⟨⟨inv.wf, e ▸ inv.nodup.filter _, fun h => (by rw [hap] at h; cases h)⟩, e⟩

theorem removeSink_member (cfg : Cfg) {a : AS} (inv : PInv cfg a) (ep : Nat) :
    PInv cfg (a.removeSink cfg ep) ∧ (E (a.removeSink cfg ep)).Perm ((E a).filter (· ≠ ep)) ∧
    (a.removeSink cfg ep).hs.servers = a.hs.servers ∧ (LBd cfg a → LBd cfg (a.removeSink cfg ep)) := by
  obtain ⟨inv1, hn1, hp1, ht, hf⟩ := removeSink_heap inv ep
  have sv := (removeSink_spec inv.wf ep).2.1
  have hidle : ∀ {l : List Nat}, l = [] → l.filter (· ≠ ep) = [] := fun h => h.symm ▸ rfl
  rcases removeSink_shape cfg a ep with ⟨hap, e⟩ | ⟨hap, a2, h2, e⟩ <;> rw [e]
  · have hi := (inv.kind hap).1
    refine ⟨inv1, ?_, sv, fun _ => Or.inr hi⟩
    rwa [filter_ne_self (l := E { a with hs := (a.hs.removeSink ep).1 }) fun h =>
      (List.mem_append.1 h).elim hn1 (by show ep ∉ a.idle; rw [hi]; exact List.not_mem_nil)] at hp1
  rcases h2 with ⟨hr, rfl⟩ | ⟨hr, rfl⟩
  · -- the endpoint had no heap node
    obtain ⟨i3, e3⟩ := strike_idle inv1 hap hn1
    exact ⟨i3, (List.Perm.of_eq e3).trans hp1, sv, fun hl => hl.imp (fun h => (hf hr).symm ▸ h) hidle⟩
  · -- it had: an idle endpoint, if there is one, takes its place
    obtain ⟨st, h0, h1⟩ := tryExpand_spec cfg inv1 false
    have hn2 : ep ∉ heapEps (AS.tryExpand cfg { a with hs := (a.hs.removeSink ep).1 } false).1.hs := fun h =>
      (List.mem_append.1 ((st.mem ep).1 (List.mem_append_left _ h))).elim hn1 (ht hr).1
    obtain ⟨i3, e3⟩ := strike_idle st.inv hap hn2
    refine ⟨i3, ?_, st.servers.trans sv, fun hl => ?_⟩
    · exact (List.Perm.of_eq e3).trans
        ((((List.perm_ext_iff_of_nodup st.inv.nodup inv1.nodup).2 st.mem).filter _).trans hp1)
    · by_cases hi : a.idle = []
      · exact Or.inr (hidle (h0 hi).2)
      · exact Or.inl ((h1 hi).1 ▸ (ht hr).2 ▸ hl.resolve_right hi)

theorem removeSink_absent (cfg : Cfg) {a : AS} (inv : PInv cfg a) {ep : Nat} (h : ep ∉ E a) :
    ∃ g1 g2, a.removeSink cfg ep = { a with gActive := g1, gIdle := g2 } := by
  have hr : (a.hs.removeSink ep).2 = false := Bool.eq_false_iff.2 fun hc =>
    h (List.mem_append_left _ ((removeSink_eps inv.wf ep hc).mem_iff.2 List.mem_cons_self))
  have hs := (removeSink_false inv.wf ep hr).1
  rcases removeSink_shape cfg a ep with ⟨_, e⟩ | ⟨_, a2, h2, e⟩ <;> rw [e]
  · rw [hs]; exact ⟨a.gActive, a.gIdle, rfl⟩
  rcases h2 with ⟨_, rfl⟩ | ⟨ht, _⟩
  · rw [hs, show ({ a with hs := a.hs } : AS).idle = a.idle from rfl,
      filter_ne_self fun hi => h (List.mem_append_right _ hi)]
    exact ⟨_, _, rfl⟩
  · exact absurd (hr.symm.trans ht) Bool.false_ne_true

end Scales.Aperture
