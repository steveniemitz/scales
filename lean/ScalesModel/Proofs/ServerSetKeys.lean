/-
  Proofs/ServerSetKeys.lean — C19: the notifications of every operation fit the consumer, as it sees
  the membership when it identifies the member of znode `n` by a key `k n` (`Cfg.keyOf`: the Member up
  to `Member.__eq__`; `id`: the znode name).

  As long as no two member znodes with equal keys exist at the same time, every child list the
  ServerSet is handed is key-distinct (`KD`), hence so are `_members`, the queued lists and the list
  being processed (`KInv`); and each update fits (`finishJob_fits`), so what the consumer holds is
  `_members.map k`.  For `k = id` the hypothesis follows from the invariant (the children are
  duplicate-free), and `KInv id` is a clause of `Inv` (`next_inv`).
-/
import ScalesModel.Proofs.ServerSetInv
namespace Scales.ServerSet

theorem KInv.congr {k : Nat → Nat} {s s' : St} (h : KInv k s) (hm : s'.members = s.members)
    (hq : s'.queue = s.queue) (hj : s'.job = s.job) : KInv k s' :=
  ⟨hm ▸ h.km, hq ▸ h.kq, hm ▸ hj ▸ h.kj⟩

theorem Woke.fits {k : Nat → Nat} {s s' : St} {ns : List Note} (hw : Woke s s' ns) (hk : KInv k s) :
    KInv k s' ∧ FitsK k s.members ns s'.members := by
  induction hw with
  | stay => exact ⟨hk, FitsK.nil k rfl⟩
  | @skip s s' q qs ns _ _ ih =>
    have hkr := finishJob_kd (hk.kq q List.mem_cons_self) (hk.km.of_map _) List.nodup_nil nofun nofun
    obtain ⟨h1, h2⟩ := ih ⟨hkr, fun l hl => hk.kq l (List.mem_cons_of_mem _ hl), nofun⟩
    exact ⟨h1, (finishJob_fits k s.members q [] hk.km hkr).append h2⟩
  | @read s q qs n hn =>
    have hperm := List.perm_cons_erase hn
    have hq := hk.kq q List.mem_cons_self
    exact ⟨⟨hk.km, fun l hl => hk.kq l (List.mem_cons_of_mem _ hl), fun j hj => Option.some.inj hj ▸
      finishJob_kd hq (hk.km.of_map _) (hperm.nodup_iff.mp ((hq.of_map _).filter _))
        (fun x hx => (mem_todo.mp (hperm.mem_iff.mpr hx)).2) fun x hx => (mem_todo.mp (hperm.mem_iff.mpr hx)).1⟩,
      FitsK.nil k rfl⟩

theorem CbFrame.fits {k : Nat → Nat} {cfg : Cfg} {s0 s1 : St} (fr : CbFrame cfg s0 s1) (hk : KInv k s0)
    (hd : KD k (s0.tree.kids.filter cfg.memberOk)) :
    KInv k s1 ∧ FitsK k s0.members [] s1.members :=
  ⟨⟨fr.members ▸ hk.km, fr.queue_all hk.kq List.nodup_nil hd, fr.members ▸ fr.job ▸ hk.kj⟩, FitsK.nil k fr.members⟩

theorem Waking.fits {k : Nat → Nat} {cfg : Cfg} {s s1 : St} {ns : List Note}
    (hp : Waking cfg s s1 ns) (hk : KInv k s)
    (hd : KD k (s.tree.kids.filter cfg.memberOk)) : KInv k s1 ∧ FitsK k s.members ns s1.members := by
  cases hp with
  | start => exact (dataDeliver_frame cfg _).fits (hk.congr rfl rfl rfl) hd
  | data => exact (dataDeliver_frame cfg _).fits (hk.congr rfl rfl rfl) hd
  | child => exact (childDeliver_frame cfg _ _).fits (hk.congr rfl rfl rfl) hd
  | @finish j n found hj hc ht =>
    -- with nothing left to read, what the update will leave is what it leaves
    have hkr := hk.kj j hj
    rw [live_served hc, ht, List.append_nil] at hkr
    exact ⟨⟨hkr, hk.kq, nofun⟩, finishJob_fits k _ _ _ hk.km hkr⟩
  | lret lo =>
    exact ⟨hk.congr lo.members lo.queue lo.job, FitsK.nil k lo.members⟩

theorem Plain.fits {k : Nat → Nat} {s s' : St} (hp : Plain s s') (hk : KInv k s) :
    KInv k s' ∧ FitsK k s.members [] s'.members := by
  suffices h : KInv k s' ∧ s'.members = s.members from ⟨h.1, FitsK.nil k h.2⟩
  cases hp with
  | @tree o _ =>
    obtain ⟨d, c, p, h, _⟩ := treeStep_eq s o
    rw [h]
    exact ⟨(hk.congr rfl rfl rfl), rfl⟩
  | @serve j n hj hc =>
    -- a read that misses takes its name out of what the update will leave
    exact ⟨⟨hk.km, hk.kq, fun _ h => Option.some.inj h ▸
      (hk.kj j hj).sublist (((live_serve hc (s.tree.kids.contains n)).1.append_left _).map k)⟩, rfl⟩
  | @more j _ _ _ hj hc hm =>
    exact ⟨⟨hk.km, hk.kq, fun _ h => Option.some.inj h ▸
      (((live_more hc hm).append_left _).map k).nodup_iff.mpr (hk.kj j hj)⟩, rfl⟩
  | lists lo _ => exact ⟨hk.congr lo.members lo.queue lo.job, lo.members⟩

theorem next_fits {k : Nat → Nat} {cfg : Cfg} {s s' : St} {op : Op} {ns : List Note}
    (hk : KInv k s) (hd : KD k (s.tree.kids.filter cfg.memberOk))
    (hn : next cfg s op = some (s', ns)) : KInv k s' ∧ FitsK k s.members ns s'.members := by
  cases (next_cases hn).2 with
  | plain hp => exact hp.fits hk
  | woken hp hw =>
    obtain ⟨hk1, f1⟩ := hp.fits hk hd
    obtain ⟨hk2, f2⟩ := hw.fits hk1
    exact ⟨hk2, f1.append f2⟩

theorem next_inv {cfg : Cfg} {s s' : St} {op : Op} {ns : List Note} (hi : Inv cfg s)
    (hn : next cfg s op = some (s', ns)) :
    Inv cfg s' ∧ s'.tree = specTree s.tree op ∧ Fits s.members ns s'.members := by
  obtain ⟨hk, hf⟩ := next_fits hi.key (KD_id.mpr (hi.tok.knd.filter _)) hn
  obtain ⟨ht, hstep⟩ := next_cases hn
  cases hstep with
  | plain hp => exact ⟨⟨hp.inv hi.toInvAt, hp.idle hi.idle, hk⟩, ht, fitsK_id.mp hf⟩
  | woken hp hw => exact ⟨⟨hw.inv (hp.before_wake hi.toInvAt), hw.idle, hk⟩, ht, fitsK_id.mp hf⟩

end Scales.ServerSet
