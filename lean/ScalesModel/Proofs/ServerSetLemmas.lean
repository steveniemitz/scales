/-
  Proofs/ServerSetLemmas.lean — C19 (Model/ServerSet.lean): notifications and the consumer's view.

  `Fits v ns v'`: the notifications `ns` can be given to a consumer that holds `v` (no join of a name
  it holds, no leave of a name it does not hold) and leave it holding `v'`.  One update of the worker
  (`finishJob`) fits, also as a consumer sees it that identifies members by a key `k` of the znode
  (`FitsK`), as long as the old members and the new ones are key-distinct (`KD`) — the leaves are
  delivered before the joins.  The consumer that goes by znode name is the case `k = id`.
-/
import ScalesModel.Adapter.ServerSet
import Mathlib.Data.List.Nodup
namespace Scales.ServerSet

theorem viewOf_append (v : List Nat) (a b : List Note) :
    viewOf v (a ++ b) = viewOf (viewOf v a) b := by
  simp [viewOf, List.foldl_append]

theorem altOk_append (v : List Nat) (a b : List Note) :
    altOk v (a ++ b) = (altOk v a && altOk (viewOf v a) b) := by
  induction a generalizing v with
  | nil => simp [altOk, viewOf]
  | cons e es ih => simp [altOk, viewOf, ih, Bool.and_assoc]

structure Fits (v : List Nat) (ns : List Note) (v' : List Nat) : Prop where
  ok : altOk v ns = true
  view : viewOf v ns = v'

theorem Fits.nil (v : List Nat) : Fits v [] v := ⟨rfl, rfl⟩

theorem Fits.append {v v' v'' : List Nat} {a b : List Note} (h1 : Fits v a v') (h2 : Fits v' b v'') :
    Fits v (a ++ b) v'' :=
  ⟨by rw [altOk_append, h1.ok, h1.view, h2.ok]; rfl, by rw [viewOf_append, h1.view, h2.view]⟩

theorem Fits.cons {v v' : List Nat} {e : Note} {es : List Note}
    (he : (if e.1 then !v.contains e.2 else v.contains e.2) = true) (h : Fits (applyNote v e) es v') :
    Fits v (e :: es) v' :=
  ⟨by rw [altOk, he, h.ok]; rfl, h.view⟩

theorem leaves_fits (R : List Nat) : ∀ (v : List Nat), R.Nodup → (∀ r ∈ R, r ∈ v) →
    Fits v (R.map (fun n => (false, n))) (v.filter (fun x => !R.contains x)) := by
  induction R with
  | nil =>
    intro v _ _
    simp only [List.contains_nil, Bool.not_false, List.filter_true]
    exact Fits.nil v
  | cons r R ih =>
    intro v hnd hsub
    rw [List.nodup_cons] at hnd
    have hsub' : ∀ x ∈ R, x ∈ v.filter (fun x => x != r) := fun x hx =>
      List.mem_filter.mpr ⟨hsub x (List.mem_cons_of_mem _ hx), bne_iff_ne.mpr fun h => hnd.1 (h ▸ hx)⟩
    have hview : (v.filter (fun x => x != r)).filter (fun x => !R.contains x) =
        v.filter (fun x => !(r :: R).contains x) := by
      rw [List.filter_filter]
      apply List.filter_congr
      intro x _
      simp only [List.contains_cons, Bool.not_or, bne, Bool.and_comm]
    rw [← hview]
    exact Fits.cons (List.contains_iff_mem.mpr (hsub r List.mem_cons_self)) (ih _ hnd.2 hsub')

theorem joins_fits (G : List Nat) : ∀ (v : List Nat), G.Nodup → (∀ g ∈ G, g ∉ v) →
    Fits v (G.map (fun n => (true, n))) (v ++ G) := by
  induction G with
  | nil => intro v _ _; rw [List.append_nil]; exact Fits.nil v
  | cons g G ih =>
    intro v hnd hdis
    rw [List.nodup_cons] at hnd
    have hdis' : ∀ x ∈ G, x ∉ v ++ [g] := by
      intro x hx
      simp only [List.mem_append, List.mem_singleton, not_or]
      exact ⟨hdis x (List.mem_cons_of_mem _ hx), fun h => hnd.1 (h ▸ hx)⟩
    have h := ih (v ++ [g]) hnd.2 hdis'
    rw [List.append_assoc] at h
    refine Fits.cons ?_ h
    simpa using hdis g List.mem_cons_self

/-- key-distinct: no two names of the list carry equal Members -/
abbrev KD (k : Nat → Nat) (l : List Nat) : Prop := (l.map k).Nodup

theorem KD_id {l : List Nat} : KD id l ↔ l.Nodup := by rw [KD, List.map_id]

theorem KD_sub {k : Nat → Nat} {L l : List Nat} (hL : KD k L) (hl : l.Nodup)
    (hs : ∀ x ∈ l, x ∈ L) : KD k l :=
  List.Nodup.map_on (fun x hx y hy h => List.inj_on_of_nodup_map hL (hs x hx) (hs y hy) h) hl

/-- taking out the keys of the dropped names takes out no kept name: two names never share a key -/
theorem filter_map_dropped {k : Nat → Nat} {l : List Nat} (p : Nat → Bool) (hk : KD k l) :
    (l.map k).filter (fun y => !((l.filter (fun n => !p n)).map k).contains y) = (l.filter p).map k := by
  rw [List.filter_map]
  refine congrArg _ (List.filter_congr fun x hx => ?_)
  have h : k x ∈ (l.filter (fun n => !p n)).map k ↔ p x = false := by
    constructor
    · intro h
      obtain ⟨r, hr, hrx⟩ := List.mem_map.mp h
      rw [List.mem_filter, List.inj_on_of_nodup_map hk hr.1 hx hrx] at hr
      exact (Bool.not_eq_true' _).mp hr.2
    · intro h
      exact List.mem_map_of_mem (List.mem_filter.mpr ⟨hx, (Bool.not_eq_true' _).mpr h⟩)
  show (!((l.filter (fun n => !p n)).map k).contains (k x)) = p x
  have hc : ((l.filter (fun n => !p n)).map k).contains (k x) = !p x := by
    rw [Bool.eq_iff_iff, List.contains_iff_mem, h, Bool.not_eq_true']
  rw [hc, Bool.not_not]

abbrev FitsK (k : Nat → Nat) (m : List Nat) (ns : List Note) (m' : List Nat) : Prop :=
  Fits (m.map k) (ns.map (keyNote k)) (m'.map k)

theorem FitsK.nil (k : Nat → Nat) {m m' : List Nat} (h : m' = m) : FitsK k m [] m' := h ▸ Fits.nil _

theorem FitsK.append {k : Nat → Nat} {m m' m'' : List Nat} {a b : List Note} (h1 : FitsK k m a m')
    (h2 : FitsK k m' b m'') : FitsK k m (a ++ b) m'' := by
  unfold FitsK
  rw [List.map_append]
  exact Fits.append h1 h2

theorem fitsK_id {m m' : List Nat} {ns : List Note} : FitsK id m ns m' ↔ Fits m ns m' := by
  have : keyNote id = id := rfl
  rw [FitsK, this, List.map_id, List.map_id, List.map_id]

theorem mem_finishJob {members listing got : List Nat} {n : Nat} :
    n ∈ (finishJob members listing got).1 ↔ (n ∈ members ∧ n ∈ listing) ∨ n ∈ got := by
  simp only [finishJob, List.mem_append, List.mem_filter, List.contains_iff_mem]

theorem finishJob_nodup {members listing got : List Nat} (hm : members.Nodup) (hg : got.Nodup)
    (hgm : ∀ n ∈ got, n ∉ members) : (finishJob members listing got).1.Nodup :=
  List.nodup_append.mpr ⟨hm.filter _, hg, fun _ ha _ hb hab => hgm _ hb (hab ▸ (List.mem_filter.mp ha).1)⟩

theorem finishJob_complete {members listing got : List Nat} (hgl : ∀ n ∈ got, n ∈ listing)
    (hc : ∀ n ∈ listing, n ∈ members ∨ n ∈ got) (n : Nat) :
    n ∈ (finishJob members listing got).1 ↔ n ∈ listing := by
  rw [mem_finishJob]
  exact ⟨fun h => h.elim And.right (hgl n), fun h => (hc n h).imp (⟨·, h⟩) id⟩

theorem finishJob_kd {k : Nat → Nat} {members listing got : List Nat} (hl : KD k listing)
    (hm : members.Nodup) (hg : got.Nodup) (hgm : ∀ n ∈ got, n ∉ members) (hgl : ∀ n ∈ got, n ∈ listing) :
    KD k (finishJob members listing got).1 :=
  KD_sub hl (finishJob_nodup hm hg hgm) fun x hx => (mem_finishJob.mp hx).elim And.right (hgl x)

/-- The leaves are the old members not listed, a duplicate-free part of them; after them the consumer
    holds the survivors, and is then given the members read.  A key that both leaves (under an old
    name) and joins (under a new one) is fine. -/
theorem finishJob_fits (k : Nat → Nat) (members listing got : List Nat) (hm : KD k members)
    (h1 : KD k (finishJob members listing got).1) :
    FitsK k members (finishJob members listing got).2 (finishJob members listing got).1 := by
  simp only [finishJob, KD, List.map_append, List.nodup_append] at h1
  have hL := leaves_fits ((members.filter (fun n => !listing.contains n)).map k) (members.map k)
    ((List.filter_sublist.map k).nodup hm)
    (fun r hr => (List.filter_sublist.map k).subset hr)
  rw [filter_map_dropped (fun n => listing.contains n) hm] at hL
  have hJ := joins_fits (got.map k) ((members.filter (fun n => listing.contains n)).map k) h1.2.1
    (fun g hg hs => h1.2.2 g hs g hg rfl)
  rw [List.map_map] at hL hJ
  unfold FitsK
  simp only [finishJob, List.map_append, List.map_map]
  exact Fits.append hL hJ

theorem mem_applyNote {v : List Nat} {e : Note} {n : Nat} :
    n ∈ applyNote v e ↔ (e.1 = true ∧ (n ∈ v ∨ n = e.2)) ∨ (e.1 = false ∧ n ∈ v ∧ n ≠ e.2) := by
  unfold applyNote
  cases h : e.1 <;> simp [List.mem_filter]

theorem mem_viewOf_join (ns : List Note) : ∀ (v : List Nat) (n : Nat), n ∈ viewOf v ns →
    n ∈ v ∨ (true, n) ∈ ns := by
  induction ns with
  | nil => intro v n h; exact Or.inl h
  | cons e es ih =>
    intro v n h
    rcases ih (applyNote v e) n h with h1 | h1
    · rw [mem_applyNote] at h1
      rcases h1 with ⟨he, h2 | h2⟩ | ⟨_, h2, _⟩
      · exact Or.inl h2
      · exact Or.inr (List.mem_cons.mpr (Or.inl (Prod.ext he.symm h2)))
      · exact Or.inl h2
    · exact Or.inr (List.mem_cons_of_mem _ h1)

theorem mem_viewOf_stays (ns : List Note) : ∀ (v : List Nat) (n : Nat), n ∈ v → (false, n) ∉ ns →
    n ∈ viewOf v ns := by
  induction ns with
  | nil => intro v n h _; exact h
  | cons e es ih =>
    intro v n h hno
    refine ih (applyNote v e) n ?_ (fun hh => hno (List.mem_cons_of_mem _ hh))
    rw [mem_applyNote]
    cases he : e.1 with
    | true => exact Or.inl ⟨rfl, Or.inl h⟩
    | false => exact Or.inr ⟨rfl, h, fun hn => hno (List.mem_cons.mpr (Or.inl (Prod.ext he.symm hn)))⟩

end Scales.ServerSet
