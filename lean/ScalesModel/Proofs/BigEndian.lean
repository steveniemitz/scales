/-
  Proofs/BigEndian.lean — numbers as big-endian byte strings and two's complement, once for the
  three wire codecs (Kafka, Thrift binary protocol, ThriftMux).

  `digits k n` are the `k` low-order base-256 digits of `n`, `value bs` is the number a byte string
  stands for, `signed m u` reads `u < m` as a signed number modulo `m`.  Each codec's model has its
  own copies of these functions (`Kafka.be`/`beVal`/`toS`, `ThriftCodec.beNat`/`fromBE`/`toSigned`,
  `MuxCodec.be16` … `be64`/`toU`); its lemma file relates the writers to `digits` and the signed
  readers to `signed`, while `beVal`, `fromBE` and `Kafka.toS` unfold to `value` and `signed`.
-/
namespace Scales.BigEndian

/-- one step of positional notation, in any base: a digit and what is below it -/
theorem mod_digit (n b c : Nat) : n / b % c * b + n % b = n % (b * c) := by
  rw [Nat.mod_mul, Nat.mul_comm, Nat.add_comm]

def allBytes (bs : List Nat) : Prop := ∀ b ∈ bs, b < 256

theorem allBytes_append {a b : List Nat} : allBytes (a ++ b) ↔ allBytes a ∧ allBytes b :=
  List.forall_mem_append

def digits : Nat → Nat → List Nat
  | 0, _ => []
  | k + 1, n => digits k (n / 256) ++ [n % 256]

def value (bs : List Nat) : Nat := bs.foldl (fun a b => a * 256 + b) 0

theorem digits_length (k n : Nat) : (digits k n).length = k := by
  induction k generalizing n with
  | zero => rfl
  | succ k ih => rw [digits, List.length_append, ih, List.length_singleton]

theorem digits_allBytes (k n : Nat) : allBytes (digits k n) := by
  induction k generalizing n with
  | zero => exact fun _ hb => nomatch hb
  | succ k ih =>
    rw [digits]
    exact allBytes_append.2 ⟨ih _, List.forall_mem_singleton.2 (Nat.mod_lt _ (by decide))⟩

theorem value_snoc (bs : List Nat) (b : Nat) : value (bs ++ [b]) = value bs * 256 + b := by
  simp only [value, List.foldl_append, List.foldl_cons, List.foldl_nil]

theorem value_digits (k n : Nat) : value (digits k n) = n % 256 ^ k := by
  induction k generalizing n with
  | zero => rw [Nat.pow_zero, Nat.mod_one]; rfl
  | succ k ih => rw [digits, value_snoc, ih, Nat.pow_succ', mod_digit]

theorem foldl_eq (a : Nat) (bs : List Nat) :
    bs.foldl (fun a b => a * 256 + b) a = a * 256 ^ bs.length + value bs := by
  induction bs generalizing a with
  | nil => simp only [List.foldl_nil, List.length_nil, Nat.pow_zero, Nat.mul_one, value, Nat.add_zero]
  | cons b bs ih =>
    rw [value, List.foldl_cons, List.foldl_cons, ih, ih (0 * 256 + b), List.length_cons, Nat.pow_succ',
      Nat.zero_mul, Nat.zero_add, Nat.add_mul, Nat.mul_assoc, Nat.add_assoc]

theorem value_append (a b : List Nat) : value (a ++ b) = value a * 256 ^ b.length + value b := by
  rw [value, List.foldl_append, foldl_eq]
  rfl

theorem digits_snoc (k a : Nat) {b : Nat} (hb : b < 256) : digits (k + 1) (a * 256 + b) = digits k a ++ [b] := by
  rw [digits, Nat.add_comm, Nat.add_mul_div_right _ _ (by decide), Nat.add_mul_mod_self_right,
    Nat.div_eq_of_lt hb, Nat.mod_eq_of_lt hb, Nat.zero_add]

theorem digits_add_value (k a : Nat) (bs : List Nat) (h : allBytes bs) :
    digits (k + bs.length) (a * 256 ^ bs.length + value bs) = digits k a ++ bs := by
  induction bs generalizing k a with
  | nil => simp only [List.length_nil, Nat.add_zero, Nat.pow_zero, Nat.mul_one, value, List.foldl_nil,
      List.append_nil]
  | cons b bs ih =>
    have e : a * 256 ^ (b :: bs).length + value (b :: bs) = (a * 256 + b) * 256 ^ bs.length + value bs := by
      rw [value, List.foldl_cons, foldl_eq, List.length_cons, Nat.pow_succ', Nat.zero_mul, Nat.zero_add,
        Nat.add_mul, Nat.mul_assoc, Nat.add_assoc]
    rw [e, List.length_cons, ← Nat.add_assoc, Nat.add_right_comm,
      ih (k + 1) _ fun x hx => h x (List.mem_cons_of_mem _ hx), digits_snoc k a (h b List.mem_cons_self),
      List.append_assoc]
    rfl

theorem digits_value (bs : List Nat) (h : allBytes bs) : digits bs.length (value bs) = bs := by
  have := digits_add_value 0 0 bs h
  rwa [Nat.zero_mul, Nat.zero_add, Nat.zero_add] at this

def signed (m u : Nat) : Int := if 2 * u < m then (u : Int) else (u : Int) - m

/-- the same with the first negative value `h = m / 2` spelt out, as decoders of a fixed width write it -/
theorem signed_half {m h : Nat} (hm : m = 2 * h) (u : Nat) :
    (if u < h then (u : Int) else (u : Int) - m) = signed m u := by
  unfold signed
  by_cases hu : u < h
  · rw [if_pos hu, if_pos (by omega)]
  · rw [if_neg hu, if_neg (by omega)]

theorem emod_toNat_lt {m : Nat} (hm : 0 < m) (x : Int) : (x % (m : Int)).toNat < m := by
  have h1 := Int.emod_lt_of_pos x (Int.natCast_pos.2 hm)
  have h2 := Int.emod_nonneg x (Int.natCast_ne_zero.2 (Nat.ne_of_gt hm))
  omega

theorem signed_emod {m : Nat} {x : Int} (hlo : -(m : Int) ≤ 2 * x) (hhi : 2 * x < m) :
    signed m (x % m).toNat = x := by
  unfold signed
  by_cases h0 : 0 ≤ x
  · rw [Int.emod_eq_of_lt h0 (by omega), if_pos (by omega), Int.toNat_of_nonneg h0]
  · have hp : 0 ≤ x + m := by omega
    rw [← Int.add_emod_right, Int.emod_eq_of_lt hp (by omega), if_neg (by omega), Int.toNat_of_nonneg hp,
      Int.add_sub_cancel]

theorem emod_toNat_eq_ite {m : Nat} {x : Int} (hlo : -(m : Int) ≤ 2 * x) (hhi : 2 * x < m) :
    (x % (m : Int)).toNat = if x < 0 then (x + m).toNat else x.toNat := by
  split
  · rw [← Int.add_emod_right, Int.emod_eq_of_lt (by omega) (by omega)]
  · rw [Int.emod_eq_of_lt (by omega) (by omega)]

theorem signed_range {m u : Nat} (hu : u < m) : -(m : Int) ≤ 2 * signed m u ∧ 2 * signed m u < m := by
  unfold signed; split <;> omega

theorem emod_signed {m u : Nat} (hu : u < m) : (signed m u % (m : Int)).toNat = u := by
  unfold signed
  split
  · rw [Int.emod_eq_of_lt (by omega) (by omega), Int.toNat_natCast]
  · rw [Int.sub_emod_right, Int.emod_eq_of_lt (by omega) (by omega), Int.toNat_natCast]

theorem signed_value_digits {k m : Nat} (hm : 256 ^ k = m) {x : Int} (hlo : -(m : Int) ≤ 2 * x)
    (hhi : 2 * x < m) : signed m (value (digits k (x % m).toNat)) = x := by
  rw [value_digits, hm, Nat.mod_eq_of_lt (emod_toNat_lt (by omega) x), signed_emod hlo hhi]

/-! ### exactly `n` bytes off the front: the body the models' `takeExact`, `takeN`, `take?` share -/

theorem take_drop_eq_some {n : Nat} {bs x r : List Nat} :
    (if n ≤ bs.length then some (bs.take n, bs.drop n) else none) = some (x, r) ↔ bs = x ++ r ∧ x.length = n := by
  constructor
  · intro h
    split at h
    · next hn =>
      cases h
      exact ⟨(List.take_append_drop n bs).symm, List.length_take_of_le hn⟩
    · cases h
  · rintro ⟨rfl, rfl⟩
    rw [if_pos (by rw [List.length_append]; exact Nat.le_add_right _ _), List.take_left, List.drop_left]

end Scales.BigEndian
