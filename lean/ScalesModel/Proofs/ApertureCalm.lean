import ScalesModel.Proofs.HeapPut
import ScalesModel.Model.Aperture

/-!
  Model/Aperture.lean without invariants: the functions with nested conditionals as explicit results (`*_shape`),
  `__Get` and `_AdjustAperture` cut into named stages with one equation each.
  * `Calm a a'`: `_total`, the Ema value, the clock and the log (which move only in `_AdjustAperture`) and
    the dispatch table `hs.reqs` (which moves only in a dispatch and in the first completion of a dispatch)
    are what they were.  It holds for every other function of the model; `adjust_book`, `get_book`,
    `put_shape` with `put_open_reqs` say what the three exceptions do to the five.
  * `Moves cfg a a'`: the functions around `_TryExpandAperture` and `_ContractAperture` (open results, jitter,
    the hub's turn) walked once, as lists of steps of three kinds; `Calm` here, `Stable` (Proofs/ApertureInv.lean) and
    `Keep` (Proofs/ApertureHeap.lean) are read off the three kinds.
-/
namespace Scales.Aperture
open Scales.Heap

structure Unadjusted (a a' : AS) : Prop where
  total : a'.total = a.total
  ema : a'.ema = a.ema
  clock : a'.clock = a.clock
  adjLog : a'.adjLog = a.adjLog

structure Calm (a a' : AS) : Prop extends Unadjusted a a' where
  reqs : a'.hs.reqs = a.hs.reqs

theorem Calm.refl (a : AS) : Calm a a := ⟨⟨rfl, rfl, rfl, rfl⟩, rfl⟩

theorem Calm.trans {a b c : AS} (h1 : Calm a b) (h2 : Calm b c) : Calm a c :=
  ⟨⟨h2.total.trans h1.total, h2.ema.trans h1.ema, h2.clock.trans h1.clock, h2.adjLog.trans h1.adjLog⟩,
   h2.reqs.trans h1.reqs⟩

theorem Calm.of_reqs {a a' : AS} (h : a'.hs.reqs = a.hs.reqs) (h1 : a'.total = a.total := by rfl)
    (h2 : a'.ema = a.ema := by rfl) (h3 : a'.clock = a.clock := by rfl) (h4 : a'.adjLog = a.adjLog := by rfl) :
    Calm a a' := ⟨⟨h1, h2, h3, h4⟩, h⟩

theorem choose_shape (a : AS) :
    (a.idle = [] ∧ a.choose = (a, none)) ∨
    ∃ c cs b, c ∈ a.idle ∧ a.choose = ({ a with choices := cs, bad := b }, some c) := by
  unfold AS.choose
  split
  · rename_i h; exact Or.inl ⟨h, rfl⟩
  · rename_i i0 rest h
    right
    split
    · exact ⟨i0, _, _, by rw [h]; exact List.mem_cons_self, rfl⟩
    · split
      · rename_i hc; exact ⟨_, _, a.bad, hc, rfl⟩
      · exact ⟨i0, _, _, by rw [h]; exact List.mem_cons_self, rfl⟩

theorem tryExpand_shape (cfg : Cfg) (a : AS) (lp : Bool) :
    (a.idle = [] ∧ a.tryExpand cfg lp = (a.updVarz, none)) ∨
    ∃ c cs b on', c ∈ a.idle ∧ a.tryExpand cfg lp =
      ({ a with hs := a.hs.addSink c, idle := a.idle.filter (· ≠ c), pending := setAdd a.pending c,
                choices := cs, bad := b, on := on', gActive := (a.hs.addSink c).size,
                gIdle := (a.idle.filter (· ≠ c)).length }, some a.hs.nodes.length) := by
  unfold AS.tryExpand
  rcases choose_shape a with ⟨hi, h⟩ | ⟨c, cs, b, hc, h⟩
  · rw [h]; exact Or.inl ⟨hi, rfl⟩
  · rw [h]
    right
    cases lp
    · exact ⟨c, cs, b, _, hc, rfl⟩
    · exact ⟨c, cs, b, _, hc, rfl⟩

theorem contract_shape (cfg : Cfg) (a : AS) (force : Bool) :
    (((a.pending ≠ [] ∧ force = false) ∨ a.numHealthy ≤ cfg.minSize ∨ a.contractPick = none) ∧
      a.contract cfg force = a) ∨
    ∃ ep, a.contractPick = some ep ∧ (a.pending = [] ∨ force = true) ∧ cfg.minSize < a.numHealthy ∧
      a.contract cfg force = ({ a with idle := setAdd a.idle ep, hs := (a.hs.removeSink ep).1 } : AS).updVarz := by
  unfold AS.contract
  split
  · rename_i h; exact Or.inl ⟨Or.inl h, rfl⟩
  · rename_i h
    split
    · rename_i hh
      split
      · rename_i hp; exact Or.inl ⟨Or.inr (Or.inr hp), rfl⟩
      · rename_i ep hp
        refine Or.inr ⟨ep, hp, ?_, hh, rfl⟩
        by_cases hq : a.pending = []
        · exact Or.inl hq
        · exact Or.inr (Bool.eq_true_of_not_eq_false fun hf => h ⟨hq, hf⟩)
    · rename_i hh; exact Or.inl ⟨Or.inr (Or.inl (Nat.le_of_not_lt hh)), rfl⟩

/-- The three kinds of step: nothing an invariant can tell (`same`: only `pending`, the open bookkeeping, the tapes,
    `bad`, the gauges and an aperture balancer's `jitterWait` differ), one endpoint from the idle set into the heap
    (`expand`, `_TryExpandAperture`) or back (`shrink`, `_ContractAperture`; reached from `_Jitter` and
    `_AdjustAperture` only, which a plain heap balancer does not run: `hap`).  A move is the move alone; what the
    function books beside it is a `same` step.  Not of this kind: a dispatch, a completion, a channel event, the
    sample of `_AdjustAperture`, a membership change. -/
inductive Moves (cfg : Cfg) : AS → AS → Prop
  | refl {a : AS} : Moves cfg a a
  | same {a b c : AS} : Moves cfg a b → (hs : c.hs = b.hs) → (idle : c.idle = b.idle) → (u : Unadjusted b c) →
      (jw : cfg.aperture = false → b.jitterWait = none → c.jitterWait = none) → Moves cfg a c
  | expand {a b : AS} : Moves cfg a b → (x : Nat) → (hx : x ∈ b.idle) →
      Moves cfg a { b with hs := b.hs.addSink x, idle := b.idle.filter (· ≠ x) }
  | shrink {a b : AS} : Moves cfg a b → (ep : Nat) → (hp : b.contractPick = some ep) → (hh : cfg.minSize < b.numHealthy) →
      (hap : cfg.aperture = true ∨ b.jitterWait.isSome = true) →
      Moves cfg a { b with hs := (b.hs.removeSink ep).1, idle := setAdd b.idle ep }

theorem Moves.trans {cfg : Cfg} {a b c : AS} (h1 : Moves cfg a b) (h2 : Moves cfg b c) : Moves cfg a c := by
  induction h2 with
  | refl => exact h1
  | same _ hs idle u jw ih => exact .same ih hs idle u jw
  | expand _ x hx ih => exact .expand ih x hx
  | shrink _ ep hp hh hap ih => exact .shrink ih ep hp hh hap

/-- The defaults close by `rfl` when only what a `same` step ignores differs; the `*_moves` terms below follow the
    `if`s of their model function. -/
theorem Moves.aux {cfg : Cfg} {a a' : AS} (hs : a'.hs = a.hs := by rfl) (idle : a'.idle = a.idle := by rfl)
    (jw : cfg.aperture = false → a.jitterWait = none → a'.jitterWait = none := by exact fun _ h => h)
    (u : Unadjusted a a' := by exact ⟨rfl, rfl, rfl, rfl⟩) : Moves cfg a a' :=
  .same .refl hs idle u jw

theorem Moves.ite {cfg : Cfg} {a x y : AS} {c : Prop} [Decidable c] (hx : Moves cfg a x) (hy : Moves cfg a y) :
    Moves cfg a (if c then x else y) := by
  split <;> assumption

theorem Moves.calm {cfg : Cfg} {a a' : AS} (m : Moves cfg a a') : Calm a a' := by
  induction m with
  | refl => exact Calm.refl _
  | same _ hs _ u _ ih => exact ih.trans ⟨u, by rw [hs]⟩
  | expand _ x _ ih => exact ih.trans (Calm.of_reqs (addSink_reqs _ _))
  | shrink _ ep _ _ _ ih => exact ih.trans (Calm.of_reqs (removeSink_reqs _ _))

theorem tryExpand_moves (cfg : Cfg) (a : AS) (lp : Bool) : Moves cfg a (a.tryExpand cfg lp).1 := by
  rcases tryExpand_shape cfg a lp with ⟨_, h⟩ | ⟨c, cs, b, on', hc, h⟩ <;> rw [h]
  · exact Moves.aux
  · exact (Moves.expand .refl c hc).trans Moves.aux

theorem contract_moves (cfg : Cfg) (a : AS) (force : Bool) (hap : cfg.aperture = true ∨ a.jitterWait.isSome = true) :
    Moves cfg a (a.contract cfg force) := by
  rcases contract_shape cfg a force with ⟨_, e⟩ | ⟨ep, hp, _, hh, e⟩ <;> rw [e]
  · exact .refl
  · exact (Moves.shrink .refl ep hp hh hap).trans Moves.aux

theorem onNodeDown_eq (cfg : Cfg) (a : AS) (nid : Nat) :
    (a.onNodeDown cfg nid).1 = a ∨ (a.onNodeDown cfg nid).1 = (a.tryExpand cfg false).1 := by
  unfold AS.onNodeDown
  split
  · exact Or.inr rfl
  · exact Or.inl rfl

theorem onNodeDown_moves (cfg : Cfg) (a : AS) (nid : Nat) : Moves cfg a (a.onNodeDown cfg nid).1 := by
  rcases onNodeDown_eq cfg a nid with e | e <;> rw [e]
  · exact .refl
  · exact tryExpand_moves cfg a false

/-! One round of `__Get` and the dispatch that follows, cut into the heap states they pass through
  (`HS.scanned`, `HS.markRoot`, `HS.dispatch` of Proofs/HeapGet.lean). -/

theorem getLoop_step (cfg : Cfg) (a : AS) (fuel : Nat) :
    a.getLoop cfg (fuel + 1) =
      if (a.hs.scanned.node (a.hs.scanned.idAt 1)).chan = chOpen ∨ (a.hs.scanned.node (a.hs.scanned.idAt 1)).load ≥ 0 then
        ({ a with hs := a.hs.scanned }, a.hs.scanned.idAt 1)
      else (AS.onNodeDown cfg { a with hs := a.hs.scanned.markRoot } (a.hs.scanned.idAt 1)).1.getLoop cfg fuel :=
  rfl

theorem get_of_empty (cfg : Cfg) (a : AS) (h : a.hs.size = 0) : a.get cfg = (a, .noMembers) := by
  unfold AS.get; rw [if_pos h]

theorem get_of_members (cfg : Cfg) (a : AS) (h : a.hs.size ≠ 0) :
    a.get cfg =
      let g := a.getLoop cfg (a.hs.nodes.length + a.idle.length + 1)
      let a2 : AS := { g.1 with hs := g.1.hs.dispatch g.2 }
      (if cfg.aperture then a2.adjust cfg 1 else a2, .node g.2 (g.1.hs.node g.2).ep g.1.hs.reqs.length) := by
  unfold AS.get; rw [if_neg h]
  exact Prod.ext rfl (congrArg (GetRes.node _ _) (congrArg List.length (fixDown_reqs _ _ _)))

theorem getLoop_calm (cfg : Cfg) (fuel : Nat) : ∀ (a : AS), Calm a (a.getLoop cfg fuel).1 := by
  induction fuel with
  | zero => intro a; exact Calm.refl a
  | succ n ih =>
    intro a
    rw [getLoop_step]
    split
    · exact Calm.of_reqs (scanned_reqs _)
    · refine Calm.trans ?_ (ih _)
      refine Calm.trans ?_ (onNodeDown_moves cfg _ _).calm
      exact Calm.of_reqs ((markRoot_reqs _).trans (scanned_reqs _))

theorem setChan_calm (a : AS) (nid st : Nat) : Calm a (a.setChan nid st) := by
  unfold AS.setChan
  split
  · exact Calm.of_reqs (setChan_reqs _ _ _)
  · exact Calm.of_reqs rfl

theorem opened_moves (cfg : Cfg) (a : AS) (nid : Nat) (ok : Bool) : Moves cfg a (a.opened cfg nid ok) :=
  Moves.ite Moves.aux (Moves.ite Moves.aux ((onNodeDown_moves cfg a nid).trans Moves.aux))

theorem jitterEnd_moves (cfg : Cfg) (a : AS) (nid : Nat) (hap : cfg.aperture = true ∨ a.jitterWait.isSome = true) :
    Moves cfg a (a.jitterEnd cfg nid) :=
  (contract_moves cfg a true hap).trans (Moves.aux (jw := fun _ _ => rfl))

theorem jitterStart_moves (cfg : Cfg) (a : AS) : Moves cfg a (a.jitterStart cfg) := by
  unfold AS.jitterStart
  split
  · exact Moves.aux
  · rename_i h
    have hap : cfg.aperture = true := Bool.eq_true_of_not_eq_false fun hc => h (Or.inl hc)
    have h1 := tryExpand_moves cfg a true
    dsimp only
    split
    · exact h1
    · exact Moves.ite (h1.trans (Moves.trans Moves.aux (jitterEnd_moves cfg _ _ (Or.inl hap))))
        (h1.trans (Moves.aux (jw := fun hk => absurd hap (by rw [hk]; exact Bool.false_ne_true))))

theorem fire_moves (cfg : Cfg) (a : AS) (nid : Nat) : Moves cfg a (a.fire nid) :=
  Moves.ite Moves.aux Moves.aux

theorem foldl_fire_moves (cfg : Cfg) (ids : List Nat) : ∀ (a : AS), Moves cfg a (ids.foldl AS.fire a) := by
  induction ids with
  | nil => exact fun _ => .refl
  | cons x xs ih => exact fun a => (fire_moves cfg a x).trans (ih _)

theorem settleRound_moves (cfg : Cfg) (a : AS) : Moves cfg a (a.settleRound cfg).1 := by
  unfold AS.settleRound
  dsimp only
  split
  · rename_i nid hj
    exact ((foldl_fire_moves cfg _ a).trans (Moves.ite Moves.aux .refl)).trans
      (Moves.ite (jitterEnd_moves cfg _ nid (Or.inr (by rw [hj]; rfl))) .refl)
  · exact (foldl_fire_moves cfg _ a).trans (Moves.ite Moves.aux .refl)

theorem settleN_moves (cfg : Cfg) (fuel : Nat) : ∀ (a : AS), Moves cfg a (a.settleN cfg fuel) := by
  induction fuel with
  | zero => exact fun _ => .refl
  | succ n ih => exact fun a => Moves.ite ((settleRound_moves cfg a).trans (ih _)) (settleRound_moves cfg a)

theorem settle_moves (cfg : Cfg) (a : AS) : Moves cfg a (a.settle cfg) := settleN_moves cfg _ a

theorem openInitial_moves (cfg : Cfg) (a : AS) : Moves cfg a (a.openInitial cfg) := Moves.aux

/-- `_AddSink`: the endpoint gets a heap node, or — aperture with enough healthy active members — waits idle -/
theorem addSink_shape (cfg : Cfg) (a : AS) (ep : Nat) :
    (∃ on' g1 g2, a.addSink cfg ep = { a with hs := a.hs.addSink ep, on := on', gActive := g1, gIdle := g2 }) ∨
    (cfg.aperture = true ∧ cfg.minSize ≤ a.numHealthy ∧
      ∃ g1 g2, a.addSink cfg ep = { a with idle := setAdd a.idle ep, gActive := g1, gIdle := g2 }) := by
  unfold AS.addSink
  split
  · rename_i hap
    split
    · exact Or.inl ⟨_, _, _, rfl⟩
    · rename_i hh; exact Or.inr ⟨hap, Nat.le_of_not_lt hh, _, _, rfl⟩
  · exact Or.inl ⟨_, a.gActive, a.gIdle, rfl⟩

theorem addSink_calm (cfg : Cfg) (a : AS) (ep : Nat) : Calm a (a.addSink cfg ep) := by
  rcases addSink_shape cfg a ep with ⟨_, _, _, e⟩ | ⟨_, _, _, _, e⟩ <;> rw [e]
  · exact Calm.of_reqs (addSink_reqs _ _)
  · exact Calm.of_reqs rfl

/-- `_RemoveSink`: the heap node goes if there is one; in its place the aperture takes in an idle endpoint, if
    there is one; then the endpoint is struck from the idle set -/
theorem removeSink_shape (cfg : Cfg) (a : AS) (ep : Nat) :
    (cfg.aperture = false ∧ a.removeSink cfg ep = { a with hs := (a.hs.removeSink ep).1 }) ∨
    (cfg.aperture = true ∧ ∃ a2,
      (((a.hs.removeSink ep).2 = false ∧ a2 = { a with hs := (a.hs.removeSink ep).1 }) ∨
       ((a.hs.removeSink ep).2 = true ∧ a2 = (AS.tryExpand cfg { a with hs := (a.hs.removeSink ep).1 } false).1)) ∧
      a.removeSink cfg ep = ({ a2 with idle := a2.idle.filter (· ≠ ep) } : AS).updVarz) := by
  unfold AS.removeSink
  split
  · rename_i hap
    refine Or.inr ⟨hap, ?_⟩
    dsimp only
    cases hr : (a.hs.removeSink ep).2
    · exact ⟨_, Or.inl ⟨rfl, rfl⟩, by rw [if_neg Bool.false_ne_true]⟩
    · exact ⟨_, Or.inr ⟨rfl, rfl⟩, by rw [if_pos rfl]⟩
  · rename_i hap; exact Or.inl ⟨Bool.eq_false_iff.2 hap, rfl⟩

theorem removeSink_calm (cfg : Cfg) (a : AS) (ep : Nat) : Calm a (a.removeSink cfg ep) := by
  have h1 : Calm a { a with hs := (a.hs.removeSink ep).1 } := Calm.of_reqs (removeSink_reqs _ _)
  rcases removeSink_shape cfg a ep with ⟨_, e⟩ | ⟨_, a2, h2, e⟩ <;> rw [e]
  · exact h1
  · have c : Calm a a2 := by
      rcases h2 with ⟨_, rfl⟩ | ⟨_, rfl⟩
      · exact h1
      · exact h1.trans (tryExpand_moves cfg _ false).calm
    exact c.trans (Calm.of_reqs rfl)

def sampled (a : AS) (amount : Int) (i : AdjIn) (rest : List AdjIn) (missing : Bool) : AS :=
  { a with total := a.total + amount, ema := some i.avg, clock := MonoClock.sample a.clock i.now, adjIn := rest,
           bad := a.bad || missing }

/-- the branch `_AdjustAperture` takes on the smoothed load `avg` -/
def adjusted (cfg : Cfg) (a : AS) (avg : Rat) : AS :=
  match a.decision cfg avg with
  | .expand => (a.tryExpand cfg false).1
  | .contract => a.contract cfg false
  | .stay => a

/-- the record of a call that found `a` and left the sets as in `a2` -/
def recOf (a a2 : AS) (amount : Int) (i : AdjIn) : AdjRec :=
  let total' := a.total + amount
  let dt : Rat := if a.ema.isSome then MonoClock.sample a.clock i.now - a.clock else 0
  let w : Rat := if a.ema.isSome then i.w else 0
  let ema' := Ema.update a.ema w (total' : Rat)
  ⟨a.hs.size, a.idle.length, a.pending.length, a.numHealthy, i.avg, a2.hs.size, a2.idle.length,
    decide (ratAbs (ema' - i.avg) ≤ emaTol * (1 + ratAbs ema')), dt, w, a.ema, total'⟩

def logged (a : AS) (r : AdjRec) : AS := { a with adjLog := a.adjLog ++ [r] }

theorem adjustWith_eq (cfg : Cfg) (a : AS) (amount : Int) (i : AdjIn) (rest : List AdjIn) (missing : Bool) :
    a.adjustWith cfg amount i rest missing =
      logged (adjusted cfg (sampled a amount i rest missing) i.avg)
        (recOf a (adjusted cfg (sampled a amount i rest missing) i.avg) amount i) := by
  unfold AS.adjustWith logged recOf adjusted sampled
  rfl

theorem adjust_eq (cfg : Cfg) (a : AS) (amount : Int) :
    ∃ i rest missing, a.adjust cfg amount = a.adjustWith cfg amount i rest missing := by
  unfold AS.adjust
  split
  · exact ⟨_, _, _, rfl⟩
  · exact ⟨_, _, _, rfl⟩

theorem adjusted_calm (cfg : Cfg) (a : AS) (avg : Rat) : Calm a (adjusted cfg a avg) := by
  unfold adjusted
  split
  · exact (tryExpand_moves cfg a false).calm
  · rcases contract_shape cfg a false with ⟨_, h⟩ | ⟨ep, _, _, _, h⟩ <;> rw [h]
    · exact Calm.refl a
    · exact Calm.of_reqs (removeSink_reqs _ _)
  · exact Calm.refl a

theorem adjusted_moves (cfg : Cfg) (a : AS) (avg : Rat) (hap : cfg.aperture = true ∨ a.jitterWait.isSome = true) :
    Moves cfg a (adjusted cfg a avg) := by
  unfold adjusted
  split
  · exact tryExpand_moves cfg a false
  · exact contract_moves cfg a false hap
  · exact .refl

theorem adjustWith_book (cfg : Cfg) (a : AS) (amount : Int) (i : AdjIn) (rest : List AdjIn) (m : Bool) :
    (a.adjustWith cfg amount i rest m).total = a.total + amount ∧
    (a.adjustWith cfg amount i rest m).clock = MonoClock.sample a.clock i.now ∧
    (a.adjustWith cfg amount i rest m).ema = some i.avg ∧
    (a.adjustWith cfg amount i rest m).hs.reqs = a.hs.reqs ∧
    ∃ r : AdjRec, (a.adjustWith cfg amount i rest m).adjLog = a.adjLog ++ [r] ∧ r.prev = a.ema ∧ r.avg = i.avg := by
  have c := adjusted_calm cfg (sampled a amount i rest m) i.avg
  rw [adjustWith_eq]
  generalize adjusted cfg (sampled a amount i rest m) i.avg = a2 at c ⊢
  exact ⟨c.total, c.clock, c.ema, c.reqs, _, congrArg (· ++ [_]) c.adjLog, rfl, rfl⟩

theorem adjust_book (cfg : Cfg) (a : AS) (amount : Int) :
    (a.adjust cfg amount).total = a.total + amount ∧ (a.adjust cfg amount).hs.reqs = a.hs.reqs ∧
    ∃ r : AdjRec, (a.adjust cfg amount).adjLog = a.adjLog ++ [r] ∧ r.prev = a.ema ∧
      (a.adjust cfg amount).ema = some r.avg := by
  obtain ⟨i, rest, m, h⟩ := adjust_eq cfg a amount
  obtain ⟨h1, _, h3, h4, r, h5, h6, h7⟩ := adjustWith_book cfg a amount i rest m
  rw [h]
  exact ⟨h1, h4, r, h5, h6, h7 ▸ h3⟩

/-- `_OnGet`/`_OnPut`: a plain heap balancer has neither -/
theorem onMove_book (cfg : Cfg) (a : AS) (k : Int) :
    (if cfg.aperture then a.adjust cfg k else a).total = a.total + (if cfg.aperture then k else 0) ∧
    (if cfg.aperture then a.adjust cfg k else a).hs.reqs = a.hs.reqs := by
  split
  · exact ⟨(adjust_book cfg a k).1, (adjust_book cfg a k).2.1⟩
  · exact ⟨(Int.add_zero _).symm, rfl⟩

/-- `_AsyncProcessRequestImpl`; the `adjust cfg 1` is `_OnGet` -/
theorem get_book (cfg : Cfg) (a : AS) :
    a.get cfg = (a, .noMembers) ∨
    ∃ nid ep a2, Unadjusted a a2 ∧ a2.hs.reqs = a.hs.reqs ++ [(nid, false)] ∧
      a.get cfg = (if cfg.aperture then a2.adjust cfg 1 else a2, .node nid ep a.hs.reqs.length) := by
  by_cases h : a.hs.size = 0
  · exact Or.inl (get_of_empty cfg a h)
  · have c := getLoop_calm cfg (a.hs.nodes.length + a.idle.length + 1) a
    rw [get_of_members cfg a h]
    generalize a.getLoop cfg (a.hs.nodes.length + a.idle.length + 1) = g at c
    refine Or.inr ⟨g.2, (g.1.hs.node g.2).ep, { g.1 with hs := g.1.hs.dispatch g.2 }, ⟨c.total, c.ema, c.clock, c.adjLog⟩,
      (dispatch_reqs _ _).trans (congrArg (· ++ [(g.2, false)]) c.reqs), ?_⟩
    rw [← c.reqs]

/-- `PutWrapper()`; the `adjust cfg (-1)` is `_OnPut` -/
theorem put_shape (cfg : Cfg) (a : AS) (r j : Nat) :
    (∃ nid b, a.hs.reqs[r]? = some (nid, false) ∧
      a.put cfg r j =
        if cfg.aperture then AS.adjust cfg { a with hs := a.hs.put r (putDraw a.hs nid j), bad := b } (-1)
        else { a with hs := a.hs.put r (putDraw a.hs nid j), bad := b }) ∨
    ((∀ nid, a.hs.reqs[r]? ≠ some (nid, false)) ∧ ∃ b, a.put cfg r j = { a with bad := b }) := by
  unfold AS.put
  split
  · rename_i h; exact Or.inr ⟨fun nid e => (by rw [h] at e; cases e), _, rfl⟩
  · rename_i h; exact Or.inr ⟨fun nid e => (by rw [h] at e; cases e), a.bad, rfl⟩
  · rename_i nid h
    refine Or.inl ⟨nid, if putLegal a.hs nid j = true then a.bad else true, h, ?_⟩
    by_cases hl : putLegal a.hs nid j = true
    · simp only [if_pos hl]
    · simp only [if_neg hl]

theorem put_open_reqs {s : HS} {r nid : Nat} (h : s.reqs[r]? = some (nid, false)) (d : Nat) :
    (s.put r d).reqs = s.reqs.set r (nid, true) := by
  unfold HS.put
  rw [h]
  exact putNode_reqs _ _ _

theorem get_reqs (cfg : Cfg) (a : AS) :
    (a.get cfg).1.hs.reqs =
      a.hs.reqs ++ (match (a.get cfg).2 with | .noMembers => [] | .node nid _ _ => [(nid, false)]) ∧
    ∀ nid ep r, (a.get cfg).2 = .node nid ep r → r = a.hs.reqs.length := by
  rcases get_book cfg a with h | ⟨nid, ep, a2, _, h2, h⟩ <;> rw [h]
  · exact ⟨(List.append_nil _).symm, fun _ _ _ e => by cases e⟩
  · exact ⟨(onMove_book cfg a2 1).2.trans h2, fun _ _ _ e => (GetRes.node.inj e).2.2.symm⟩

theorem put_reqs (cfg : Cfg) (a : AS) (r j : Nat) :
    (a.put cfg r j).hs.reqs =
      match a.hs.reqs[r]? with
      | some (nid, false) => a.hs.reqs.set r (nid, true)
      | _ => a.hs.reqs := by
  rcases put_shape cfg a r j with ⟨nid, b, h, e⟩ | ⟨h, b, e⟩ <;> rw [e]
  · rw [h]
    exact (onMove_book cfg _ (-1)).2.trans (put_open_reqs h _)
  · split
    · rename_i nid h'; exact absurd h' (h nid)
    · rfl

end Scales.Aperture
