/-
  Proofs/SharedLemmas.lean — C16, SingletonPoolSink: the invariant `PInv` of the pool, what every
  operation does to a pool that satisfies it (`step_ok`, in the pool's own terms; `Step`, `step_digest`: what the
  specification has to know of it), and that every transition with `Step` satisfies `specS` (`Step.spec`).
-/
import ScalesModel.Adapter.Shared
import ScalesModel.Proofs.VerdictLemmas
namespace Scales.Shared

theorem upd_eq_modify (l : List USink) (k : Nat) (f : USink → USink) : upd l k f = l.modify k f := by
  fun_induction upd l k f <;> simp [*]

theorem upd_length (l : List USink) (k : Nat) (f : USink → USink) : (upd l k f).length = l.length := by
  rw [upd_eq_modify, List.length_modify]

theorem getElem?_upd_self (l : List USink) (k : Nat) (f : USink → USink) : (upd l k f)[k]? = l[k]?.map f := by
  rw [upd_eq_modify, List.getElem?_modify_eq]; rfl

theorem getElem?_upd_ne (l : List USink) {k i : Nat} (f : USink → USink) (h : i ≠ k) : (upd l k f)[i]? = l[i]? := by
  rw [upd_eq_modify, List.getElem?_modify_ne _ _ (Ne.symm h)]

theorem of_getElem?_upd {l : List USink} {k i : Nat} {f : USink → USink} {s : USink} (h : (upd l k f)[i]? = some s) :
    (i ≠ k ∧ l[i]? = some s) ∨ (i = k ∧ ∃ s0, f s0 = s) := by
  by_cases hik : i = k
  · subst hik
    rw [getElem?_upd_self, Option.map_eq_some_iff] at h
    exact Or.inr ⟨rfl, h.imp fun _ => And.right⟩
  · rw [getElem?_upd_ne l f hik] at h
    exact Or.inl ⟨hik, h⟩

theorem of_getElem?_concat {α : Type} {l : List α} {x s : α} {i : Nat} (h : (l ++ [x])[i]? = some s) :
    l[i]? = some s ∨ (i = l.length ∧ x = s) := by
  rcases Nat.lt_trichotomy i l.length with hlt | rfl | hgt
  · exact Or.inl (List.getElem?_append_left hlt ▸ h)
  · rw [List.getElem?_concat_length] at h; exact Or.inr ⟨rfl, Option.some.inj h⟩
  · rw [List.getElem?_eq_none (by rw [List.length_append]; exact hgt)] at h; cases h

-- The invariant of the POOL (the provider's is `ProvInv`; `POp`, `PObs`, `PAcc`, `PSink`, `PRel` are the provider's).
structure PInv (p : Pool) : Prop where
  nextLt : ∀ k, p.next = some k → k < p.sinks.length
  others : ∀ (i : Nat) (s : USink), p.sinks[i]? = some s → p.next ≠ some i → s.st = .closed
  -- Not true of a `USink` as such (`ORes.absent`), but of every sink in a pool: `Pool.create` is their only source and
  -- creates them with the first `Open()` pending.  So in the idle branch of `Pool.get` the open result is always pending
  -- and the `else` arm (hand over at once) is unreachable: `get_idle` takes it from here, `get_ok` has no fourth case.
  pend : ∀ (i : Nat) (s : USink), p.sinks[i]? = some s → (s.res = .pending ↔ s.st = .idle)
  wait : ∀ w ∈ p.waiters, p.next = some w.on ∧ isPending p w.on = true

variable {p : Pool}

theorem PInv.init : PInv {} := by
  constructor <;> intros <;> contradiction

theorem isPending_iff (p : Pool) (k : Nat) :
    isPending p k = true ↔ ∃ s, p.sinks[k]? = some s ∧ s.res = .pending := by
  unfold isPending
  cases p.sinks[k]? <;> simp

/-- the invariant does not read the count -/
theorem PInv.setRc (hi : PInv p) (r : Int) : PInv { p with rc := r } := ⟨hi.nextLt, hi.others, hi.pend, hi.wait⟩

theorem PInv.wait_on (hi : PInv p) {k : Nat} (hn : p.next = some k) : ∀ w ∈ p.waiters, w.on = k :=
  fun w hw => Option.some.inj ((hi.wait w hw).1.symm.trans hn)

theorem PInv.no_waiters (hi : PInv p)
    (h : ∀ k s, p.next = some k → p.sinks[k]? = some s → s.st ≠ .idle) : p.waiters = [] :=
  List.eq_nil_iff_forall_not_mem.2 fun w hw =>
    have ⟨hn, hp⟩ := hi.wait w hw
    have ⟨s, hs, hr⟩ := (isPending_iff p _).1 hp
    h _ s hn hs ((hi.pend _ s hs).1 hr)

theorem PInv.no_waiters_at (hi : PInv p) {k : Nat} {s : USink} (hn : p.next = some k)
    (hs : p.sinks[k]? = some s) (hst : s.st ≠ .idle) : p.waiters = [] :=
  hi.no_waiters fun k' s' hn' hs' => by
    cases hn.symm.trans hn'; cases hs.symm.trans hs'; exact hst

theorem PInv.others_of_ne (hi : PInv p) {k i : Nat} {s : USink} (hn : p.next = some k) (hs : p.sinks[i]? = some s)
    (hik : i ≠ k) : s.st = .closed :=
  hi.others i s hs (hn ▸ fun h => hik (Option.some.inj h).symm)

theorem PInv.live_is_next (hi : PInv p) {k : Nat} {s : USink} (hs : p.sinks[k]? = some s) (hl : s.st ≠ .closed) :
    p.next = some k :=
  Decidable.by_contra fun hne => hl (hi.others k s hs hne)

theorem PInv.pending_is_next (hi : PInv p) {k : Nat} (hp : isPending p k = true) :
    p.next = some k :=
  have ⟨s, hs, hr⟩ := (isPending_iff p k).1 hp
  hi.live_is_next hs fun h => nomatch ((hi.pend k s hs).1 hr).symm.trans h

def allClosed (l : List USink) : Prop := ∀ s ∈ l, s.st = .closed

theorem allClosed_iff (l : List USink) : allClosed l ↔ ∀ (i : Nat) (s : USink), l[i]? = some s → s.st = .closed :=
  ⟨fun h _ s hs => h s (List.mem_of_getElem? hs), fun h s hs =>
    have ⟨i, hi⟩ := List.mem_iff_getElem?.1 hs
    h i s hi⟩

theorem liveCount_eq_zero_iff (l : List USink) : liveCount l = 0 ↔ allClosed l := by
  simp [liveCount, allClosed, List.countP_eq_zero, USink.live]

theorem PInv.allClosed_of (hi : PInv p) (hn : p.next = none) : allClosed p.sinks :=
  (allClosed_iff _).2 fun i s hs => hi.others i s hs (hn ▸ nofun)

theorem PInv.no_waiters_of_allClosed (hi : PInv p) (hc : allClosed p.sinks) : p.waiters = [] :=
  hi.no_waiters fun _ s _ hs h => nomatch (hc s (List.mem_of_getElem? hs)).symm.trans h

theorem allClosed_upd_next (hi : PInv p) {k : Nat} (hn : p.next = some k) (f : USink → USink)
    (hf : ∀ s, (f s).st = .closed) : allClosed (upd p.sinks k f) := by
  rw [allClosed_iff]
  intro i s hs
  rcases of_getElem?_upd hs with ⟨hik, hs⟩ | ⟨_, s0, rfl⟩
  · exact hi.others_of_ne hn hs hik
  · exact hf s0

/-- what `Pool.create` appends: a sink whose first `Open()` is pending -/
def freshSink : USink := ⟨.idle, .pending, 1, 0⟩

theorem Pool.create_eq (p : Pool) (who : Who) :
    p.create who = ⟨p.sinks ++ [freshSink], some p.sinks.length, p.rc, p.waiters ++ [⟨who, p.sinks.length⟩]⟩ := rfl

theorem PInv.create {p : Pool} (hi : PInv p) (hc : allClosed p.sinks) (who : Who) :
    PInv (p.create who) := by
  rw [Pool.create_eq, hi.no_waiters_of_allClosed hc]
  rw [allClosed_iff] at hc
  refine ⟨fun k hk => ?_, fun i s hs _ => ?_, fun i s hs => ?_, fun w hw' => ?_⟩
  · cases hk
    simp
  · rcases of_getElem?_concat hs with hs | ⟨rfl, _⟩
    · exact hc i s hs
    · contradiction
  · rcases of_getElem?_concat hs with hs | ⟨_, rfl⟩
    · exact hi.pend i s hs
    · exact ⟨fun _ => rfl, fun _ => rfl⟩
  · cases List.mem_singleton.1 hw'
    exact ⟨rfl, (isPending_iff _ _).2 ⟨_, List.getElem?_concat_length, rfl⟩⟩

def Settles (f : USink → USink) : Prop := ∀ s, (f s).res ≠ .pending ∧ (f s).st ≠ .idle

/-- `hf` speaks of every `s` because the callers know `f`, not the old sink -/
theorem PInv.update (hi : PInv p) (k : Nat) {f : USink → USink} {ws : List Waiter}
    (hf : ∀ s, ((f s).res = .pending ↔ (f s).st = .idle) ∧ (p.next ≠ some k → (f s).st = .closed))
    (hw : ∀ w ∈ ws, p.next = some w.on ∧ ∃ s, (upd p.sinks k f)[w.on]? = some s ∧ s.res = .pending) :
    PInv { p with sinks := upd p.sinks k f, waiters := ws } := by
  refine ⟨fun j hj => Nat.lt_of_lt_of_eq (hi.nextLt j hj) (upd_length ..).symm, fun i s hs hne => ?_,
    fun i s hs => ?_, fun w h => ⟨(hw w h).1, (isPending_iff _ _).2 (hw w h).2⟩⟩
  · rcases of_getElem?_upd hs with ⟨_, hs⟩ | ⟨rfl, s0, rfl⟩
    · exact hi.others i s hs hne
    · exact (hf s0).2 hne
  · rcases of_getElem?_upd hs with ⟨_, hs⟩ | ⟨_, s0, rfl⟩
    · exact hi.pend i s hs
    · exact (hf s0).1

/-- sink `k` settles (open completed, failed, faulted or closed): its waiters leave -/
theorem PInv.settle (hi : PInv p) (k : Nat) {f : USink → USink} (hf : Settles f)
    (hcl : p.next ≠ some k → ∀ s, (f s).st = .closed) :
    PInv { p with sinks := upd p.sinks k f, waiters := p.waiters.filter (fun w => w.on != k) } :=
  hi.update k (fun s => ⟨⟨fun h => absurd h (hf s).1, fun h => absurd h (hf s).2⟩, fun hne => hcl hne s⟩)
    fun w hw => by
      obtain ⟨hw, hne⟩ := List.mem_filter.1 hw
      rw [getElem?_upd_ne _ _ (bne_iff_ne.1 hne)]
      exact ⟨(hi.wait w hw).1, (isPending_iff _ _).1 (hi.wait w hw).2⟩

theorem PInv.detach (hi : PInv p) (hc : allClosed p.sinks) : PInv { p with next := none } := by
  have hw := hi.no_waiters_of_allClosed hc
  rw [allClosed_iff] at hc
  exact ⟨nofun, fun i s hs _ => hc i s hs, hi.pend, fun w hw' => by rw [hw] at hw'; cases hw'⟩

def opReq : SOp → List Nat
  | .req r => [r]
  | .pcloseR r => [r]
  | .cresumeR _ r => [r]
  | _ => []

theorem fwdOf_eq (who : Who) (k : Option Nat) : fwdOf who k = (reqOf who).map (fun r => (r, k)) := by
  cases who <;> rfl

theorem flatMap_fwdOf (ws : List Waiter) (k : Option Nat) :
    ws.flatMap (fun w => fwdOf w.who k) = (reqsOf ws).map (fun r => (r, k)) := by
  simp only [reqsOf, fwdOf_eq, List.map_flatMap]

theorem PInv.filter_waiters (hi : PInv p) {k : Nat} (hn : p.next = some k) :
    p.waiters.filter (fun w => w.on != k) = [] ∧ p.waiters.filter (fun w => w.on == k) = p.waiters :=
  ⟨List.filter_eq_nil_iff.2 fun w hw => by simp [hi.wait_on hn w hw],
   List.filter_eq_self.2 fun w hw => by simp [hi.wait_on hn w hw]⟩

/-- the waiters of the current sink `k` are all the waiters: releasing them hands every waiting request to whatever
    is in the slot then -/
theorem PInv.release_eq (hi : PInv p) {k : Nat} (hn : p.next = some k) (sinks : List USink)
    (nx : Option Nat) (rc : Int) :
    (⟨sinks, nx, rc, p.waiters⟩ : Pool).release k =
      (⟨sinks, nx, rc, []⟩, (reqsOf p.waiters).map (fun r => (r, nx))) := by
  simp only [Pool.release, hi.filter_waiters hn, flatMap_fwdOf]

/-- What a step from `p` to `p'` handing over `f` does — every step but the one `ReClose` describes.  `rq`: the requests
    the operation brings.  The two Booleans each switch clauses on: `g` demands (`grow`, `live`) that a sink is created
    iff none is live — true of an operation that brings a request; `cl` allows (`fw`) the waiters to be handed to
    nobody — as only a `Close()` may.  So `StepOK p rq true false` says most; `get_ok` holds with either `g`. -/
structure StepOK (p : Pool) (rq : List Nat) (g cl : Bool) (p' : Pool) (f : List Fwd) : Prop where
  inv : PInv p'
  len : p'.sinks.length = p.sinks.length ∨
        (p'.sinks.length = p.sinks.length + 1 ∧ allClosed p.sinks ∧
          ∃ s, p'.sinks.getLast? = some s ∧ 1 ≤ s.opens)
  grow : g = true → allClosed p.sinks → p'.sinks.length = p.sinks.length + 1
  fw : (f = [] ∧ reqsOf p'.waiters = reqsOf p.waiters ++ rq) ∨
       (∃ k, p.next = some k ∧ k < p'.sinks.length ∧ (∀ i, i ≠ k → p'.sinks[i]? = p.sinks[i]?) ∧
          p'.waiters = [] ∧ f = (reqsOf p.waiters ++ rq).map (fun r => (r, p'.next)) ∧
          (p'.next = some k ∨ (p'.next = none ∧ cl = true ∧ allClosed p'.sinks)))
  live : g = true → p'.sinks.length = p.sinks.length → ¬ allClosed p'.sinks

/-- what `pool.Close()` with a re-entrant request `r` leaves behind when it does close the sink `k`:
    `k` closed and out of the slot, a fresh sink in the slot, the request waiting for its open; the
    greenlets that were waiting for `k`'s open handed to the fresh sink -/
def ReClose (p : Pool) (op : SOp) (p' : Pool) (f : List Fwd) : Prop :=
  ∃ k r, op = .pcloseR r ∧ p.next = some k ∧ p.rc - 1 ≤ 0 ∧
    p' = ⟨upd p.sinks k USink.callClose ++ [freshSink], some p.sinks.length, p.rc - 1,
          [⟨.req r, p.sinks.length⟩]⟩ ∧
    f = (reqsOf p.waiters).map (fun q => (q, some p.sinks.length))

theorem StepOK.quiet (p : Pool) {p' : Pool} (hi : PInv p') (hl : p'.sinks.length = p.sinks.length)
    (hw : p'.waiters = p.waiters) {cl : Bool} : StepOK p [] false cl p' [] :=
  ⟨hi, Or.inl hl, nofun, Or.inl ⟨rfl, by rw [hw, List.append_nil]⟩, nofun⟩

theorem StepOK.ofRc {p p' : Pool} {rq : List Nat} {g cl : Bool} {f : List Fwd} {r : Int}
    (h : StepOK { p with rc := r } rq g cl p' f) : StepOK p rq g cl p' f :=
  ⟨h.inv, h.len, h.grow, h.fw, h.live⟩

theorem create_ok (hi : PInv p) (hc : allClosed p.sinks) (who : Who) {g : Bool} :
    StepOK p (reqOf who) g false (p.create who) [] :=
  ⟨hi.create hc who,
    Or.inr ⟨List.length_append, hc, _, List.getLast?_concat, Nat.le_refl 1⟩,
    fun _ _ => List.length_append,
    Or.inl ⟨rfl, by simp [Pool.create_eq, reqsOf]⟩,
    fun _ h => absurd h (by simp [Pool.create_eq])⟩

theorem PInv.cur_of_live (hi : PInv p) (h : ¬ allClosed p.sinks) :
    ∃ k s, p.next = some k ∧ p.sinks[k]? = some s ∧ s.st ≠ .closed := by
  rcases Option.eq_none_or_eq_some p.next with hn | ⟨k, hn⟩
  · exact absurd (hi.allClosed_of hn) h
  · have hk := List.getElem?_eq_getElem (hi.nextLt k hn)
    refine ⟨k, _, hn, hk, fun hst => h ((allClosed_iff _).2 fun i s hs => ?_)⟩
    by_cases hik : i = k
    · cases hik; cases hk.symm.trans hs; exact hst
    · exact hi.others_of_ne hn hs hik

theorem get_none (who : Who) (hn : p.next = none) : p.get who = (p.create who, []) := by
  simp only [Pool.get, hn]

theorem get_of_allClosed (hi : PInv p) (hc : allClosed p.sinks) (who : Who) :
    p.get who = (p.create who, []) := by
  cases hn : p.next with
  | none => exact get_none who hn
  | some k =>
    have hlt := hi.nextLt k hn
    simp only [Pool.get, hn, List.getElem?_eq_getElem hlt, hc _ (List.getElem_mem hlt)]
    rfl

theorem get_opened (who : Who) {k : Nat} {s : USink} (hn : p.next = some k)
    (hs : p.sinks[k]? = some s) (hst : s.st = .opened) : p.get who = (p, fwdOf who (some k)) := by
  simp only [Pool.get, hn, hs, hst]

/-- the second branch of `_Get`: the current sink is still opening; call Open() again and wait -/
theorem get_idle (hi : PInv p) (who : Who) {k : Nat} {s : USink} (hn : p.next = some k)
    (hs : p.sinks[k]? = some s) (hst : s.st = .idle) :
    let q : Pool := { p with sinks := upd p.sinks k (fun _ => s.callOpen), waiters := p.waiters ++ [⟨who, k⟩] }
    p.get who = (q, []) ∧ PInv q := by
  have hco : s.callOpen.res = .pending ∧ s.callOpen.st = .idle := by
    simp [USink.callOpen, (hi.pend k s hs).2 hst, hst]
  refine ⟨by simp only [Pool.get, hn, hs, hst, hco.1, if_true],
    hi.update k (fun _ => ⟨⟨fun _ => hco.2, fun _ => hco.1⟩, fun hne => absurd hn hne⟩) fun w hw => ?_⟩
  have hwk : w.on = k :=
    (List.mem_append.1 hw).elim (hi.wait_on hn w) fun h => by cases List.mem_singleton.1 h; rfl
  rw [hwk, getElem?_upd_self, hs]
  exact ⟨hn, _, rfl, hco.1⟩

theorem get_ok (hi : PInv p) (who : Who) {g : Bool} : StepOK p (reqOf who) g false (p.get who).1 (p.get who).2 := by
  by_cases hc : allClosed p.sinks
  · rw [get_of_allClosed hi hc]
    exact create_ok hi hc who
  · obtain ⟨k, s, hn, hs, hl⟩ := hi.cur_of_live hc
    cases hst : s.st with
    | closed => exact absurd hst hl
    | idle =>
      obtain ⟨he, hq⟩ := get_idle hi who hn hs hst
      rw [he]
      refine ⟨hq, Or.inl (upd_length ..), fun _ h => absurd h hc,
        Or.inl ⟨rfl, by simp [reqsOf]⟩, fun _ _ h => ?_⟩
      have := h s.callOpen (List.mem_of_getElem? (by rw [getElem?_upd_self, hs]; rfl))
      rw [show s.callOpen.st = s.st from rfl, hst] at this
      cases this
    | opened =>
      rw [get_opened who hn hs hst]
      have hw : p.waiters = [] := hi.no_waiters_at hn hs (by simp [hst])
      exact ⟨hi, Or.inl rfl, fun _ h => absurd h hc,
        Or.inr ⟨k, hn, hi.nextLt k hn, fun _ _ => rfl, hw, by simp [hw, reqsOf, fwdOf_eq, hn], Or.inl hn⟩,
        fun _ _ => hc⟩

theorem shut_settles : Settles USink.shut := fun s => by
  unfold USink.shut
  exact ⟨by dsimp only; split <;> simp_all, nofun⟩

theorem callClose_settles : Settles USink.callClose := shut_settles

theorem openOk_settles : Settles USink.openOk := fun _ => ⟨nofun, nofun⟩

theorem settle_ok (hi : PInv p) {k : Nat} (hn : p.next = some k) {f : USink → USink} (hf : Settles f)
    (nx : Option Nat) (rc : Int) (cl : Bool)
    (hnx : nx = some k ∨ (nx = none ∧ cl = true ∧ ∀ s, (f s).st = .closed)) :
    StepOK p [] false cl ⟨upd p.sinks k f, nx, rc, []⟩ ((reqsOf p.waiters).map (fun r => (r, nx))) := by
  have h1 := hi.settle k hf (fun h => absurd hn h)
  rw [(hi.filter_waiters hn).1] at h1
  refine ⟨?_, Or.inl (upd_length ..), nofun,
    Or.inr ⟨k, hn, Nat.lt_of_lt_of_eq (hi.nextLt k hn) (upd_length ..).symm, fun i hik => getElem?_upd_ne _ _ hik,
      rfl, by rw [List.append_nil], ?_⟩, nofun⟩
  · rcases hnx with rfl | ⟨rfl, _, hc⟩
    · exact hn ▸ h1.setRc rc
    · exact (h1.detach (allClosed_upd_next hi hn f hc)).setRc rc
  · rcases hnx with rfl | ⟨rfl, hcl, hc⟩
    · exact Or.inl rfl
    · exact Or.inr ⟨rfl, hcl, allClosed_upd_next hi hn f hc⟩

-- `pool.Close()` reaches the sink's `Close()` only as the last one over a sink in the slot (`_last`); any other (`_other`)
-- counts down, and a request from inside it is an ordinary request.
theorem close_other (h : ¬ ∃ k, p.next = some k ∧ p.rc - 1 ≤ 0) :
    p.close = ({ p with rc := p.rc - 1 }, []) := by
  unfold Pool.close
  cases hn : p.next with
  | none => rfl
  | some k => exact if_neg fun hrc => h ⟨k, hn, hrc⟩

theorem closeR_other (r : Nat) (h : ¬ ∃ k, p.next = some k ∧ p.rc - 1 ≤ 0) :
    p.closeR r = ({ p with rc := p.rc - 1 } : Pool).get (.req r) := by
  unfold Pool.closeR
  cases hn : p.next with
  | none => rfl
  | some k => exact if_neg fun hrc => h ⟨k, hn, hrc⟩

theorem close_last (hi : PInv p) {k : Nat} (hn : p.next = some k) (hrc : p.rc - 1 ≤ 0) :
    p.close = (⟨upd p.sinks k USink.callClose, none, p.rc - 1, []⟩, (reqsOf p.waiters).map (fun r => (r, none))) := by
  simp only [Pool.close, hn, hrc, if_true]
  split
  · exact hi.release_eq hn ..
  · rename_i hp
    have hw : p.waiters = [] := hi.no_waiters fun k' s hn' hs hst => hp <| by
      cases hn.symm.trans hn'
      exact (isPending_iff _ _).2 ⟨s, hs, (hi.pend _ s hs).2 hst⟩
    rw [hw]; rfl

theorem closeR_last (hi : PInv p) {k : Nat} (r : Nat) (hn : p.next = some k) (hrc : p.rc - 1 ≤ 0) :
    p.closeR r =
      (⟨upd p.sinks k USink.callClose ++ [freshSink], some p.sinks.length, p.rc - 1,
        [⟨.req r, p.sinks.length⟩]⟩,
       (reqsOf p.waiters).map (fun q => (q, some p.sinks.length))) := by
  -- the waiters all wait on `k` and leave; the request from inside waits on the fresh sink, `p.sinks.length ≠ k`, and stays
  have hne : p.sinks.length ≠ k := Nat.ne_of_gt (hi.nextLt k hn)
  simp [Pool.closeR, hn, hrc, Pool.create_eq, Pool.release, upd_length, List.filter_append, hi.filter_waiters hn,
    hne, flatMap_fwdOf]

theorem close_ok (hi : PInv p) : StepOK p [] false true p.close.1 p.close.2 := by
  by_cases hm : ∃ k, p.next = some k ∧ p.rc - 1 ≤ 0
  · obtain ⟨k, hn, hrc⟩ := hm
    rw [close_last hi hn hrc]
    exact settle_ok hi hn callClose_settles _ _ _ (Or.inr ⟨rfl, rfl, fun _ => rfl⟩)
  · rw [close_other hm]
    exact .quiet p (hi.setRc (p.rc - 1)) rfl rfl

/-- `ok k`, `fail k`, `fault k` have one shape: if an open of `k` is pending, `f` settles the sink and its waiters are
    released; otherwise the pool becomes `q`, which the caller shows to be a quiet step -/
theorem complete_ok (hi : PInv p) (k : Nat) {f : USink → USink} (hf : Settles f) {q : Pool}
    (hq : isPending p k = false → StepOK p [] false false q []) (op : SOp)
    (hop : p.step op =
      if isPending p k = true then (⟨upd p.sinks k f, p.next, p.rc, p.waiters⟩ : Pool).release k else (q, [])) :
    StepOK p [] false false (p.step op).1 (p.step op).2 := by
  cases hp : isPending p k with
  | false => rw [hop, hp]; exact hq hp
  | true =>
    have hn := hi.pending_is_next hp
    rw [hop, hp, if_pos rfl, hi.release_eq hn]
    exact settle_ok hi hn hf _ _ _ (Or.inl hn)

theorem step_ok {p : Pool} (hi : PInv p) (op : SOp) :
    StepOK p (opReq op) (isReq op) (isClose op) (p.step op).1 (p.step op).2 ∨
    ReClose p op (p.step op).1 (p.step op).2 := by
  cases op with
  | req r | cresumeR _ r => exact Or.inl (get_ok hi (.req r))
  | cresume k => exact Or.inl (.quiet p hi rfl rfl)
  | popen =>
    by_cases h : p.rc + 1 > 1
    · rw [show p.step .popen = _ from if_pos h]; exact Or.inl (.quiet p (hi.setRc (p.rc + 1)) rfl rfl)
    · rw [show p.step .popen = _ from if_neg h]
      exact Or.inl (get_ok (hi.setRc (p.rc + 1)) .tryget).ofRc
  | ok k => exact Or.inl (complete_ok hi k openOk_settles (fun _ => .quiet p hi rfl rfl) _ rfl)
  | fail k => exact Or.inl (complete_ok hi k shut_settles (fun _ => .quiet p hi rfl rfl) _ rfl)
  | fault k =>
    refine Or.inl (complete_ok hi k shut_settles (fun hp => ?_) _ rfl)
    have h := hi.settle k shut_settles fun _ _ => rfl
    -- nobody waits on a sink whose open is not pending: the filter of `PInv.settle` removes nothing
    rw [List.filter_eq_self.2 fun w hw => bne_iff_ne.2 fun he => by
      rw [← he, (hi.wait w hw).2] at hp; cases hp] at h
    exact .quiet p h (upd_length ..) rfl
  | pclose | pcloseY => exact Or.inl (close_ok hi)
  | pcloseR r =>
    show StepOK p [r] true false (p.closeR r).1 (p.closeR r).2 ∨ ReClose p _ (p.closeR r).1 (p.closeR r).2
    by_cases hm : ∃ k, p.next = some k ∧ p.rc - 1 ≤ 0
    · obtain ⟨k, hn, hrc⟩ := hm
      rw [closeR_last hi r hn hrc]
      exact Or.inr ⟨k, r, rfl, hn, hrc, rfl, rfl⟩
    · rw [closeR_other r hm]
      exact Or.inl (get_ok (hi.setRc (p.rc - 1)) (.req r)).ofRc

/-- What the specification and the hand-over theorems of C16 have to know of a step from `p` to `p'` handing over `f`:
    `StepOK` and `ReClose` in one, and weaker than either (a greenlet without request may keep waiting; nothing is said of
    the sinks outside the slot).  `fwd`: the requests handed over (`l`, the first of those waiting or arriving) all go to
    what is in the slot after the step: the sink that was there before, the fresh sink of a request from inside
    `Close()`, or — handed to nobody — the slot a `Close()` has emptied. -/
structure Step (p : Pool) (op : SOp) (p' : Pool) (f : List Fwd) : Prop where
  inv : PInv p'
  fwd : ∃ l, f = l.map (fun r => (r, p'.next)) ∧ reqsOf p.waiters ++ opReq op = l ++ reqsOf p'.waiters ∧
    (l = [] ∨ match p'.next with
      | some k => p.next = some k ∨ ∃ r, op = .pcloseR r
      | none => isClose op = true ∧ allClosed p'.sinks)
  len : (p'.sinks.length = p.sinks.length ∧ (isReq op = true → ¬ allClosed p.sinks ∧ ¬ allClosed p'.sinks)) ∨
    (p'.sinks.length = p.sinks.length + 1 ∧ (∃ s, p'.sinks.getLast? = some s ∧ 1 ≤ s.opens) ∧
      (allClosed p.sinks ∨ (isReClose op = true ∧ allClosed (p'.sinks.take p.sinks.length))))

theorem step_digest (hi : PInv p) (op : SOp) : Step p op (p.step op).1 (p.step op).2 := by
  rcases step_ok hi op with h | ⟨k, r, hop, hn, hrc, hp', hf⟩
  · refine ⟨h.inv, ?_, ?_⟩
    · rcases h.fw with ⟨hf, hw⟩ | ⟨k, hk, _, _, hw, hf, hnx⟩
      · exact ⟨[], hf, hw.symm, Or.inl rfl⟩
      · refine ⟨_, hf, by rw [hw]; exact (List.append_nil _).symm, Or.inr ?_⟩
        rcases hnx with h | h
        · rw [h]; exact Or.inl hk
        · rw [h.1]; exact h.2
    · rcases h.len with e | ⟨e, hc, hs⟩
      · exact Or.inl ⟨e, fun hq => ⟨fun hc => absurd (h.grow hq hc) (by omega), h.live hq e⟩⟩
      · exact Or.inr ⟨e, hs, Or.inl hc⟩
  · -- the pool as `close` leaves it, then `create` for the request from inside
    have h := (close_ok hi).inv
    rw [close_last hi hn hrc] at h
    have := h.create (h.allClosed_of rfl) (.req r)
    rw [Pool.create_eq, upd_length] at this
    rw [hp', hf, hop]
    refine ⟨this, ⟨_, rfl, rfl, Or.inr (Or.inr ⟨r, rfl⟩)⟩,
      Or.inr ⟨by simp [upd_length], ⟨_, List.getLast?_concat, Nat.le_refl 1⟩, Or.inr ⟨rfl, ?_⟩⟩⟩
    rw [List.take_left' (upd_length ..)]
    exact allClosed_upd_next hi hn _ fun _ => rfl

theorem PInv.step (hi : PInv p) (op : SOp) : PInv (p.step op).1 := (step_digest hi op).inv

theorem Pool.run_inv (ops : List SOp) : ∀ {p : Pool}, PInv p → PInv (p.run ops) := by
  induction ops with
  | nil => intro p h; exact h
  | cons op ops ih => intro p h; exact ih (h.step op)

theorem othersClosed_eq (l : List SinkView) (k : Nat) :
    othersClosed l k = (l.eraseIdx k).all (fun y => y.1 == .closed) := by
  fun_induction othersClosed l k <;> simp [*]

theorem othersClosed_iff (l : List SinkView) (k : Nat) :
    othersClosed l k = true ↔ ∀ i x, l[i]? = some x → i ≠ k → x.1 = .closed := by
  simp only [othersClosed_eq, List.all_eq_true, beq_iff_eq, List.mem_eraseIdx_iff_getElem?]
  exact ⟨fun h i x hx hi => h x ⟨i, hi, hx⟩, fun h x ⟨i, hi, hx⟩ => h i x hx hi⟩

theorem liveN_eq_zero_iff (l : List SinkView) : liveN l = 0 ↔ ∀ x ∈ l, x.1 = .closed := by
  simp only [liveN, List.countP_eq_zero, bne_iff_ne, ne_eq, Decidable.not_not]

theorem liveN_le_one (l : List SinkView) (k : Nat) (h : othersClosed l k = true) : liveN l ≤ 1 := by
  -- at `k` the rest is closed, before `k` the head is
  fun_induction othersClosed l k with
  | case1 => exact Nat.zero_le 1
  | case2 y ys =>
    rw [liveN, List.countP_cons,
      show List.countP _ ys = 0 from (liveN_eq_zero_iff ys).2 fun x hx => beq_iff_eq.1 (List.all_eq_true.1 h x hx)]
    split <;> decide
  | case3 y ys k ih =>
    obtain ⟨hy, h⟩ := Bool.and_eq_true_iff.1 h
    rw [liveN, List.countP_cons, if_neg (by rw [beq_iff_eq.1 hy]; decide)]
    exact ih h

theorem minus_append_self (l m : List Nat) : minus (l ++ m) l = m := by
  induction l with
  | nil => rfl
  | cons x xs ih => simp [minus, ih]

/-- the function `snap` maps over the sinks: `snap p = p.sinks.map view` by `rfl` -/
def view (s : USink) : SinkView := (s.st, s.opens, s.closes)

theorem liveN_map_view (l : List USink) : liveN (l.map view) = liveCount l := by
  unfold liveN liveCount
  rw [List.countP_map]
  rfl

theorem liveN_view_eq_zero (l : List USink) : liveN (l.map view) = 0 ↔ allClosed l := by
  rw [liveN_map_view, liveCount_eq_zero_iff]

theorem PInv.others_view (hi : PInv p) {k : Nat} (hk : p.next = some k) :
    othersClosed (snap p) k = true := by
  rw [othersClosed_iff]
  intro i x hx hik
  rw [snap, List.getElem?_map, Option.map_eq_some_iff] at hx
  obtain ⟨s, hs, rfl⟩ := hx
  exact hi.others_of_ne hk hs hik

theorem PInv.live_le_one (hi : PInv p) : liveN (snap p) ≤ 1 := by
  rcases Option.eq_none_or_eq_some p.next with hn | ⟨k, hn⟩
  · exact Nat.le_trans (Nat.le_of_eq ((liveN_view_eq_zero _).2 (hi.allClosed_of hn))) (Nat.zero_le 1)
  · exact liveN_le_one _ k (hi.others_view hn)

/-- a hand-over to what is in the slot: to the one sink that may be live, or — by a `Close()` — to nobody with none live -/
theorem fwdOk_next {q : Pool} (hi : PInv q) {op : SOp} (hcl : q.next = none → isClose op = true) {pend : List Nat}
    {r : Nat} (hr : r ∈ pend) : fwdOk op pend (snap q) (r, encTgt q.next) = true := by
  cases hn : q.next with
  | some k =>
    have hlt : k + 1 ≤ (snap q).length := by rw [snap, List.length_map]; exact hi.nextLt k hn
    simp [fwdOk, encTgt, hr, hlt, hi.others_view hn]
  | none =>
    have : liveN (snap q) = 0 := (liveN_view_eq_zero _).2 (hi.allClosed_of hn)
    simp [fwdOk, encTgt, hr, hcl hn, this]

/-- what the specification remembers of a pool -/
def Pool.acc (p : Pool) : SAcc := ⟨snap p, reqsOf p.waiters⟩

theorem pendAfter_eq (a : SAcc) (op : SOp) : pendAfter a op = a.pend ++ opReq op := by
  cases op <;> simp only [pendAfter, opReq, List.append_nil]

theorem Step.spec {op : SOp} {p' : Pool} {f : List Fwd} (h : Step p op p' f) (idx : Nat) :
    specSObs p.acc idx op (sobs p' f) = .ok ∧ p.acc.after op (sobs p' f) = p'.acc := by
  unfold Pool.acc
  obtain ⟨hinv, ⟨l, rfl, hl, hnone⟩, hlen⟩ := h
  have hids : ((l.map fun r => (r, p'.next)).map fun x => (x.1, encTgt x.2)).map (·.1) = l := by
    simp [List.map_map, Function.comp_def]
  have hprev : liveN (snap p) = 0 ↔ allClosed p.sinks := liveN_view_eq_zero _
  have htake : liveN ((snap p').take p.sinks.length) = 0 ↔ allClosed (p'.sinks.take p.sinks.length) := by
    rw [snap, ← List.map_take]; exact liveN_view_eq_zero _
  have hlens : (snap p').length = p'.sinks.length ∧ (snap p).length = p.sinks.length :=
    ⟨List.length_map _, List.length_map _⟩
  refine ⟨?_, ?_⟩
  · simp only [specSObs, sobs, pendAfter_eq, hl, hlens.1, hlens.2, hids, minus_append_self]
    -- the tests of `specSObs`, one after the other.  One-live:
    refine (if_neg (Nat.not_lt.2 hinv.live_le_one)).trans ?_
    -- created-while-live
    refine (if_neg fun h => ?_).trans ?_
    · simp only [Bool.and_eq_true, Bool.or_eq_true, decide_eq_true_eq, Bool.not_eq_true'] at h
      rcases hlen with ⟨e, _⟩ | ⟨_, _, hc | ⟨hR, hc⟩⟩
      · exact Nat.lt_irrefl _ (e ▸ h.1.1)
      · rw [hprev.2 hc] at h; exact Nat.lt_irrefl 0 h.1.2
      · rw [hR, htake.2 hc] at h
        exact h.2.elim nofun (Nat.lt_irrefl 0)
    -- not-replaced
    refine (if_neg fun h => ?_).trans ?_
    · simp only [Bool.and_eq_true, Bool.not_eq_true', Bool.and_eq_false_iff] at h
      rcases hlen with ⟨e, hlive⟩ | ⟨e, ⟨s, hs, ho⟩, _⟩
      · have hc := h.1.2
        split at hc
        · rw [beq_iff_eq, htake, ← e, List.take_length] at hc
          exact (hlive h.1.1).2 hc
        · exact (hlive h.1.1).1 (hprev.1 (beq_iff_eq.1 hc))
      · rw [e, beq_self_eq_true, show lastOpened (snap p') = true by simp [lastOpened, snap, List.getLast?_map, hs, ho]] at h
        exact h.2.elim nofun nofun
    split
    · -- request-dropped, forward-not-shared: `fwdOk_next`
      next x hx =>
      have hbad := List.find?_some hx
      have hmem := List.mem_of_find?_eq_some hx
      simp only [List.map_map, List.mem_map, Function.comp] at hmem
      obtain ⟨r, hr, rfl⟩ := hmem
      have := fwdOk_next hinv (op := op) (fun hn => by
        rw [hn] at hnone
        exact (hnone.resolve_left (List.ne_nil_of_mem hr)).1) (List.mem_append_left (reqsOf p'.waiters) hr)
      rw [this] at hbad
      cases hbad
    · -- request-stuck: somebody waits, so the sink in the slot is idle
      refine if_neg fun h => ?_
      simp only [Bool.and_eq_true, Bool.not_eq_true'] at h
      have hw : p'.waiters = [] := hinv.no_waiters fun k s _ hs hst => by
        have : anyIdle (snap p') = true :=
          List.any_eq_true.2 ⟨view s, List.mem_map_of_mem (List.mem_of_getElem? hs), by simp [view, hst]⟩
        rw [h.1] at this; cases this
      rw [hw] at h
      cases h.2
  · -- still pending: those of `l ++ waiting` not handed over
    simp only [SAcc.after, sobs, pendAfter_eq, hl, hids, minus_append_self]

theorem spec_singleton_go (ops : List SOp) :
    ∀ (p : Pool) (idx : Nat), PInv p → specSGo p.acc idx (singletonCore.trace () p ops) = .ok := by
  induction ops with
  | nil => intros; rfl
  | cons op ops ih =>
    intro p idx hi
    have ⟨h1, h2⟩ := (step_digest hi op).spec idx
    exact Verdict.and_ok h1 (h2 ▸ ih _ _ (hi.step op))
end Scales.Shared
