import ScalesModel.Proofs.HeapPrim
import ScalesModel.Adapter.Heap

/-! The invariant of heap.py, `HInv` (with `Core`: without the down list; `Inv`: with base.py's `_servers`), and how its
    bookkeeping conjuncts move to a state that differs in one node's load / closed count and in the dispatch
    records, or not at all. -/
namespace Scales.Heap

/-- number of dispatch records for node `id` that have not completed -/
def outL (reqs : List (Nat × Bool)) (id : Nat) : Nat :=
  (reqs.filter (fun r => decide (r.1 = id) && !r.2)).length

def outOf (s : HS) (id : Nat) : Nat := outL s.reqs id

theorem outOf_congr {s s' : HS} (h : s'.reqs = s.reqs) (id : Nat) : outOf s' id = outOf s id := by
  unfold outOf; rw [h]

/-- fewer than 2^31−1 dispatches: a load ≥ 0 then always means "marked down" -/
def maxReqs : Nat := 2147483647

/-- the bookkeeping part of the invariant; it does not depend on how the heap is arranged nor on
    the down list -/
structure Book (s : HS) : Prop where
  /-- load = outstanding, measured from Idle (healthy) or from 0 (marked down) -/
  acct : ∀ id, id < s.nodes.length →
    (s.node id).load = (outOf s id : Int) ∨ (s.node id).load = Idle + (outOf s id : Int)
  bound : s.reqs.length < maxReqs
  reqsOk : ∀ r ∈ s.reqs, r.1 < s.nodes.length
  closedIn : ∀ id, InHeap s id → (s.node id).closed = 0
  closedOff : ∀ id, id < s.nodes.length → ¬ InHeap s id →
    (s.node id).closed = (if outOf s id = 0 ∨ (s.node id).load ≥ 0 then 1 else 0)
  epsInj : ∀ a b, InHeap s a → InHeap s b → (s.node a).ep = (s.node b).ep → a = b

/-- membership (base.py `_servers`) and the heap hold the same endpoints -/
def SrvOk (s : HS) : Prop := ∀ ep, ep ∈ s.servers ↔ ∃ id, InHeap s id ∧ (s.node id).ep = ep

structure DownOk (s : HS) (d : List Nat) : Prop where
  pen : ∀ id ∈ d, id < s.nodes.length ∧ (s.node id).load ≥ 0
  all : ∀ id, InHeap s id → (s.node id).load ≥ 0 → id ∈ d
  nodup : d.Nodup

/-- what `__Get`, `__Put` and the channel events keep on every balancer that inherits them: the aperture
    balancer keeps part of the server set outside its heap, so `_servers` is not tied to the heap here -/
structure HInv (s : HS) : Prop where
  wf : WF s
  ord : Ord (L s) s.size
  book : Book s
  down : DownOk s s.down

structure Inv (s : HS) : Prop where
  wf : WF s
  ord : Ord (L s) s.size
  book : Book s
  down : DownOk s s.down
  srv : SrvOk s

theorem HInv.of_inv {s : HS} (h : Inv s) : HInv s := ⟨h.wf, h.ord, h.book, h.down⟩

theorem HInv.inv {s : HS} (h : HInv s) (srv : SrvOk s) : Inv s := ⟨h.wf, h.ord, h.book, h.down, srv⟩

/-- the state with `_servers` replaced by `l`; the proofs write `{ s with servers := l }` (`HInv.servers`) and use
    neither this nor the three lemmas under it -/
def HS.ws (s : HS) (l : List Nat) : HS := { s with servers := l }

@[simp] theorem ws_size (s : HS) (l : List Nat) : (s.ws l).size = s.size := rfl
theorem ws_setNode (s : HS) (l : List Nat) (id : Nat) (n : Node) : (s.ws l).setNode id n = (s.setNode id n).ws l := rfl
theorem ws_swap (s : HS) (l : List Nat) (i j : Nat) : (s.ws l).swap i j = (s.swap i j).ws l := rfl

theorem Inv.acct {s : HS} (h : Inv s) : ∀ id, id < s.nodes.length →
    (s.node id).load = (outOf s id : Int) ∨ (s.node id).load = Idle + (outOf s id : Int) := h.book.acct

theorem outL_le (reqs : List (Nat × Bool)) (id : Nat) : outL reqs id ≤ reqs.length :=
  List.length_filter_le _ _

theorem outL_zero (reqs : List (Nat × Bool)) (id : Nat) (h : ∀ r ∈ reqs, r.1 ≠ id) : outL reqs id = 0 := by
  unfold outL
  rw [List.length_eq_zero_iff, List.filter_eq_nil_iff]
  intro r hr
  simp [h r hr]

theorem outL_append (reqs : List (Nat × Bool)) (nid id : Nat) :
    outL (reqs ++ [(nid, false)]) id = outL reqs id + (if nid = id then 1 else 0) := by
  unfold outL
  rw [List.filter_append, List.length_append]
  by_cases h : nid = id <;> simp [h]

theorem outL_set (reqs : List (Nat × Bool)) (r nid id : Nat) (h : reqs[r]? = some (nid, false)) :
    outL (reqs.set r (nid, true)) id + (if nid = id then 1 else 0) = outL reqs id := by
  unfold outL
  induction reqs generalizing r with
  | nil => simp at h
  | cons x xs ih =>
    cases r with
    | zero =>
      simp only [List.getElem?_cons_zero, Option.some.injEq] at h
      subst h
      by_cases e : nid = id <;> simp [e]
    | succ r =>
      simp only [List.getElem?_cons_succ] at h
      have := ih r h
      simp only [List.set_cons_succ, List.filter_cons]
      split <;> (try simp only [List.length_cons]) <;> omega

theorem outL_set_done (reqs : List (Nat × Bool)) (r nid id : Nat) (h : reqs[r]? = some (nid, true)) :
    outL (reqs.set r (nid, true)) id = outL reqs id := by
  obtain ⟨hr, e⟩ := List.getElem?_eq_some_iff.mp h
  rw [← e, List.set_getElem_self]

theorem Book.out_lt {s : HS} (b : Book s) (id : Nat) : (outOf s id : Int) < Penalty := by
  have := outL_le s.reqs id
  have := b.bound
  unfold maxReqs at this
  unfold outOf Penalty
  omega

/-- under the bound, "load ≥ 0" is exactly "accounted from 0" -/
theorem Book.pen_iff {s : HS} (b : Book s) (id : Nat) (hl : id < s.nodes.length) :
    ((s.node id).load ≥ 0 ↔ (s.node id).load = (outOf s id : Int)) ∧
    ((s.node id).load < 0 ↔ (s.node id).load = Idle + (outOf s id : Int)) ∧
    Idle ≤ (s.node id).load ∧ (s.node id).load < Penalty := by
  have h1 := b.out_lt id
  have h2 := b.acct id hl
  unfold Idle Penalty at *
  omega

/-- "idle or marked down", the test `_RemoveSink` makes on the load, in terms of the dispatch records -/
theorem Book.idle_iff {s : HS} (b : Book s) (id : Nat) (hl : id < s.nodes.length) :
    ((s.node id).load = Idle ∨ (s.node id).load ≥ 0) ↔ (outOf s id = 0 ∨ (s.node id).load ≥ 0) := by
  have h1 := b.out_lt id
  have h2 := b.acct id hl
  unfold Idle Penalty at *
  omega

/-- the nodes in `P` get new accounts, nothing else that the bookkeeping reads changes -/
theorem Book.updateOn {s s' : HS} (b : Book s) (P : Nat → Prop)
    (hlen : s'.nodes.length = s.nodes.length) (hin : ∀ id, InHeap s' id ↔ InHeap s id)
    (hep : ∀ id, (s'.node id).ep = (s.node id).ep)
    (hother : ∀ id, ¬ P id → (s'.node id).load = (s.node id).load ∧
      (s'.node id).closed = (s.node id).closed ∧ outOf s' id = outOf s id)
    (hacct : ∀ id, P id →
      (s'.node id).load = (outOf s' id : Int) ∨ (s'.node id).load = Idle + (outOf s' id : Int))
    (hbound : s'.reqs.length < maxReqs) (hreqs : ∀ r ∈ s'.reqs, r.1 < s.nodes.length)
    (hcin : ∀ id, P id → InHeap s id → (s'.node id).closed = 0)
    (hcoff : ∀ id, P id → ¬ InHeap s id →
      (s'.node id).closed = if outOf s' id = 0 ∨ (s'.node id).load ≥ 0 then 1 else 0) : Book s' := by
  constructor
  · intro id hl
    by_cases e : P id
    · exact hacct id e
    · obtain ⟨a, _, c⟩ := hother id e
      rw [a, c]; exact b.acct id (hlen ▸ hl)
  · exact hbound
  · intro r hr; rw [hlen]; exact hreqs r hr
  · intro id h
    rw [hin] at h
    by_cases e : P id
    · exact hcin id e h
    · rw [(hother id e).2.1]; exact b.closedIn id h
  · intro id hl hn
    rw [hin] at hn
    by_cases e : P id
    · exact hcoff id e hn
    · obtain ⟨a, c, d⟩ := hother id e
      rw [a, c, d]; exact b.closedOff id (hlen ▸ hl) hn
  · intro a c ha hc he
    rw [hep, hep] at he
    exact b.epsInj a c ((hin a).mp ha) ((hin c).mp hc) he

theorem Book.update {s s' : HS} (b : Book s) (nid : Nat)
    (hlen : s'.nodes.length = s.nodes.length) (hin : ∀ id, InHeap s' id ↔ InHeap s id)
    (hep : ∀ id, (s'.node id).ep = (s.node id).ep)
    (hother : ∀ id, id ≠ nid → (s'.node id).load = (s.node id).load ∧
      (s'.node id).closed = (s.node id).closed ∧ outOf s' id = outOf s id)
    (hacct : (s'.node nid).load = (outOf s' nid : Int) ∨ (s'.node nid).load = Idle + (outOf s' nid : Int))
    (hbound : s'.reqs.length < maxReqs) (hreqs : ∀ r ∈ s'.reqs, r.1 < s.nodes.length)
    (hcin : InHeap s nid → (s'.node nid).closed = 0)
    (hcoff : ¬ InHeap s nid →
      (s'.node nid).closed = if outOf s' nid = 0 ∨ (s'.node nid).load ≥ 0 then 1 else 0) : Book s' :=
  b.updateOn (· = nid) hlen hin hep hother (fun _ e => e ▸ hacct) hbound hreqs (fun _ e => e ▸ hcin)
    (fun _ e => e ▸ hcoff)

theorem Book.same {s s' : HS} (b : Book s) (hlen : s'.nodes.length = s.nodes.length)
    (hin : ∀ id, InHeap s' id ↔ InHeap s id)
    (hnode : ∀ id, (s'.node id).load = (s.node id).load ∧ (s'.node id).ep = (s.node id).ep ∧
      (s'.node id).closed = (s.node id).closed) (hr : s'.reqs = s.reqs) : Book s' :=
  b.updateOn (fun _ => False) hlen hin (fun id => (hnode id).2.1)
    (fun id _ => ⟨(hnode id).1, (hnode id).2.2, outOf_congr hr id⟩) (fun _ e => e.elim)
    (hr ▸ b.bound) (hr ▸ b.reqsOk) (fun _ e => e.elim) (fun _ e => e.elim)

theorem DownOk.update {s s' : HS} {d : List Nat} (b : DownOk s d)
    (hlen : s'.nodes.length = s.nodes.length) (hin : ∀ id, InHeap s' id ↔ InHeap s id)
    (hload : ∀ id, ((s'.node id).load ≥ 0 ↔ (s.node id).load ≥ 0)) : DownOk s' d := by
  constructor
  · intro id h
    obtain ⟨a, c⟩ := b.pen id h
    exact ⟨hlen ▸ a, (hload id).mpr c⟩
  · intro id h hl
    exact b.all id ((hin id).mp h) ((hload id).mp hl)
  · exact b.nodup

theorem SrvOk.update {s s' : HS} (b : SrvOk s) (hin : ∀ id, InHeap s' id ↔ InHeap s id)
    (hep : ∀ id, (s'.node id).ep = (s.node id).ep) (hs : s'.servers = s.servers) : SrvOk s' := by
  intro ep
  rw [hs, b ep]
  constructor
  · rintro ⟨id, h1, h2⟩; exact ⟨id, (hin id).mpr h1, by rw [hep]; exact h2⟩
  · rintro ⟨id, h1, h2⟩; exact ⟨id, (hin id).mp h1, by rw [← hep]; exact h2⟩

/-- what the bookkeeping needs from a frame (channel states are irrelevant to it) -/
structure FrameW (s s' : HS) : Prop where
  size : s'.size = s.size
  len : s'.nodes.length = s.nodes.length
  fields : ∀ id, (s'.node id).load = (s.node id).load ∧ (s'.node id).ep = (s.node id).ep ∧
    (s'.node id).closed = (s.node id).closed
  inHeap : ∀ id, InHeap s' id ↔ InHeap s id
  down : s'.down = s.down
  reqs : s'.reqs = s.reqs
  servers : s'.servers = s.servers

theorem Frame.toW {s s' : HS} (f : Frame s s') : FrameW s s' :=
  ⟨f.size, f.len, fun id => ⟨(f.fields id).1, (f.fields id).2.1, (f.fields id).2.2.2⟩, f.inHeap, f.down, f.reqs,
    f.servers⟩

theorem Frame.outOf {s s' : HS} (f : Frame s s') (id : Nat) : outOf s' id = outOf s id := outOf_congr f.reqs id

theorem Book.frameW {s s' : HS} (b : Book s) (f : FrameW s s') : Book s' :=
  b.same f.len f.inHeap f.fields f.reqs

theorem SrvOk.frameW {s s' : HS} (b : SrvOk s) (f : FrameW s s') : SrvOk s' :=
  b.update f.inHeap (fun id => (f.fields id).2.1) f.servers

theorem DownOk.frameW {s s' : HS} {d : List Nat} (b : DownOk s d) (f : FrameW s s') : DownOk s' d :=
  b.update f.len f.inHeap fun id => by rw [(f.fields id).1]

theorem Book.frame {s s' : HS} (b : Book s) (f : Frame s s') : Book s' := b.frameW f.toW
theorem DownOk.frame {s s' : HS} {d : List Nat} (b : DownOk s d) (f : Frame s s') : DownOk s' d := b.frameW f.toW

theorem HInv.frameW {s s' : HS} (h : HInv s) (f : FrameW s s') (hw : WF s') (ho : Ord (L s') s'.size) : HInv s' :=
  ⟨hw, ho, h.book.frameW f, by rw [f.down]; exact h.down.frameW f⟩


theorem Inv.frame {s s' : HS} (h : Inv s) (f : Frame s s') (hw : WF s') (ho : Ord (L s') s'.size) : Inv s' :=
  ((HInv.of_inv h).frameW f.toW hw ho).inv (h.srv.frameW f.toW)

/-- `HInv` without the down list: what holds of the states inside a scan, whose `down` field is stale -/
structure Core (s : HS) : Prop where
  wf : WF s
  ord : Ord (L s) s.size
  book : Book s

theorem HInv.core {s : HS} (h : HInv s) : Core s := ⟨h.wf, h.ord, h.book⟩

theorem Core.lists {s : HS} (c : Core s) (d sv : List Nat) : Core { s with down := d, servers := sv } :=
  ⟨c.wf.same rfl rfl fun _ => rfl, c.ord,
    ⟨c.book.acct, c.book.bound, c.book.reqsOk, c.book.closedIn, c.book.closedOff, c.book.epsInj⟩⟩

theorem HInv.servers {s : HS} (h : HInv s) (sv : List Nat) : HInv { s with servers := sv } :=
  have c := h.core.lists s.down sv
  ⟨c.wf, c.ord, c.book, h.down.pen, h.down.all, h.down.nodup⟩

end Scales.Heap
