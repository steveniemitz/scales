/-
  Proofs/ProxyLemmas.lean — C20, component `proxy`: lookups in a class dictionary after `dset` and
  `dupdate` (the last write wins); `dget_table`, the one equation saying which attributes `table`
  generates, from which Props/C20 reads its theorems; the model's history of calls satisfies the
  specification (`specGo_model`).
-/
import ScalesModel.Adapter.Proxy
import ScalesModel.Proofs.VerdictLemmas
namespace Scales.Proxy

theorem mem_dedup (l : List Name) (a : Name) : a ∈ dedup l ↔ a ∈ l := by
  induction l with
  | nil => simp [dedup]
  | cons x xs ih =>
    simp only [dedup, List.mem_cons, List.mem_filter, ih]
    by_cases h : a = x <;> simp [h]

theorem dget_dset (k k' : Name) (v : Gen) (t : Table) :
    dget k (dset k' v t) = if k' = k then some v else dget k t := by
  fun_induction dset k' v t with
  | case1 => by_cases h : k' = k <;> simp [dget, h]
  | case2 ve rest => by_cases h2 : k' = k <;> simp [dget, h2]
  | case3 ke ve rest h1 ih =>
    by_cases h2 : k' = k
    · subst h2; simp [dget, h1, ih]
    · simp [dget, h2, ih]

theorem dget_append (k : Name) (t u : Table) : dget k (t ++ u) = (dget k t).or (dget k u) := by
  fun_induction dget k t <;> simp [dget, *]

/-- `d.update(kvs)`: for a key, the last entry of `kvs` that has it wins; `d` is asked only if none has. -/
theorem dget_dupdate (k : Name) (kvs : List (Name × Gen)) :
    ∀ t : Table, dget k (dupdate t kvs) = (dget k kvs.reverse).or (dget k t) := by
  induction kvs with
  | nil => exact fun _ => rfl
  | cons kv rest ih =>
    intro t
    show dget k (dupdate (dset kv.1 kv.2 t) rest) = _
    rw [ih, dget_dset, List.reverse_cons, dget_append, Option.or_assoc]
    by_cases h : kv.1 = k <;> simp [dget, h]

theorem dget_map (key : Name → Name) (val : Name → Gen) (k : Name) (ms : List Name) :
    dget k (ms.map fun m => (key m, val m)) = (ms.find? fun m => key m = k).map val := by
  induction ms with
  | nil => rfl
  | cons m rest ih => by_cases h : key m = k <;> simp [dget, h, ih]

theorem find?_key {key : Name → Name} (hinj : ∀ a b, key a = key b → a = b) {m : Name} {l : List Name}
    (hm : m ∈ l) : l.find? (fun x => key x = key m) = some m := by
  induction l with
  | nil => cases hm
  | cons x xs ih =>
    by_cases h : key x = key m
    · simp [hinj x m h]
    · rw [List.find?_cons_of_neg (by simpa using h)]
      exact ih ((List.mem_cons.mp hm).resolve_left fun e => h (e ▸ rfl))

theorem asyncBase_some (us : List Name) (attr m : Name) (h : asyncBase us attr = some m) :
    m ∈ us ∧ m ++ asyncSuffix = attr :=
  ⟨List.mem_of_find?_eq_some h, by simpa using List.find?_some h⟩

/-- At most one user method has a given `_async` name, so the order of the search does not matter. -/
theorem find?_reverse_async (us : List Name) (n : Name) :
    us.reverse.find? (fun m => m ++ asyncSuffix = n) = asyncBase us n := by
  cases h : asyncBase us n with
  | none => exact List.find?_eq_none.mpr fun m hm => List.find?_eq_none.mp h m (List.mem_reverse.mp hm)
  | some m =>
    obtain ⟨hm, rfl⟩ := asyncBase_some us n m h
    exact find?_key (key := (· ++ asyncSuffix)) (fun _ _ => List.append_cancel_right) (List.mem_reverse.mpr hm)

/-- The generated class dictionary, attribute by attribute, in the specification's own terms: the
    `_async` entries are written last, so a name that is `m ++ "_async"` for a user method `m` is the
    asynchronous form of `m` whatever else it is; any other user method is its own blocking form. -/
theorem dget_table (us : List Name) (n : Name) :
    dget n (table us) = ((asyncBase us n).map fun m => (Form.async, m)).or
      (if n ∈ us then some (Form.sync, n) else none) := by
  rw [table, dget_dupdate, ← List.map_reverse, dget_map (· ++ asyncSuffix), find?_reverse_async]
  refine congrArg _ ((dget_map (fun m => m) _ n us).trans ?_)
  by_cases hn : n ∈ us
  · rw [find?_key (key := fun m => m) (fun _ _ h => h) hn, if_pos hn]; rfl
  · rw [List.find?_eq_none.mpr fun m hm => by simpa using fun e : m = n => hn (e ▸ hm), if_neg hn]; rfl

theorem asyncBase_eq_none_of_noCollision {us : List Name} (h : noCollision us = true) {m : Name}
    (hm : m ∈ us) : asyncBase us m = none :=
  List.find?_eq_none.mpr fun m' hm' heq => by
    have := List.all_eq_true.mp h m' hm'
    rw [of_decide_eq_true heq] at this
    simp [hm] at this

theorem specObs_model (cfg : Cfg) (op : Op) (hop : opOk (userMethods cfg.classes) op = true)
    (idx : Nat) : specObs cfg idx op (step cfg () op).2 = .ok := by
  cases op with
  | count => rfl
  | call attr args kwargs late out =>
    simp only [opOk, Bool.not_eq_true', Bool.and_eq_false_iff, List.contains_eq_mem, decide_eq_false_iff_not,
      Option.isSome_eq_false_iff, Option.isNone_iff_eq_none] at hop
    simp only [specObs, step, dget_table, List.contains_eq_mem, decide_eq_true_eq]
    by_cases hmem : attr ∈ userMethods cfg.classes
    · simp [hmem, hop.resolve_left (not_not_intro hmem), callGen, isBlockingForm]
    · cases hb : asyncBase (userMethods cfg.classes) attr with
      | none => simp [hmem]
      | some m => simp [hmem, callGen, isAsyncForm]

theorem specGo_model (cfg : Cfg) :
    ∀ (ops : List Op) (idx : Nat), ops.all (opOk (userMethods cfg.classes)) = true →
      specGo cfg idx (comp.trace cfg () ops) = .ok := by
  intro ops
  induction ops with
  | nil => intros; rfl
  | cons op ops ih =>
    intro idx h
    simp only [List.all_cons, Bool.and_eq_true] at h
    simp only [TComp.trace, comp, specGo]
    exact Verdict.and_ok (specObs_model cfg op h.1 idx) (ih (idx + 1) h.2)

end Scales.Proxy
