import ScalesModel.Proofs.ApertureInv
import ScalesModel.Proofs.HeapChans

/-!
  The heap invariant `HInv` (Proofs/HeapInv.lean) through every function of the aperture model
  (Model/Aperture.lean), so that C03/C04 can be decided on the balancers that inherit `__Get`/`__Put`.
  An idle endpoint that enters the heap has no node there: that is `PInv` (Proofs/ApertureInv.lean), which these
  lemmas take beside `HInv`.

  The point where the order of the code matters: `AS.getLoop` runs `_OnNodeDown` *after* `Heap.FixDown`, so
  the hook (which may append a node and sift it up) finds the heap ordered (`getLoop_ok`).
-/
namespace Scales.Aperture
open Scales.Heap

/-- what every function of the model other than a channel event keeps: the heap invariant, and the channel
    states (new nodes start Idle) -/
structure Keep (s s' : HS) : Prop where
  hinv : HInv s'
  ch : ChExt s s'

theorem Keep.trans {s t u : HS} (h1 : Keep s t) (h2 : Keep t u) : Keep s u := ⟨h2.hinv, h1.ch.trans h2.ch⟩

theorem Keep.refl {s : HS} (h : HInv s) : Keep s s := ⟨h, ChExt.refl s⟩

theorem hsAdd_keep {s : HS} (h : HInv s) {ep : Nat} (hnew : ep ∉ heapEps s) : Keep s (s.addSink ep) :=
  ⟨HInv_addSink h ep fun id hin he => hnew (mem_heapEps.2 ⟨id, hin, he⟩), 1, chans_addSink h.wf ep⟩

theorem hsRemove_keep {s : HS} (h : HInv s) (ep : Nat) : Keep s (s.removeSink ep).1 :=
  ⟨HInv_removeSink h ep, ChExt.of_eq (chans_removeSink h.wf ep)⟩

theorem Moves.keep {cfg : Cfg} {a a' : AS} (m : Moves cfg a a') (inv : PInv cfg a) (h : HInv a.hs) :
    Keep a.hs a'.hs := by
  induction m with
  | refl => exact Keep.refl h
  | same _ hs _ _ _ ih => rw [hs]; exact ih
  | expand m x hx ih => exact ih.trans (hsAdd_keep ih.hinv fun hh => (m.stable inv).inv.not_both hh hx)
  | shrink _ ep _ _ _ ih => exact ih.trans (hsRemove_keep ih.hinv ep)

/-- `_OnGet`/`_OnPut` -/
theorem onMove_keep (cfg : Cfg) {a : AS} (inv : PInv cfg a) (h : HInv a.hs) (k : Int) :
    Keep a.hs (if cfg.aperture then a.adjust cfg k else a).hs := by
  split
  · rename_i hap
    obtain ⟨i, rest, m, e⟩ := adjust_eq cfg a k
    have kp : Keep a.hs (adjusted cfg (sampled a k i rest m) i.avg).hs :=
      (adjusted_moves cfg (sampled a k i rest m) i.avg (Or.inl hap)).keep ⟨inv.wf, inv.nodup, inv.kind⟩ h
    rw [e, adjustWith_eq]
    exact kp
  · exact Keep.refl h

theorem addSink_keep (cfg : Cfg) {a : AS} (h : HInv a.hs) (ep : Nat) (hep : ep ∉ heapEps a.hs) :
    Keep a.hs (a.addSink cfg ep).hs := by
  rcases addSink_shape cfg a ep with ⟨_, _, _, e⟩ | ⟨_, _, _, _, e⟩ <;> rw [e]
  · exact hsAdd_keep h hep
  · exact Keep.refl h

theorem removeSink_keep (cfg : Cfg) {a : AS} (inv : PInv cfg a) (h : HInv a.hs) (ep : Nat) :
    Keep a.hs (a.removeSink cfg ep).hs := by
  have k1 := hsRemove_keep h ep
  rcases removeSink_shape cfg a ep with ⟨_, e⟩ | ⟨_, a2, h2, e⟩ <;> rw [e]
  · exact k1
  rcases h2 with ⟨_, rfl⟩ | ⟨_, rfl⟩
  · exact k1
  · exact k1.trans ((tryExpand_moves cfg { a with hs := (a.hs.removeSink ep).1 } false).keep (removeSink_heap inv ep).1
      k1.hinv)

theorem put_keep (cfg : Cfg) {a : AS} (inv : PInv cfg a) (h : HInv a.hs) (r j : Nat) :
    Keep a.hs (a.put cfg r j).hs := by
  rcases put_shape cfg a r j with ⟨nid, b, hr, e⟩ | ⟨_, b, e⟩ <;> rw [e]
  · have k1 : Keep a.hs (a.hs.put r (putDraw a.hs nid j)) :=
      ⟨(HInv_put h r _ (putDraw_ok hr j)).1, ChExt.of_eq (chans_put h r _ (putDraw_ok hr j))⟩
    exact k1.trans (onMove_keep cfg (Stable.of_hframe (a' := { a with hs := a.hs.put r (putDraw a.hs nid j), bad := b })
      inv (put_HFrame inv.wf r _ (putDraw_ok hr j)) rfl rfl rfl).inv k1.hinv (-1))
  · exact Keep.refl h

theorem setChan_hinv {a : AS} (h : HInv a.hs) (nid st : Nat) : HInv (a.setChan nid st).hs := by
  unfold AS.setChan
  split
  · exact HInv_setChan h nid st
  · exact h

/-- the hook after a mark-down: no node leaves the heap, and candidates for further mark-downs plus idle
    endpoints have not become more — a new node uses up an idle endpoint -/
theorem onNodeDown_step (cfg : Cfg) {a : AS} (hw : WF a.hs) (hn : a.idle.Nodup) (nid : Nat) (l : List Nat)
    (hc : Cand l a.hs) :
    MFrame a.hs (a.onNodeDown cfg nid).1.hs ∧
    ∃ l', Cand l' (a.onNodeDown cfg nid).1.hs ∧
      l'.length + (a.onNodeDown cfg nid).1.idle.length = l.length + a.idle.length := by
  rcases onNodeDown_eq cfg a nid with e | e <;> rw [e]
  · exact ⟨MFrame.refl _, l, hc, rfl⟩
  rcases tryExpand_shape cfg a false with ⟨_, e⟩ | ⟨c, _, _, _, hcm, e⟩ <;> rw [e]
  · exact ⟨MFrame.refl _, l, hc, rfl⟩
  · refine ⟨MFrame_addSink hw c, _, Cand_addSink hw c l hc, ?_⟩
    show _ + (a.idle.filter (· ≠ c)).length = _
    rw [List.length_cons, ← filter_ne_length hn hcm]
    omega

/-- `loop_spec` for the aperture's hook; its budget is the idle set -/
theorem getLoop_ok (cfg : Cfg) (fuel : Nat) (a : AS) (l : List Nat) (inv : PInv cfg a) (h : HInv a.hs)
    (hsz : 1 ≤ a.hs.size) (hc : Cand l a.hs) (hlen : l.length + a.idle.length < fuel) :
    LoopOk MFrame a.hs (a.getLoop cfg fuel).1.hs (a.getLoop cfg fuel).2 := by
  refine loop_spec AS.hs (fun a => { a with hs := a.hs.scanned })
    (fun a => (AS.onNodeDown cfg { a with hs := a.hs.scanned.markRoot } (a.hs.scanned.idAt 1)).1) (AS.getLoop cfg)
    (getLoop_step cfg) MFrame MFrame.of_G MFrame.trans MFrame.size (PInv cfg) (fun a => a.idle.length)
    (fun _ => rfl) ?_ fuel a l inv h hsz hc hlen
  intro a l inv i4 c4
  have st1 : Stable cfg a { a with hs := a.hs.scanned.markRoot } :=
    Stable.of_hframe inv ((scanned_HFrame inv.wf).trans (markRoot_HFrame (scanned_HFrame inv.wf).wf)) rfl rfl rfl
  obtain ⟨m5, l', cl', hl'⟩ := onNodeDown_step cfg (a := { a with hs := a.hs.scanned.markRoot }) i4.wf
    st1.inv.idle_nodup (a.hs.scanned.idAt 1) l c4
  exact ⟨(onNodeDown_spec cfg st1.inv _).1.inv, ((onNodeDown_moves cfg _ _).keep st1.inv i4).hinv, m5, l', cl', le_of_eq hl'⟩

/-- the loop as `_AsyncProcessRequestImpl` runs it: every node is a candidate, the fuel is nodes + idle + 1 -/
theorem getLoop_ok_of_get (cfg : Cfg) {a : AS} (inv : PInv cfg a) (h : HInv a.hs) (hsz : 1 ≤ a.hs.size) :
    LoopOk MFrame a.hs (a.getLoop cfg (a.hs.nodes.length + a.idle.length + 1)).1.hs
      (a.getLoop cfg (a.hs.nodes.length + a.idle.length + 1)).2 :=
  getLoop_ok cfg _ a (List.range a.hs.nodes.length) inv h hsz
    (fun id hin _ => List.mem_range.mpr (inHeap_lt a.hs h.wf id hin)) (by rw [List.length_range]; exact Nat.lt_succ_self _)

/-- `_AsyncProcessRequestImpl` -/
theorem get_ok (cfg : Cfg) {a : AS} (inv : PInv cfg a) (h : HInv a.hs)
    (hb : a.hs.size ≠ 0 → a.hs.reqs.length + 1 < maxReqs) :
    Keep a.hs (a.get cfg).1.hs ∧
    ((a.get cfg).2 = .noMembers ↔ a.hs.size = 0) ∧
    (∀ nid ep r, (a.get cfg).2 = .node nid ep r →
      (InHeap a.hs nid ∨ a.hs.nodes.length ≤ nid) ∧
      ((∃ m, InHeap a.hs m ∧ (a.hs.node m).chan = chOpen) →
        InHeap a.hs nid ∧ (a.hs.node nid).chan = chOpen ∧
        ∀ m, InHeap a.hs m → (a.hs.node m).chan = chOpen → outOf a.hs nid ≤ outOf a.hs m)) := by
  by_cases hsz : a.hs.size = 0
  · rw [get_of_empty cfg a hsz]
    exact ⟨Keep.refl h, ⟨fun _ => hsz, fun _ => rfl⟩, fun _ _ _ hc => by cases hc⟩
  · have hsz1 : 1 ≤ a.hs.size := Nat.one_le_iff_ne_zero.2 hsz
    have gk := getLoop_ok_of_get cfg inv h hsz1
    have st1 := (getLoop_spec cfg (a.hs.nodes.length + a.idle.length + 1) inv).1
    rw [get_of_members cfg a hsz]
    generalize a.getLoop cfg (a.hs.nodes.length + a.idle.length + 1) = g at gk st1
    dsimp only
    obtain ⟨hin1, hmem, hchoice⟩ := choice_ok h.wf gk hsz1
    have i2 := (dispatch_spec _ gk.hinv g.2 hin1 (by rw [gk.frame.reqs]; exact hb hsz)).1
    have ch2 := chans_dispatch gk.hinv.wf g.2 hin1
    have st2 : Stable cfg g.1 { g.1 with hs := g.1.hs.dispatch g.2 } :=
      Stable.of_hframe st1.inv (dispatch_HFrame st1.inv.wf g.2) rfl rfl rfl
    generalize ha2 : ({ g.1 with hs := g.1.hs.dispatch g.2 } : AS) = a2 at st2
    have e2 : a2.hs = g.1.hs.dispatch g.2 := by rw [← ha2]
    rw [← e2] at i2 ch2
    have k2 : Keep a.hs a2.hs := ⟨i2, gk.frame.ch.trans (ChExt.of_eq ch2)⟩
    have k3 := k2.trans (onMove_keep cfg st2.inv i2 1)
    refine ⟨k3, ⟨fun hc => GetRes.noConfusion hc, fun hc => absurd hc hsz⟩, ?_⟩
    intro nid ep r' he
    cases he
    exact ⟨hmem, hchoice⟩

end Scales.Aperture
