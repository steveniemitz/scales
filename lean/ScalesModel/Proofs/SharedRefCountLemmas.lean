import ScalesModel.Adapter.Shared
import ScalesModel.Proofs.VerdictLemmas

/-!
  Proofs/SharedRefCountLemmas.lean — C16, RefCountedSink: the balance `Bal` between a wrapper's count and the
  underlying sink's `Open()`s and `Close()`s, kept by the two arithmetic facts `Bal.opened`, `Bal.closed` (which the
  provider's wrappers use again); the invariant `RInv`, and that the model's observations satisfy `specR`.
-/
namespace Scales.Shared

/-- with `n` holders having it open, the underlying sink has seen `o` `Open()`s and `c` `Close()`s: one more `Open()`
    iff somebody has it open -/
def Bal (n o c : Nat) : Prop := o = c + if 0 < n then 1 else 0

theorem Bal.opened {n o c : Nat} (h : Bal n o c) : Bal (n + 1) (o + if n = 0 then 1 else 0) c := by
  unfold Bal at *
  cases n <;> (rw [h]; rfl)

theorem Bal.closed {n o c : Nat} (h : Bal n o c) : Bal (n - 1) o (c + if n = 1 then 1 else 0) := by
  unfold Bal at *
  rcases n with _ | _ | m <;> exact h

/-- what the specifications test of a holder's `Open()` (the underlying `Open()` exactly at 0 → 1) … -/
theorem open_effect_ok {n o o' : Nat} (h : o' = o + if n = 0 then 1 else 0) :
    ¬ (n = 0 ∧ o' ≠ o + 1) ∧ ¬ (n ≠ 0 ∧ o' ≠ o) := by
  by_cases h0 : n = 0 <;> simp [h, h0]

/-- … and of its `Close()` (the underlying `Close()` exactly at 1 → 0) -/
theorem close_effect_ok {n c c' : Nat} (h : c' = c + if n = 1 then 1 else 0) :
    ¬ (n = 0 ∧ c' ≠ c) ∧ ¬ (n = 1 ∧ c' ≠ c + 1) ∧ ¬ (1 < n ∧ c' ≠ c) := by
  by_cases h1 : n = 1 <;> simp [h, h1]

/-- `ar`: while the count is positive the open result kept is that of the last underlying `Open()`.  That the count is the
    number of holders is not part of it (`RC.run_count`) -/
structure RInv (s : RC) : Prop where
  bal : Bal s.count s.opens s.closes
  ar : 0 < s.count → s.ar = s.opens

theorem RInv.init : RInv {} := ⟨rfl, fun h => absurd h (by decide)⟩

/-- here and in `RC.rclose_eq` the increments are written as `Bal.opened`, `Bal.closed`, `open_effect_ok`,
    `close_effect_ok` have them, so that after rewriting with the equation these apply as they stand -/
theorem RC.ropen_eq (s : RC) (h : Nat) :
    (s.step (.ropen h)).1 =
      { s with count := s.count + 1, opens := s.opens + (if s.count = 0 then 1 else 0),
               ar := if s.count = 0 then s.opens + 1 else s.ar } := by
  by_cases h0 : s.count = 0 <;> simp [RC.step, h0]

theorem RInv.ropen_result {s : RC} (hi : RInv s) (h : Nat) :
    (s.step (.ropen h)).1.ar = (s.step (.ropen h)).1.opens ∧
    (s.step (.ropen h)).2 = (s.step (.ropen h)).1.opens := by
  by_cases h0 : s.count = 0
  · simp [RC.step, h0]
  · simp [RC.step, h0, hi.ar (Nat.pos_of_ne_zero h0)]

theorem RC.rclose_eq (s : RC) (h : Nat) :
    (s.step (.rclose h)).1 =
      { s with count := s.count - 1, closes := s.closes + (if s.count = 1 then 1 else 0),
               ar := if s.count = 1 then 0 else s.ar } := by
  obtain ⟨c, o, cl, ar⟩ := s
  rcases c with _ | _ | m <;> simp [RC.step]

theorem RInv.step {s : RC} (hi : RInv s) (op : ROp) : RInv (s.step op).1 := by
  cases op with
  | ropen h => exact ⟨by rw [s.ropen_eq h]; exact hi.bal.opened, fun _ => (hi.ropen_result h).1⟩
  | rclose h =>
    rw [s.rclose_eq h]
    exact ⟨hi.bal.closed, fun (hp : 0 < s.count - 1) => (if_neg (by omega)).trans (hi.ar (by omega))⟩
  | rfault => exact hi

theorem RC.run_inv (ops : List ROp) : ∀ {s : RC}, RInv s → RInv (s.run ops) := by
  induction ops with
  | nil => intro s h; exact h
  | cons op ops ih => intro s h; exact ih (h.step op)

theorem RC.step_count (s : RC) (op : ROp) : (s.step op).1.count = holders s.count [op] := by
  cases op with
  | ropen h => rw [s.ropen_eq h]; rfl
  | rclose h => rw [s.rclose_eq h]; rfl
  | rfault => rfl

theorem holders_cons (n : Nat) (op : ROp) (ops : List ROp) : holders n (op :: ops) = holders (holders n [op]) ops := by
  cases op <;> rfl

theorem RC.run_count (ops : List ROp) : ∀ (s : RC), (s.run ops).count = holders s.count ops := by
  induction ops with
  | nil => intro s; rfl
  | cons op ops ih => intro s; rw [holders_cons, ← RC.step_count]; exact ih _

/-- what the specification remembers of a ref-counted sink -/
def RC.acc (s : RC) : RAcc := ⟨s.count, s.opens, s.closes⟩

theorem spec_step_refcount {s : RC} (hi : RInv s) (y : Bool) (idx : Nat) (op : ROp) :
    specRObs s.acc idx op (rstep y s op).2 = .ok ∧ s.acc.after op (rstep y s op).2 = (s.step op).1.acc := by
  unfold RC.acc
  cases op with
  | ropen h =>
    have hb := hi.bal.opened
    have h4 : ¬ s.opens + (if s.count = 0 then 1 else 0) = 0 := by rw [hb]; simp
    have he := open_effect_ok (n := s.count) (o := s.opens) rfl
    refine ⟨?_, by simp only [RAcc.after, rstep, s.ropen_eq h]⟩
    simp only [specRObs, rstep, RAcc.after, (hi.ropen_result h).2, s.ropen_eq h, if_neg he.1, if_neg he.2, ne_eq,
      not_true, or_false, if_false, if_neg h4, Verdict.ok_and]
    exact if_pos hb
  | rclose h =>
    have he := close_effect_ok (n := s.count) (c := s.closes) rfl
    refine ⟨?_, by simp only [RAcc.after, rstep, s.rclose_eq h]⟩
    simp only [specRObs, rstep, RAcc.after, s.rclose_eq h, ne_eq, not_true, if_false, if_neg he.1,
      if_neg he.2.1, if_neg he.2.2, Verdict.ok_and]
    exact if_pos hi.bal.closed
  | rfault =>
    refine ⟨?_, rfl⟩
    simp only [specRObs, rstep, RAcc.after, RC.step, ne_eq, not_true, or_self, if_false, Verdict.ok_and]
    exact if_pos hi.bal

theorem spec_refcount_go (y : Bool) (ops : List ROp) :
    ∀ (s : RC) (idx : Nat), RInv s → specRGo s.acc idx (refcountCore.trace y s ops) = .ok := by
  induction ops with
  | nil => intros; rfl
  | cons op ops ih =>
    intro s idx hi
    have ⟨h1, h2⟩ := spec_step_refcount hi y idx op
    exact Verdict.and_ok h1 (h2 ▸ ih _ _ (hi.step op))

end Scales.Shared
