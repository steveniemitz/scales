/-
  Proofs/TagPoolStep.lean — one step of the multiplexed transport sink: from a state in
  the three invariants every enabled operation shows an observation that every clause of the
  specification accepts (C11, C02, C12), and the invariants hold again (`step_good`).  What a step
  can do is listed once, as a relation with one row per branch of the code (`Sent` for an iteration
  of the send loop, `Trans` for the operations), and whatever the invariants need of a step is shown
  by cases on the rows; every row but the re-open and `wbegin` (which takes the `Good` of `send`) is a
  `Step`: the obligations of a step, with "as before" for whatever the row leaves alone.  The rows
  over-approximate: `refused` carries no guard at all (`Sent.empty`, `Sent.missing` carry the guard that
  failed), so "the guards hold, hence the effect" does not follow from a row; the theorems of Props that
  say this of one step function (`C11_exhaustion_no_tag`, `C02_mux_delivery_via_tagmap_kafka`,
  `C12_mux_discard_after_send`, …) unfold that function themselves.  The last part of the file is what
  Props/C02 and C12 read off the rows: nothing delivered, fired deadlines kept, the entry of a written request.
-/
import ScalesModel.Proofs.TagPoolLemmas
namespace Scales.TagPool

def Good (cfg : Cfg) (a : Acc) (op : Op) (r : St × Out) : Prop :=
  Clauses cfg a op (obsOf r.1 r.2) ∧ InvAll cfg (a.after op (obsOf r.1 r.2)) r.1

/-- The branches of an iteration of `_SendLoop` (`stepSend`).  The queue is `empty`; a `ping` or a
    `discard` goes out; the request at the head is `missing` from the table (not a behaviour of the
    code); it was `answered` while queued and is skipped; its deadline event has fired and it is
    `dropped`, its tag released (`expired`: it held none any more); or its frame is `written`: the
    two branches that write it are one row, stated on `n`, the request's entry afterwards —
    `{ r with sub := true }` where `_HandleTimeout` subscribes it to a pending event first, `r` itself
    where it has no event. -/
inductive Sent (s : St) : St × Out → Prop
  | empty : s.sendq = [] → Sent s (s, { res := .badop })
  | ping {q} : s.sendq = .ping :: q → Sent s ({ s with sendq := q }, { wrote := [⟨.ping, 1, 0⟩] })
  | discard {w q} : s.sendq = .discard w :: q → Sent s ({ s with sendq := q }, { wrote := [⟨.discard, 0, w⟩] })
  | missing {rid t q} : s.sendq = .req rid t :: q → s.reqs[rid]? = none → Sent s ({ s with sendq := q }, { res := .badop })
  | answered {rid t q r} : s.sendq = .req rid t :: q → s.reqs[rid]? = some r → r.key = .answered →
      Sent s ({ s with sendq := q }, {})
  | dropped {rid t q r t'} : s.sendq = .req rid t :: q → s.reqs[rid]? = some r → r.ev = .fired → r.key = .tag t' →
      Sent s ((releaseTag { s with sendq := q, reqs := s.reqs.set rid { r with key := .absent } } t').1, {})
  | expired {rid t q r} : s.sendq = .req rid t :: q → s.reqs[rid]? = some r → r.ev = .fired → r.key = .absent →
      Sent s ({ s with sendq := q, reqs := s.reqs.set rid { r with key := .absent } }, {})
  | written {rid t q r n} : s.sendq = .req rid t :: q → s.reqs[rid]? = some r → r.key ≠ .answered → r.ev ≠ .fired →
      n.key = r.key → n.ev = r.ev → (n.ev = .unfired → n.sub = true) →
      Sent s ({ s with sendq := q, reqs := s.reqs.set rid n }, { wrote := [⟨.req, t, rid⟩] })

theorem stepSend_sent (s : St) : Sent s (stepSend s) := by
  fun_cases stepSend s
  case case1 hq => exact .empty hq
  case case2 q hq => exact .ping hq
  case case3 w q hq => exact .discard hq
  case case4 rid t q hq _ hr => exact .missing hq hr
  case case5 rid t q hq _ r hr hk => exact .answered hq hr hk
  case case6 rid t q hq _ r hr hev _ t' _ hk => exact .dropped hq hr hev hk
  case case7 rid t q hq _ r hr hev _ hna hnt =>
    refine .expired hq hr hev ?_
    cases hk : r.key <;> [exact absurd hk (hnt _); exact absurd hk hna; rfl]
  case case8 rid t q hq _ r hr hev hna => exact .written hq hr hna (hev ▸ nofun) rfl rfl fun _ => rfl
  case case9 rid t q hq _ r hr hev hna =>
    have := Sent.written (n := r) hq hr hna (hev ▸ nofun) rfl rfl fun e => nomatch hev.symm.trans e
    rwa [reqs_set_same hr] at this

/-- The branches of `stepOp` on transport `fl` with a pool of size `max`.  `refused` is an operation
    that is not enabled, with no guard; a `.send` that finds nothing to send is `send` with `Sent.empty` / `Sent.missing`. -/
inductive Trans (fl : Flavour) (max : Nat) (s : St) : Op → St × Out → Prop
  | fire {rid r} : s.reqs[rid]? = some r → r.ev = .unfired →
      Trans fl max s (.fire rid) ({ s with reqs := s.reqs.set rid { r with ev := .fired } }, {})
  | exhausted {e popped} : s.pool.get max popped = .exhausted →
      Trans fl max s (.req e popped) ({ s with reqs := s.reqs ++ [⟨.absent, evOf e, false⟩] }, { res := .exhausted })
  | acquire {e popped t p'} : s.pool.get max popped = .tag t p' →
      Trans fl max s (.req e popped)
        ({ pool := p', tagmap := tmSet t s.reqs.length s.tagmap, sendq := s.sendq ++ [.req s.reqs.length t],
           reqs := s.reqs ++ [⟨.tag t, evOf e, false⟩], writing := s.writing }, { assigned := t })
  | ping : fl = .thriftmux → Trans fl max s .ping ({ s with sendq := s.sendq ++ [.ping] }, {})
  | send {r} : s.writing = false → Sent s r → Trans fl max s .send r
  | wbegin {r} : s.writing = false → Sent s r → r.2.wrote.isEmpty = false →
      Trans fl max s .wbegin ({ r.1 with writing := true }, r.2)
  | wend : s.writing = true → Trans fl max s .wend ({ s with writing := false }, {})
  | quiet : ((s.writing || s.sendq.isEmpty) && s.reqs.all (fun r => !r.notifyPending)) = true → Trans fl max s .quiet (s, {})
  | notify {rid r} : s.reqs[rid]? = some r → r.ev = .fired → r.sub = true →
      Trans fl max s (.notify rid)
        ({ s with reqs := s.reqs.set rid { r with sub := false, key := .absent }, sendq := s.sendq ++ onTimeout fl r.key }, {})
  | reserved {mt t} : fl = .thriftmux → (t = 1 ∧ mt = -65) ∨ t = 0 → Trans fl max s (.process mt t) (s, {})
  | unknown {mt t} : tmLookup t s.tagmap = none → Trans fl max s (.process mt t) (s, {})
  | answer {mt t rid} : (fl = .thriftmux → ¬((t = 1 ∧ mt = -65) ∨ t = 0)) → tmLookup t s.tagmap = some rid →
      Trans fl max s (.process mt t)
        ({ s with tagmap := tmErase t s.tagmap, pool := s.pool.release t, reqs := setKey s.reqs rid .answered },
         { delivered := [rid] })
  | reopen : Trans fl max s .reopen (St.init, {})
  | refused {op} : Trans fl max s op (s, { res := .badop })

theorem taggedReply_trans {fl : Flavour} {max : Nat} (s : St) (mt : Int) (t : Nat)
    (h : fl = .thriftmux → ¬((t = 1 ∧ mt = -65) ∨ t = 0)) : Trans fl max s (.process mt t) (stepProcessKafka s t) := by
  unfold stepProcessKafka
  cases hl : tmLookup t s.tagmap with
  | none => rw [releaseTag_none hl]; exact .unknown hl
  | some rid => rw [releaseTag_some hl]; exact .answer h hl

theorem stepOp_trans (fl : Flavour) (max : Nat) (s : St) (op : Op) : Trans fl max s op (stepOp fl max s op) := by
  cases op <;> simp only [stepOp]
  case reopen => exact .reopen
  case req e popped => fun_cases stepReq max s e popped <;> [exact .exhausted ‹_›; exact .refused; exact .acquire ‹_›]
  case fire rid => fun_cases stepFire s rid <;> [exact .fire ‹_› ‹_›; exact .refused; exact .refused]
  case send => split <;> [exact .refused; exact .send (Bool.eq_false_iff.mpr ‹_›) (stepSend_sent s)]
  case wbegin =>
    fun_cases stepWBegin s <;>
      [exact .refused; exact .refused; exact .wbegin (Bool.eq_false_iff.mpr ‹_›) (stepSend_sent s) (Bool.eq_false_iff.mpr ‹_›)]
  case wend => fun_cases stepWEnd s <;> [exact .wend ‹_›; exact .refused]
  case quiet => fun_cases stepQuiet s <;> [exact .quiet ‹_›; exact .refused]
  case ping => cases fl <;> [exact .ping rfl; exact .refused]
  case notify rid =>
    cases fl <;> simp only
    · fun_cases stepNotify s rid
      case case1 r hr hc _ t hk => simpa only [onTimeout, hk] using Trans.notify (fl := .thriftmux) (max := max) hr hc.1 hc.2
      case case2 r hr hc _ hnt =>
        have := Trans.notify (fl := .thriftmux) (max := max) hr hc.1 hc.2
        cases hk : r.key <;> [exact absurd hk (hnt _); skip; skip] <;>
          simpa only [onTimeout, hk, List.append_nil] using this
      all_goals exact .refused
    · fun_cases stepNotifyKafka s rid
      case case1 r hr hc => simpa only [onTimeout, List.append_nil] using Trans.notify (fl := .kafka) (max := max) hr hc.1 hc.2
      all_goals exact .refused
  case process mt t =>
    cases fl <;> simp only
    · rw [stepProcess_eq]
      split <;> [exact .reserved rfl ‹_›; exact taggedReply_trans s mt t fun _ => ‹_›]
    · exact taggedReply_trans s mt t nofun

variable {cfg : Cfg} {a : Acc} {s : St}

/-- What is to be shown of a step `op` other than a re-open that leads from `s`, in the invariants, to
    `s'` and shows `out`: one field per field of the invariants, in their order, then one per clause of
    the specification; `u'` is the list of written, unanswered frames after the step.  Where the two do not match
    one to one (`Step.good` has the reasons): `owed` gives `Inv12.owed` and the clauses `discard-unexpected` and
    `discard-missing`; `InvM.cov` comes in the two parts `mustAfter` has — a covered tag stays covered unless the step
    writes its Tdiscarded or is a peer frame on that tag (`owed` again for a queued Tdiscarded, `covKept` for a
    runnable callback), and the tags a firing deadline adds are covered (`covNew`); `next` gives `Inv.peak` and the
    high-water clause, `len` gives `Inv12.nreq`, `tm` gives `Inv12.rinj` and `Inv12.rlt`; the range clause has
    `given` (the keys of the tag map lie in `[2, next]`), the release clause no field (the tag of a written,
    unanswered frame is in the tag map, hence not free).  Every field has the default "as before" (for a clause:
    "nothing of the kind happens"), which elaborates where the step leaves alone what the field reads — `s'` is
    `{ s with … }` in every row but `acquire` (a full literal) and `dropped` (through `releaseTag`); a row names the fields it touches.  `h` serves the defaults only. -/
structure Step (h : InvAll cfg a s) (op : Op) (s' : St) (out : Out) (u' : List (Nat × Nat)) : Prop where
  notReopen : op ≠ .reopen := by exact nofun
  unans : unansKept a op ++ reqPairs out.wrote = u' := by exact List.append_nil _
  pool : PoolInv cfg.max a.held s'.pool s'.tagmap := by exact h.inv.pool
  q : QInv (u'.map (·.1)) s'.tagmap s'.sendq s'.reqs := by exact h.inv.q
  own : ∀ p ∈ u', tmLookup p.1 s'.tagmap = some p.2 := by exact h.inv.own
  next : s'.pool.next = s.pool.next ∨ s'.pool.free = [] := by exact Or.inl rfl
  len : s'.reqs.length = (match (generalizing := false) op with | .req _ _ => s.reqs.length + 1 | _ => s.reqs.length) := by rfl
  fired : FiredOk (firedBy a op ++ a.fired) s'.reqs := by exact h.inv12.fired
  owed : cfg.fl = .thriftmux → qdisc s.sendq ++ dueAdded a op = discTags out.wrote ++ qdisc s'.sendq := by
    exact fun _ => List.append_nil _
  tm : ∀ t rid, tmLookup t s'.tagmap = some rid → tmLookup t s.tagmap = some rid ∨
      (t = out.assigned ∧ rid = s.reqs.length ∧ rid < s'.reqs.length) := by exact fun _ _ => Or.inl
  tnd : (u'.map (·.1)).Nodup := by exact h.inv12.tnd
  subkey : SubKey u' s'.reqs := by exact h.inv12.subkey
  covKept : cfg.fl = .thriftmux → ∀ t, (∃ (rid : Nat) (r : Req), s.reqs[rid]? = some r ∧ r.ev = .fired ∧ r.sub = true ∧ r.key = .tag t) →
    (∀ m, op ≠ .process m t) → Cov s' t := by exact fun _ _ hc _ => Or.inr hc
  covNew : ∀ rid, op = .fire rid → ∀ t, (t, rid) ∈ a.unans → Cov s' t := by exact nofun
  unsub : UnSub u' s'.reqs := by exact h.invM.unsub
  inprog : inprogAfter a op = s'.writing := by exact h.invM.inprog
  given : ∀ t ∈ givenTags op (obsOf s' out), t ∈ tmKeys s'.tagmap := by exact nofun
  unique : uniqueOk a.tags (reqTags out.wrote) = true := by rfl
  reuse : isReqOk op (obsOf s' out) = true → a.pfree ≠ [] → out.assigned ∈ a.pfree := by exact nofun
  ownReply : ownReplyBad a op (obsOf s' out) = none := by rfl
  notFired : ∀ p ∈ reqPairs out.wrote, p.2 ∉ a.fired := by exact nofun
  idle : op = .quiet → cfg.fl = .thriftmux → s'.sendq = [] → a.inprog = false → a.must = [] := by exact nofun

theorem Step.good {hi : InvAll cfg a s} {op : Op} {s' : St} {out : Out} {u' : List (Nat × Nat)}
    (h : Step hi op s' out u') : Good cfg a op (s', out) := by
  have hop := h.notReopen
  -- the high-water mark moves only when no tag is free, and then every tag handed out is awaiting an answer
  have hpk : s'.pool.next ≤ Nat.max a.peak ((obsOf s' out).tagmap.length + a.held) + 1 := by
    simp only [obsOf, length_sortNat]
    rcases h.next with e | e
    · exact e ▸ Nat.le_trans hi.inv.peak (Nat.succ_le_succ (Nat.le_max_left ..))
    · have hc := h.pool.count
      rw [e, List.length_nil, Nat.zero_add] at hc
      exact hc ▸ Nat.succ_le_succ (Nat.le_max_right ..)
  -- the Tdiscardeds written are the first of those due, the rest stay queued
  have hdue : cfg.fl = .thriftmux → discOk (dueNow a op) (discTags out.wrote) = true ∧
      eraseAll (dueNow a op) (discTags out.wrote) = qdisc s'.sendq := fun hfl => by
    rw [dueNow_eq, hi.inv12.owed hfl, h.owed hfl]; exact discOk_prefix ..
  -- the request table does not shrink, so an entry of the tag map that was there before still names a request
  have hlen : s.reqs.length ≤ s'.reqs.length := by rw [h.len]; split <;> [exact Nat.le_succ _; exact Nat.le_refl _]
  unfold Good
  rw [after_eq _ _ _ hop]
  cases h.unans
  exact ⟨⟨⟨fun t ht => by
        have := h.pool.krange t (h.given t ht)
        have := h.pool.nlt
        omega, h.unique, fun t ht => Or.inr <| Classical.or_iff_not_imp_left.mpr fun hna hu => by
          obtain ⟨p, hp, rfl⟩ := List.mem_map.mp hu
          have := mem_unansKept.mpr ⟨hp, fun m e => hna (answers_iff.mpr ⟨m, e⟩)⟩
          exact h.pool.disj _ (mem_sortNat.mp ht) (tmLookup_some_key (h.own p (List.mem_append_left _ this))),
        h.reuse, fun _ => hpk⟩, h.ownReply, h.notFired, fun hfl => (hdue hfl).1,
      fun hfl hq => by
        rw [after_eq _ _ _ hop]; exact (hdue hfl).2.trans (congrArg qdisc (List.length_eq_zero_iff.mp hq)),
      fun e hfl hq => h.idle e hfl (List.length_eq_zero_iff.mp hq)⟩,
    ⟨h.pool, h.q, h.own, rfl, hpk⟩, ⟨hi.inv12.nreq ▸ h.len.symm, h.fired, fun hfl => (hdue hfl).2,
      -- an entry of the tag map was there before, or is the one entry a request makes, for its own, new, id
      fun t t' rid h1 h2 => (h.tm t rid h1).elim
        (fun o1 => (h.tm t' rid h2).elim (hi.inv12.rinj t t' rid o1) fun n2 => absurd (hi.inv12.rlt _ _ o1) (n2.2.1 ▸ Nat.lt_irrefl _))
        fun n1 => (h.tm t' rid h2).elim (fun o2 => absurd (hi.inv12.rlt _ _ o2) (n1.2.1 ▸ Nat.lt_irrefl _)) fun n2 => n1.1.trans n2.1.symm,
      fun t rid hl => (h.tm t rid hl).elim (fun h0 => Nat.lt_of_lt_of_le (hi.inv12.rlt t rid h0) hlen) fun n => n.2.2, h.tnd, h.subkey⟩,
    ⟨fun hfl t ht => by
      obtain ⟨-, hm, hna, hnd⟩ := mem_mustAfter.mp ht
      -- what is queued and not written stays queued (`owed`)
      exact hm.elim (fun hm => (hi.invM.cov hfl t hm).elim (fun hq => Or.inl <| mem_qdisc.mp <|
          (List.mem_append.mp (h.owed hfl ▸ List.mem_append_left _ (mem_qdisc.mpr hq))).resolve_left hnd)
        fun hc => h.covKept hfl t hc hna) fun ⟨rid, e, hu⟩ => h.covNew rid e t hu,
      h.unsub, h.inprog⟩⟩

/-- `evt.Set(True)` by the time-out sink: the tags of the request's written, unanswered frames
    become `must`; the request is subscribed (`UnSub`), so its callback is runnable from now on -/
theorem good_fire {rid : Nat} {r : Req} (h : InvAll cfg a s)
    (hr : s.reqs[rid]? = some r) (hev : r.ev = .unfired) :
    Good cfg a (.fire rid) ({ s with reqs := s.reqs.set rid { r with ev := .fired } }, {}) := by
  refine Step.good (hi := h)
    { q := QInv.set _ h.inv.q hr fun _ => ⟨rfl, Or.inl rfl⟩
      len := List.length_set ..
      fired := (h.inv12.fired.mono (.set hr fun _ => rfl)).cons (reqs_set_self hr _) rfl
      subkey := h.inv12.subkey.set _ hr fun hs => h.inv12.subkey rid r hr hs
      unsub := h.invM.unsub.set _ hr fun _ _ _ hu => nomatch hu
      covKept := fun _ _ hc _ => Cov.set hr rfl (fun hf => nomatch hev.symm.trans hf) hc
      covNew := fun _ e t ht => ?_ }
  cases e
  obtain ⟨r', hr', hrr⟩ := h.invM.unsub _ ht
  cases hr.symm.trans hr'
  exact Or.inr ⟨rid, _, reqs_set_self hr _, rfl, (hrr hev).1, (hrr hev).2⟩

/-- `AsyncProcessRequest` refused: "No tags left in pool." — only the request counter moves -/
theorem good_exhausted (e : EvKind) (popped : Nat) (h : InvAll cfg a s) :
    Good cfg a (.req e popped)
      ({ s with reqs := s.reqs ++ [⟨.absent, evOf e, false⟩] }, { res := .exhausted }) :=
  Step.good (hi := h)
    { q := QInv.append _ h.inv.q
      len := List.length_append
      fired := h.inv12.fired.req e popped _ h.inv12.nreq
      subkey := h.inv12.subkey.append _ rfl
      unsub := h.invM.unsub.append _
      covKept := fun _ _ hc _ => Cov.append _ rfl id (Or.inr hc) }

theorem good_ping (h : InvAll cfg a s) :
    Good cfg a .ping ({ s with sendq := s.sendq ++ [.ping] }, {}) :=
  Step.good (hi := h)
    { q := QInv.push _ rfl h.inv.q
      owed := fun _ => by rw [qdisc_append]; rfl }

/-- an iteration of the send loop that takes an item off the queue and writes no request frame:
    a ping, a Tdiscarded (which settles one due entry), a request answered while it was queued -/
theorem good_pop {i : Item} {q : List Item} (h : InvAll cfg a s)
    (hq : s.sendq = i :: q) (fs : List Frame) (hfs : reqPairs fs = [])
    (hd : qdisc (i :: q) = discTags fs ++ qdisc q) :
    Good cfg a .send ({ s with sendq := q }, { wrote := fs }) := by
  have hrt : reqTags fs = [] := reqTags_nil_of_pairs hfs
  exact Step.good (hi := h)
    { unans := hfs ▸ List.append_nil _, q := QInv.tail (hq ▸ h.inv.q)
      owed := fun _ => by rw [hq]; exact (List.append_nil _).trans hd
      given := fun t (ht : t ∈ [] ++ reqTags fs) => nomatch hrt ▸ ht
      unique := show uniqueOk a.tags (reqTags fs) = true from hrt ▸ rfl
      notFired := hfs ▸ nofun }

/-- `timeout_proc`: the key is popped; ThriftMux's `_OnTimeout` queues a Tdiscarded naming the tag
    the request held, Kafka's queues nothing (`onTimeout`) -/
theorem good_notify {rid : Nat} {r : Req} (h : InvAll cfg a s)
    (hr : s.reqs[rid]? = some r) (hev : r.ev = .fired) (hsub : r.sub = true) :
    Good cfg a (.notify rid)
      ({ s with reqs := s.reqs.set rid { r with sub := false, key := .absent },
                sendq := s.sendq ++ onTimeout cfg.fl r.key }, {}) := by
  have hnq : rid ∉ qrids s.sendq := fun hm => by
    obtain ⟨t, hi⟩ := mem_qrids.mp hm
    obtain ⟨r2, hr2, hs, _⟩ := h.inv.q.qitem rid t hi
    cases hr.symm.trans hr2; rw [hsub] at hs; cases hs
  have hx : qrids (onTimeout cfg.fl r.key) = [] := by cases cfg.fl <;> cases r.key <;> rfl
  refine Step.good (hi := h)
    { q := QInv.push _ hx (QInv.set _ h.inv.q hr fun hi => absurd hi hnq)
      len := List.length_set ..
      fired := h.inv12.fired.mono (.set hr id)
      subkey := h.inv12.subkey.set _ hr nofun
      unsub := h.invM.unsub.set _ hr fun _ _ _ hu => nomatch hev.symm.trans hu
      owed := fun hf => by rw [tagsOf_subscribed h hr hsub, hf, qdisc_append]; rfl
      covKept := fun hf t hc _ => ?_ }
  · refine Cov.set hr rfl (fun _ _ hk => ?_) hc
    rw [hf, hk]; exact List.mem_append_right _ (List.mem_singleton_self _)

/-- `AsyncProcessRequest` with a tag from the pool: the tag is not in the tag map, so no earlier
    request and no written frame holds it -/
theorem good_acquire {t : Nat} {p' : Pool} (e : EvKind) (popped : Nat)
    (h : InvAll cfg a s) (hg : s.pool.get cfg.max popped = .tag t p') :
    Good cfg a (.req e popped)
      ({ pool := p', tagmap := tmSet t s.reqs.length s.tagmap, sendq := s.sendq ++ [.req s.reqs.length t],
         reqs := s.reqs ++ [⟨.tag t, evOf e, false⟩], writing := s.writing }, { assigned := t }) := by
  obtain ⟨hp', hnk, hreuse, hnext⟩ := h.inv.pool.get s.reqs.length hg
  have hqlt : ∀ rid ∈ qrids s.sendq, rid < s.reqs.length := fun rid hr => by
    obtain ⟨t', hi⟩ := mem_qrids.mp hr
    obtain ⟨r, hr, _⟩ := h.inv.q.qitem rid t' hi
    exact reqs_lt_of_getElem? hr
  refine Step.good (hi := h)
    { pool := hp'
      q := ⟨?_, fun rid t' hi => ?_, fun x hx => ?_⟩
      own := fun p hp => tmLookup_set_old hnk (h.inv.own p hp)
      next := hnext
      len := List.length_append
      fired := h.inv12.fired.req e popped _ h.inv12.nreq
      owed := fun _ => by rw [qdisc_append]; rfl
      tm := fun _ _ h1 => (tmLookup_of_set h1).symm.imp_right fun ⟨e1, e2⟩ => ⟨e1, e2, by rw [e2, List.length_append]; exact Nat.lt_succ_self _⟩
      subkey := h.inv12.subkey.append _ rfl
      covKept := fun _ _ hc _ => Cov.append _ rfl (List.mem_append_left _) (Or.inr hc)
      unsub := h.invM.unsub.append _
      given := fun x hx => ?_
      reuse := fun _ hne => ?_ }
  · rw [qrids_append]
    exact List.nodup_append.mpr ⟨h.inv.q.qnd, List.nodup_singleton _, fun x hx y hy =>
      Nat.ne_of_lt (List.mem_singleton.mp hy ▸ hqlt x hx)⟩
  · rcases List.mem_append.mp hi with hi | hi
    · obtain ⟨r, hr, hsub, hk⟩ := h.inv.q.qitem rid t' hi
      exact ⟨r, reqs_append_left hr _, hsub, hk.imp_right fun hk => ⟨hk.1, tmLookup_set_old hnk hk.2.1, hk.2.2⟩⟩
    · cases List.mem_singleton.mp hi
      exact ⟨_, List.getElem?_concat_length .., rfl, Or.inr ⟨rfl, tmLookup_set_self .., fun hc => hnk (h.inv.q.usub _ hc)⟩⟩
  · obtain ⟨r, hr⟩ := tmLookup_isSome_of_key (h.inv.q.usub x hx)
    exact tmLookup_some_key (tmLookup_set_old hnk hr)
  · cases List.mem_singleton.mp hx; exact tmLookup_some_key (tmLookup_set_self ..)
  · have hne' : s.pool.free ≠ [] := fun e => hne (h.inv.pfree.trans (sortNat_eq_nil.mpr e))
    exact h.inv.pfree ▸ mem_sortNat.mpr (hreuse hne')

theorem InvAll.head {rid t : Nat} {q : List Item} {r : Req} (h : InvAll cfg a s)
    (hq : s.sendq = .req rid t :: q) (hr : s.reqs[rid]? = some r) (hk : r.key ≠ .answered) :
    r.sub = false ∧ r.key = .tag t ∧ tmLookup t s.tagmap = some rid ∧ t ∉ a.tags ∧ (∀ p ∈ a.unans, p.2 ≠ rid) ∧
      rid ∉ qrids q ∧ QInv a.tags s.tagmap q s.reqs := by
  have hqi := hq ▸ h.inv.q
  obtain ⟨r', hr', hsub, hkk⟩ := hqi.qitem rid t (List.mem_cons_self ..)
  cases hr.symm.trans hr'
  obtain ⟨hkt, hl, hu⟩ := hkk.resolve_left hk
  exact ⟨hsub, hkt, hl, hu,
    fun p hp e => hu (h.owner hl p hp e ▸ List.mem_map_of_mem hp),
    (List.nodup_cons.mp hqi.qnd).1, QInv.tail hqi⟩

/-- the request at the head of the queue, holding a tag, is dropped by the send loop (`_HandleTimeout`, where
    its deadline passed while it was queued; `r.ev = .fired` is not a hypothesis): its key is popped and its
    tag released; no frame carries that tag -/
theorem good_drop {rid t t' : Nat} {q : List Item} {r : Req} (h : InvAll cfg a s)
    (hq : s.sendq = .req rid t :: q) (hr : s.reqs[rid]? = some r) (hk : r.key = .tag t') :
    Good cfg a .send
      ((releaseTag { s with sendq := q, reqs := s.reqs.set rid { r with key := .absent } } t').1, {}) := by
  obtain ⟨hsub, hkt, hl, hu, hnot', hnot, htail⟩ := h.head hq hr fun e => nomatch hk.symm.trans e
  cases hk.symm.trans hkt
  obtain ⟨hp', hnext'⟩ := PoolInv.release t h.inv.pool (tmLookup_some_key hl)
  have hne : ∀ p ∈ a.unans, p.1 ≠ t := fun p hp e => hu (e ▸ List.mem_map_of_mem hp)
  rw [releaseTag_some (s := { s with sendq := q, reqs := _ }) hl]
  refine Step.good (hi := h)
    { pool := hp'
      q := QInv.erase (QInv.set _ htail hr fun hi => absurd hi hnot) hl (fun hi => absurd hi hnot) hu
      own := fun p hp => (tmLookup_erase_ne (hne p hp)).trans (h.inv.own p hp)
      next := Or.inl hnext'
      len := List.length_set ..
      fired := h.inv12.fired.mono (.set hr id)
      owed := fun _ => by rw [hq]; exact List.append_nil _
      tm := fun _ _ hl' => Or.inl (tmLookup_of_erase hl').2
      subkey := h.inv12.subkey.set _ hr fun hs => nomatch hsub.symm.trans hs
      covKept := fun _ _ hc _ => Cov.set hr rfl (fun _ hs => nomatch hsub.symm.trans hs) hc
      unsub := h.invM.unsub.set _ hr fun p hp e => absurd e (hnot' p hp) }

/-- a live request at the head of the queue is written: `_HandleTimeout` has subscribed it to its
    deadline event, if it has one that is pending (`n` is the request's entry afterwards) -/
theorem good_write {rid t : Nat} {q : List Item} {r n : Req}
    (h : InvAll cfg a s) (hq : s.sendq = .req rid t :: q) (hr : s.reqs[rid]? = some r) (hk : r.key ≠ .answered)
    (hev : r.ev ≠ .fired) (hnk : n.key = r.key) (hne : n.ev = r.ev) (hns : n.ev = .unfired → n.sub = true) :
    Good cfg a .send ({ s with sendq := q, reqs := s.reqs.set rid n }, { wrote := [⟨.req, t, rid⟩] }) := by
  obtain ⟨hsub, hkt, hl, hu, hnot', hnot, htail⟩ := h.head hq hr hk
  refine Step.good (hi := h) (u' := a.unans ++ [(t, rid)])
    { unans := rfl
      q := ?_
      own := fun p hp => (List.mem_append.mp hp).elim (h.inv.own p) fun e => List.mem_singleton.mp e ▸ hl
      len := List.length_set ..
      fired := h.inv12.fired.mono (.set hr hne.trans)
      owed := fun _ => by rw [hq]; exact List.append_nil _
      tnd := ?_
      subkey := (h.inv12.subkey.add fun r1 hr1 => by cases hr.symm.trans hr1; exact hsub).set n hr
        fun _ t' => ⟨fun e => ?_, fun hm => ?_⟩
      covKept := fun _ _ hc _ => Cov.set hr rfl (fun hf => absurd hf hev) hc
      unsub := fun p hp => (List.mem_append.mp hp).elim
        (h.invM.unsub.set n hr (fun p hp e => absurd e (hnot' p hp)) p) fun e => ?_
      given := fun x hx => List.mem_singleton.mp hx ▸ tmLookup_some_key hl
      unique := uniqueOk_single hu
      notFired := fun p hp hf => ?_ }
  · rw [List.map_append]
    exact QInv.add (QInv.set _ htail hr fun hi => absurd hi hnot) hl hnot
  · rw [List.map_append]
    exact List.nodup_append.mpr ⟨h.inv12.tnd, List.nodup_singleton t, fun x hx y hy e =>
      hu ((e.trans (List.mem_singleton.mp hy) : x = t) ▸ hx)⟩
  · cases (hnk.trans hkt).symm.trans e
    exact List.mem_append_right _ (List.mem_singleton_self _)
  · rw [hnk, hkt]
    rcases List.mem_append.mp hm with hm | hm
    · exact congrArg Key.tag (h.owner hl _ hm rfl).symm
    · cases List.mem_singleton.mp hm; rfl
  · cases List.mem_singleton.mp e
    exact ⟨n, reqs_set_self hr n, fun hu => ⟨hns hu, hnk.trans hkt⟩⟩
  · cases List.mem_singleton.mp hp
    obtain ⟨r1, hr1, hf1⟩ := h.inv12.fired rid hf
    cases hr.symm.trans hr1
    exact hev hf1

/-- `_ProcessTaggedReply` on a tag of the tag map: the entry's request gets the reply, the tag goes
    back to the pool; the written, unanswered frame with that tag, if any, is that request's -/
theorem good_answer {t rid : Nat} (mt : Int) (h : InvAll cfg a s)
    (hl : tmLookup t s.tagmap = some rid) :
    Good cfg a (.process mt t)
      ({ s with tagmap := tmErase t s.tagmap, pool := s.pool.release t, reqs := setKey s.reqs rid .answered },
       { delivered := [rid] }) := by
  obtain ⟨r0, hr0⟩ : ∃ r0, s.reqs[rid]? = some r0 := ⟨_, List.getElem?_eq_getElem (h.inv12.rlt t rid hl)⟩
  rw [setKey_eq hr0]
  obtain ⟨hp', hnext'⟩ := PoolInv.release t h.inv.pool (tmLookup_some_key hl)
  have hmem : ∀ {p}, p ∈ a.unans.filter (fun p => p.1 != t) → p ∈ a.unans ∧ p.1 ≠ t := fun hp =>
    ⟨(List.mem_filter.mp hp).1, bne_iff_ne.mp (List.mem_filter.mp hp).2⟩
  refine Step.good (hi := h) (u' := a.unans.filter (fun p => p.1 != t))
    { pool := hp'
      q := QInv.erase (QInv.unans_subset (QInv.set _ h.inv.q hr0 fun _ => ⟨rfl, Or.inr rfl⟩) fun x hx => ?_) hl
        (fun _ r hr => by rw [reqs_set_self hr0] at hr; cases hr; rfl) fun hx => ?_
      own := fun p hp => (tmLookup_erase_ne (hmem hp).2).trans (h.inv.own p (hmem hp).1)
      next := Or.inl hnext'
      len := List.length_set ..
      fired := h.inv12.fired.mono (.set hr0 id)
      tm := fun _ _ hl' => Or.inl (tmLookup_of_erase hl').2
      tnd := List.Nodup.sublist (List.filter_sublist.map _) h.inv12.tnd
      subkey := fun rid1 r1 hr1 hs t' => ?_
      covKept := fun _ t' hc hna => Cov.set hr0 rfl (fun _ hs hk => ?_) hc
      unsub := UnSub.set _ (fun p hp => h.invM.unsub p (hmem hp).1) hr0 fun p hp e =>
        absurd (h.owner hl p (hmem hp).1 e) (hmem hp).2
      ownReply := ?_ }
  · obtain ⟨p, hp, rfl⟩ := List.mem_map.mp hx
    exact List.mem_map_of_mem (hmem hp).1
  · obtain ⟨p, hp, e⟩ := List.mem_map.mp hx
    exact (hmem hp).2 e
  · by_cases e : rid1 = rid
    · subst e; rw [reqs_set_self hr0] at hr1; cases hr1
      exact iff_of_false nofun fun hm => (hmem hm).2 (h.owner hl _ (hmem hm).1 rfl)
    · rw [reqs_set_ne e] at hr1
      rw [h.inv12.subkey rid1 r1 hr1 hs t']
      exact ⟨fun hm => List.mem_filter.mpr ⟨hm, bne_iff_ne.mpr fun e' =>
        e (Option.some.inj ((h.inv.own _ hm).symm.trans (e' ▸ hl)))⟩, fun hm => (hmem hm).1⟩
  · exact absurd (h.owner hl _ ((h.inv12.subkey rid r0 hr0 hs t').mp hk) rfl) fun e => hna mt (e ▸ rfl)
  · refine ownReplyBad_eq_none_iff.mpr fun p hp e r hr => ?_
    cases List.mem_singleton.mp hr
    exact Option.some.inj (hl.symm.trans (e ▸ h.inv.own p hp))

theorem good_reopen (hmax : 2 ≤ cfg.max) : Good cfg a .reopen (St.init, {}) :=
  ⟨⟨⟨nofun, rfl, nofun, nofun, fun h => absurd rfl h⟩, rfl, nofun, fun _ => rfl, fun _ _ => rfl, nofun⟩,
    ⟨Inv_fresh cfg hmax, Inv12_fresh cfg, InvM_fresh cfg⟩⟩

/-- `wbegin` is an iteration of the send loop that gets as far as the `write` call and is parked
    there: the same observation, judged by the same clauses, and `inprog` / `writing` set -/
theorem Good.wbegin {s' : St} {out : Out} (hg : Good cfg a .send (s', out)) :
    Good cfg a .wbegin ({ s' with writing := true }, out) := by
  obtain ⟨hc, hi, ht, hm⟩ := hg
  -- `obsOf` does not read `writing`, the clauses treat `wbegin` as `send`, and `Acc.after` differs in `inprog`
  -- only: every field of the `send` step is the field of the `wbegin` step by unfolding
  exact ⟨{ hc with highwater := fun _ => hc.highwater nofun, idle := nofun }, { hi with }, { ht with }, { hm with inprog := rfl }⟩

theorem Sent.good {r : St × Out} (h : InvAll cfg a s) (hs : Sent s r) (hen : (r.2.res != .badop) = true) :
    Good cfg a .send r := by
  cases hs with
  | empty | missing => exact nomatch hen
  | ping hq => exact good_pop h hq _ rfl rfl
  | discard hq => exact good_pop h hq _ rfl rfl
  | answered hq hr hk => exact good_pop h hq [] rfl rfl
  -- under the invariants a queued request that is not answered holds the tag of its queue item
  -- (`InvAll.head`): the row `dropped` releases that tag, the row `expired` does not occur
  | dropped hq hr _ hk => exact good_drop h hq hr hk
  | expired hq hr _ hk => exact nomatch hk.symm.trans (h.head hq hr fun e => nomatch hk.symm.trans e).2.1
  | written hq hr hna hev hnk hne hns => exact good_write h hq hr hna hev hnk hne hns

theorem Trans.good {op : Op} {r : St × Out} (h : InvAll cfg a s) (ht : Trans cfg.fl cfg.max s op r)
    (hen : (r.2.res != .badop) = true) : Good cfg a op r := by
  -- a peer frame on a tag that is not in the tag map answers no written frame and changes nothing
  have still : ∀ {mt t}, tmLookup t s.tagmap = none → Good cfg a (.process mt t) (s, {}) := fun {mt t} hl =>
    Step.good (hi := h) (u' := a.unans)
      { unans := (List.append_nil _).trans <| List.filter_eq_self.mpr fun p hp => bne_iff_ne.mpr fun e => by
          have := h.inv.own p hp; rw [e, hl] at this; cases this
        ownReply := ownReplyBad_nil a _ rfl }
  cases ht with
  | fire hr hev => exact good_fire h hr hev
  | exhausted => exact good_exhausted _ _ h
  | acquire hg => exact good_acquire _ _ h hg
  | ping => exact good_ping h
  | send _ hs => exact hs.good h hen
  | wbegin _ hs => exact (hs.good h hen).wbegin
  | wend => exact Step.good (hi := h) { inprog := rfl }
  | quiet hc =>
    -- an idle point: no Tdiscarded waits in the queue and no time-out callback is runnable, so no
    -- tag of `must` can be covered: `must` is empty
    refine Step.good (hi := h)
      { idle := fun _ hfl hq _ => List.eq_nil_iff_forall_not_mem.mpr fun t ht => ?_ }
    rcases h.invM.cov hfl t ht with hd | ⟨rid, r, hr, hf, hs, -⟩
    · rw [hq] at hd; cases hd
    · have := List.all_eq_true.mp (Bool.and_eq_true_iff.mp hc).2 r (List.mem_of_getElem? hr)
      simp [Req.notifyPending, hf, hs] at this
  | notify hr hev hsub => exact good_notify h hr hev hsub
  | @reserved mt t _ hp =>
    -- the reserved tags 0 and 1 are never in the tag map
    exact still (tmLookup_none_iff.mpr fun hk => by have := (h.inv.pool.krange t hk).1; omega)
  | unknown hl => exact still hl
  | answer _ hl => exact good_answer _ h hl
  | reopen =>
    -- at least tag 2 exists: `1 ≤ next < max`
    have := h.inv.pool.count
    have := h.inv.pool.nlt
    exact good_reopen (by omega)
  | refused => exact nomatch hen

theorem step_good (op : Op) (h : InvAll cfg a s) (hen : opEnabled cfg s op = true) :
    Good cfg a op (stepOp cfg.fl cfg.max s op) :=
  (stepOp_trans ..).good h hen

theorem Sent.firedKept {r : St × Out} (hs : Sent s r) : FiredKept s.reqs r.1.reqs := by
  cases hs with
  | dropped _ hr => rw [releaseTag_reqs]; exact .set hr id
  | expired _ hr => exact .set hr id
  | written _ hr _ _ _ hne => exact .set hr hne.trans
  | _ => exact .refl _

theorem Sent.delivered_nil {r : St × Out} (hs : Sent s r) : r.2.delivered = [] := by
  cases hs <;> rfl

theorem Trans.firedKept {fl : Flavour} {max : Nat} {op : Op} {r : St × Out} (ht : Trans fl max s op r)
    (hop : op ≠ .reopen) : FiredKept s.reqs r.1.reqs := by
  cases ht with
  | fire hr => exact .set hr fun _ => rfl
  | exhausted | acquire => exact .append _ _
  | send _ hs | wbegin _ hs => exact hs.firedKept
  | notify hr => exact .set hr id
  | @answer mt t rid _ hl =>
    show FiredKept s.reqs (setKey s.reqs rid .answered)
    unfold setKey
    split
    · next r hr => exact .set hr id
    · exact .refl _
  | reopen => exact absurd rfl hop
  | _ => exact .refl _

theorem Trans.delivered_nil {fl : Flavour} {max : Nat} {op : Op} {r : St × Out} (ht : Trans fl max s op r)
    (hop : ∀ mt t, op ≠ .process mt t) : r.2.delivered = [] := by
  cases ht with
  | send _ hs | wbegin _ hs => exact hs.delivered_nil
  | @answer mt t => exact absurd rfl (hop mt t)
  | _ => rfl

theorem Sent.wrote_req {r : St × Out} {f : Frame} (hs : Sent s r) (hf : f ∈ r.2.wrote) (hk : f.kind = .req) :
    ∃ r0 r', s.reqs[f.arg]? = some r0 ∧ r0.ev ≠ .fired ∧ r.1.reqs[f.arg]? = some r' ∧ r'.ev ≠ .fired ∧
      (r'.ev = .unfired → r'.sub = true) := by
  cases hs with
  | ping | discard => cases List.mem_singleton.mp hf; cases hk
  | @written _ _ _ r0 n _ hr _ hev _ hne hns =>
    cases List.mem_singleton.mp hf; exact ⟨r0, n, hr, hev, reqs_set_self hr _, hne ▸ hev, hns⟩
  | _ => exact nomatch hf

end Scales.TagPool
