import ScalesModel.Model.Heap
import Mathlib.Data.List.Nodup
import Mathlib.Data.List.Perm.Basic
import Mathlib.Tactic.Ring

/-! The node store and the heap array of `HS`: what `setNode`, `setIndex`, `setLoad`, `swap` do to
    `node`, `idAt` and the other components; the agreement `WF` between the array and the nodes'
    `index` fields and its preservation (for a state that differs in `down`, `reqs`, `servers` only: `WF.same`
    with `rfl`s). -/
namespace Scales.Heap

def L (s : HS) (p : Nat) : Int := (s.at p).load

def InHeap (s : HS) (id : Nat) : Prop := ∃ p, 1 ≤ p ∧ p ≤ s.size ∧ s.idAt p = id

/-- the heap array and the nodes' `index` fields agree (`heap[i].index == i` in heap.py) -/
structure WF (s : HS) : Prop where
  inStore : ∀ p, 1 ≤ p → p ≤ s.size → s.idAt p < s.nodes.length
  inj : ∀ p q, 1 ≤ p → p ≤ s.size → 1 ≤ q → q ≤ s.size → s.idAt p = s.idAt q → p = q
  idx : ∀ p, 1 ≤ p → p ≤ s.size → (s.at p).index = p
  off : ∀ id, id < s.nodes.length → ¬ InHeap s id → (s.node id).index = -1

theorem getD_set' {α : Type} (l : List α) (i j : Nat) (x d : α) :
    (l.set i x).getD j d = if j = i ∧ i < l.length then x else l.getD j d := by
  rw [List.getD_eq_getElem?_getD, List.getD_eq_getElem?_getD, List.getElem?_set]
  by_cases h : i = j
  · subst h
    by_cases hl : i < l.length
    · rw [if_pos rfl, if_pos hl, if_pos ⟨rfl, hl⟩]; rfl
    · rw [if_pos rfl, if_neg hl, if_neg fun x => hl x.2, List.getElem?_eq_none (Nat.not_lt.1 hl)]
  · rw [if_neg h, if_neg fun x => h x.1.symm]

theorem node_setNode (s : HS) (id id' : Nat) (n : Node) :
    (s.setNode id n).node id' = if id' = id ∧ id < s.nodes.length then n else s.node id' :=
  getD_set' s.nodes id id' n default

theorem node_self (s : HS) (id : Nat) (n : Node) (hl : id < s.nodes.length) :
    (s.setNode id n).node id = n := by
  rw [node_setNode, if_pos ⟨rfl, hl⟩]

theorem node_other (s : HS) (id id' : Nat) (n : Node) (hne : id' ≠ id) :
    (s.setNode id n).node id' = s.node id' := by
  rw [node_setNode, if_neg fun h => hne h.1]

theorem setNode_proj {α : Type} (g : Node → α) (s : HS) (id : Nat) (n : Node) (h : g n = g (s.node id))
    (id' : Nat) : g ((s.setNode id n).node id') = g (s.node id') := by
  rw [node_setNode]
  split
  · rename_i e; rw [e.1]; exact h
  · rfl

theorem setNode_node (s : HS) (id : Nat) : s.setNode id (s.node id) = s := by
  unfold HS.setNode HS.node
  by_cases h : id < s.nodes.length
  · rw [List.getD_eq_getElem?_getD, List.getElem?_eq_getElem h, Option.getD_some, List.set_getElem_self]
  · rw [List.set_eq_of_length_le (Nat.le_of_not_lt h)]

/-- writing past the end of the store changes nothing, so the guard of `setChan` can be left out -/
theorem setChan_eq (s : HS) (nid st : Nat) : s.setChan nid st = s.setNode nid { s.node nid with chan := st } := by
  unfold HS.setChan HS.setNode
  split
  · rfl
  · rw [List.set_eq_of_length_le (Nat.le_of_not_lt ‹_›)]

theorem node_out (s : HS) (id : Nat) (h : s.nodes.length ≤ id) : s.node id = default := by
  unfold HS.node
  simp [List.getD_eq_getElem?_getD, List.getElem?_eq_none h]

theorem idAt_pos (s : HS) (p : Nat) (h1 : 1 ≤ p) (h2 : p ≤ s.size) :
    ∃ h : p - 1 < s.heap.length, s.idAt p = s.heap[p - 1] := by
  have hl : p - 1 < s.heap.length := by unfold HS.size at h2; omega
  refine ⟨hl, ?_⟩
  unfold HS.idAt
  rw [if_neg (Nat.ne_of_gt h1), List.getD_eq_getElem?_getD, List.getElem?_eq_getElem hl]
  rfl

theorem idAt_out (s : HS) (p : Nat) (h : p = 0 ∨ s.size < p) : s.idAt p = s.nodes.length := by
  unfold HS.idAt
  split
  · rfl
  · unfold HS.size at h
    rw [List.getD_eq_getElem?_getD, List.getElem?_eq_none (by omega)]
    rfl

theorem mem_heap_iff (s : HS) (id : Nat) : id ∈ s.heap ↔ InHeap s id := by
  constructor
  · intro h
    obtain ⟨k, hk, he⟩ := List.getElem_of_mem h
    have h2 : k + 1 ≤ s.size := hk
    obtain ⟨hl, e⟩ := idAt_pos s (k + 1) (Nat.le_add_left 1 k) h2
    exact ⟨k + 1, Nat.le_add_left 1 k, h2, e.trans he⟩
  · rintro ⟨p, h1, h2, rfl⟩
    obtain ⟨hl, he⟩ := idAt_pos s p h1 h2
    rw [he]; exact List.getElem_mem hl

theorem InHeap.size_pos {s : HS} {id : Nat} (h : InHeap s id) : 1 ≤ s.size :=
  h.elim fun _ hp => Nat.le_trans hp.1 hp.2.1

/-- heap position of node `id` (meaningful when it is in the heap) -/
def pos (s : HS) (id : Nat) : Nat := (s.node id).index.toNat

theorem pos_spec (s : HS) (hw : WF s) (id : Nat) (h : InHeap s id) :
    1 ≤ pos s id ∧ pos s id ≤ s.size ∧ s.idAt (pos s id) = id ∧
    (s.node id).index = (pos s id : Int) ∧ id < s.nodes.length := by
  obtain ⟨p, h1, h2, rfl⟩ := h
  have e : pos s (s.idAt p) = p := by
    unfold pos
    rw [show (s.node (s.idAt p)).index = p from hw.idx p h1 h2, Int.toNat_natCast]
  rw [e]
  exact ⟨h1, h2, rfl, hw.idx p h1 h2, hw.inStore p h1 h2⟩

theorem inHeap_of_nonneg {s : HS} (hw : WF s) {id : Nat} (h : 0 ≤ (s.node id).index) : InHeap s id := by
  by_contra hn
  by_cases hl : id < s.nodes.length
  · rw [hw.off id hl hn] at h
    exact absurd h (by decide)
  · rw [node_out s id (Nat.le_of_not_lt hl)] at h
    exact absurd h (by decide)

theorem index_of_inHeap (s : HS) (hw : WF s) (id : Nat) (h : InHeap s id) : 1 ≤ (s.node id).index := by
  obtain ⟨a, _, _, d, _⟩ := pos_spec s hw id h
  omega

theorem inHeap_lt (s : HS) (hw : WF s) (id : Nat) (h : InHeap s id) : id < s.nodes.length :=
  (pos_spec s hw id h).2.2.2.2

theorem L_pos (s : HS) (hw : WF s) (id : Nat) (h : InHeap s id) : L s (pos s id) = (s.node id).load := by
  unfold L HS.at; rw [(pos_spec s hw id h).2.2.1]

theorem idAt_ne_of_pos (s : HS) (hw : WF s) (id : Nat) (h : InHeap s id) (k : Nat) (hk : k ≠ pos s id) :
    s.idAt k ≠ id := by
  obtain ⟨p1, p2, p3, _, hl⟩ := pos_spec s hw id h
  intro e
  by_cases hr : 1 ≤ k ∧ k ≤ s.size
  · exact hk (hw.inj k _ hr.1 hr.2 p1 p2 (e.trans p3.symm))
  · rw [idAt_out s k (by omega)] at e
    omega

theorem pos_off (s : HS) (hw : WF s) (nid : Nat) (hn : ¬ InHeap s nid) : pos s nid = 0 := by
  have : (s.node nid).index = -1 := by
    by_cases hl : nid < s.nodes.length
    · exact hw.off nid hl hn
    · rw [node_out s nid (Nat.le_of_not_lt hl)]; rfl
  unfold pos; rw [this]; rfl

theorem pos_le (s : HS) (hw : WF s) (nid : Nat) : pos s nid ≤ s.size := by
  by_cases hin : InHeap s nid
  · exact (pos_spec s hw nid hin).2.1
  · rw [pos_off s hw nid hin]; exact Nat.zero_le _

theorem WF.same {s s' : HS} (hw : WF s) (hh : s'.heap = s.heap) (hl : s'.nodes.length = s.nodes.length)
    (hi : ∀ id, (s'.node id).index = (s.node id).index) : WF s' := by
  have hid : ∀ p, s'.idAt p = s.idAt p := by intro p; unfold HS.idAt; rw [hh, hl]
  have hsz : s'.size = s.size := by unfold HS.size; rw [hh]
  have hin : ∀ id, InHeap s' id ↔ InHeap s id := by
    intro id; unfold InHeap; simp only [hid, hsz]
  constructor
  · intro p h1 h2; rw [hid, hl]; exact hw.inStore p h1 (hsz ▸ h2)
  · intro p q a b c d e; rw [hid, hid] at e; exact hw.inj p q a (hsz ▸ b) c (hsz ▸ d) e
  · intro p h1 h2; unfold HS.at; rw [hid, hi]; exact hw.idx p h1 (hsz ▸ h2)
  · intro id h1 h2; rw [hi]; exact hw.off id (hl ▸ h1) (fun h => h2 ((hin id).2 h))

@[simp] theorem setNode_heap (s : HS) (id : Nat) (n : Node) : (s.setNode id n).heap = s.heap := rfl
@[simp] theorem setNode_down (s : HS) (id : Nat) (n : Node) : (s.setNode id n).down = s.down := rfl
@[simp] theorem setNode_reqs (s : HS) (id : Nat) (n : Node) : (s.setNode id n).reqs = s.reqs := rfl
@[simp] theorem setNode_servers (s : HS) (id : Nat) (n : Node) : (s.setNode id n).servers = s.servers := rfl
@[simp] theorem setNode_len (s : HS) (id : Nat) (n : Node) : (s.setNode id n).nodes.length = s.nodes.length :=
  List.length_set
@[simp] theorem setNode_size (s : HS) (id : Nat) (n : Node) : (s.setNode id n).size = s.size := rfl

@[simp] theorem setNode_idAt (s : HS) (id : Nat) (n : Node) (p : Nat) : (s.setNode id n).idAt p = s.idAt p := by
  unfold HS.idAt
  rw [setNode_len, setNode_heap]

@[simp] theorem setNode_inHeap (s : HS) (id : Nat) (n : Node) (id' : Nat) :
    InHeap (s.setNode id n) id' ↔ InHeap s id' := by
  unfold InHeap
  simp only [setNode_size, setNode_idAt]

theorem setNode_index (s : HS) (id : Nat) (n : Node) (hn : n.index = (s.node id).index) (id' : Nat) :
    ((s.setNode id n).node id').index = (s.node id').index :=
  setNode_proj Node.index s id n hn id'

theorem setNode_WF (s : HS) (hw : WF s) (id : Nat) (n : Node) (hn : n.index = (s.node id).index) :
    WF (s.setNode id n) :=
  hw.same rfl (setNode_len s id n) (setNode_index s id n hn)

theorem setNode_L (s : HS) (id : Nat) (n : Node) (hn : n.load = (s.node id).load) : L (s.setNode id n) = L s := by
  funext p; unfold L HS.at; rw [setNode_idAt]; exact setNode_proj Node.load s id n hn _

def HS.setLoad (s : HS) (id : Nat) (v : Int) : HS := s.setNode id { s.node id with load := v }

@[simp] theorem setLoad_heap (s : HS) (id : Nat) (v : Int) : (s.setLoad id v).heap = s.heap := rfl
@[simp] theorem setLoad_down (s : HS) (id : Nat) (v : Int) : (s.setLoad id v).down = s.down := rfl
@[simp] theorem setLoad_reqs (s : HS) (id : Nat) (v : Int) : (s.setLoad id v).reqs = s.reqs := rfl
@[simp] theorem setLoad_servers (s : HS) (id : Nat) (v : Int) : (s.setLoad id v).servers = s.servers := rfl
@[simp] theorem setLoad_len (s : HS) (id : Nat) (v : Int) : (s.setLoad id v).nodes.length = s.nodes.length :=
  setNode_len s id _
@[simp] theorem setLoad_size (s : HS) (id : Nat) (v : Int) : (s.setLoad id v).size = s.size := rfl
@[simp] theorem setLoad_idAt (s : HS) (id : Nat) (v : Int) (p : Nat) : (s.setLoad id v).idAt p = s.idAt p :=
  setNode_idAt s id _ p
@[simp] theorem setLoad_inHeap (s : HS) (id : Nat) (v : Int) (id' : Nat) :
    InHeap (s.setLoad id v) id' ↔ InHeap s id' :=
  setNode_inHeap s id _ id'

theorem setLoad_WF (s : HS) (hw : WF s) (id : Nat) (v : Int) : WF (s.setLoad id v) :=
  setNode_WF s hw id _ rfl

theorem setLoad_node (s : HS) (id id' : Nat) (v : Int) :
    ((s.setLoad id v).node id').load = (if id' = id ∧ id < s.nodes.length then v else (s.node id').load) ∧
    ((s.setLoad id v).node id').ep = (s.node id').ep ∧
    ((s.setLoad id v).node id').chan = (s.node id').chan ∧
    ((s.setLoad id v).node id').closed = (s.node id').closed ∧
    ((s.setLoad id v).node id').index = (s.node id').index := by
  unfold HS.setLoad
  refine ⟨?_, setNode_proj Node.ep s id { s.node id with load := v } rfl id',
    setNode_proj Node.chan s id { s.node id with load := v } rfl id',
    setNode_proj Node.closed s id { s.node id with load := v } rfl id',
    setNode_proj Node.index s id { s.node id with load := v } rfl id'⟩
  rw [node_setNode]
  split <;> rfl

theorem setLoad_load (s : HS) (id id' : Nat) (v : Int) (hl : id < s.nodes.length) :
    ((s.setLoad id v).node id').load = if id' = id then v else (s.node id').load := by
  rw [(setLoad_node s id id' v).1]
  by_cases e : id' = id
  · rw [if_pos ⟨e, hl⟩, if_pos e]
  · rw [if_neg fun h => e h.1, if_neg e]

theorem setLoad_pos (s : HS) (id id' : Nat) (v : Int) : pos (s.setLoad id v) id' = pos s id' := by
  unfold pos; rw [(setLoad_node s id id' v).2.2.2.2]

theorem setLoad_L_off (s : HS) (id : Nat) (v : Int) (hn : ¬ InHeap s id) (p : Nat) (h1 : 1 ≤ p) (h2 : p ≤ s.size) :
    L (s.setLoad id v) p = L s p := by
  unfold L HS.at
  rw [(setLoad_node s id _ v).1, setLoad_idAt, if_neg fun e => hn ⟨p, h1, h2, e.1⟩]

@[simp] theorem setIndex_heap (s : HS) (id : Nat) (ix : Int) : (s.setIndex id ix).heap = s.heap := rfl
@[simp] theorem setIndex_down (s : HS) (id : Nat) (ix : Int) : (s.setIndex id ix).down = s.down := rfl
@[simp] theorem setIndex_reqs (s : HS) (id : Nat) (ix : Int) : (s.setIndex id ix).reqs = s.reqs := rfl
@[simp] theorem setIndex_servers (s : HS) (id : Nat) (ix : Int) : (s.setIndex id ix).servers = s.servers := rfl
@[simp] theorem setIndex_len (s : HS) (id : Nat) (ix : Int) : (s.setIndex id ix).nodes.length = s.nodes.length :=
  setNode_len s id _

theorem setIndex_node (s : HS) (id id' : Nat) (ix : Int) :
    ((s.setIndex id ix).node id').load = (s.node id').load ∧
    ((s.setIndex id ix).node id').ep = (s.node id').ep ∧
    ((s.setIndex id ix).node id').chan = (s.node id').chan ∧
    ((s.setIndex id ix).node id').closed = (s.node id').closed ∧
    ((s.setIndex id ix).node id').index = if id' = id ∧ id < s.nodes.length then ix else (s.node id').index := by
  unfold HS.setIndex
  refine ⟨setNode_proj Node.load s id { s.node id with index := ix } rfl id',
    setNode_proj Node.ep s id { s.node id with index := ix } rfl id',
    setNode_proj Node.chan s id { s.node id with index := ix } rfl id',
    setNode_proj Node.closed s id { s.node id with index := ix } rfl id', ?_⟩
  rw [node_setNode]
  split <;> rfl

theorem swap_heap (s : HS) (i j : Nat) :
    (s.swap i j).heap = (s.heap.set (i - 1) (s.idAt j)).set (j - 1) (s.idAt i) := rfl

theorem swap_size (s : HS) (i j : Nat) : (s.swap i j).size = s.size := by
  unfold HS.size
  rw [swap_heap, List.length_set, List.length_set]

theorem swap_len (s : HS) (i j : Nat) : (s.swap i j).nodes.length = s.nodes.length := by
  unfold HS.swap
  exact (setIndex_len _ _ _).trans (setIndex_len _ _ _)

@[simp] theorem swap_down (s : HS) (i j : Nat) : (s.swap i j).down = s.down := rfl
@[simp] theorem swap_reqs (s : HS) (i j : Nat) : (s.swap i j).reqs = s.reqs := rfl
@[simp] theorem swap_servers (s : HS) (i j : Nat) : (s.swap i j).servers = s.servers := rfl

/-- 1-based position `k` reads the array entry written at the index of 1-based position `j` iff `k = j` -/
theorem pred_eq_iff {k j n : Nat} (hk : 1 ≤ k) (hj1 : 1 ≤ j) (hj2 : j ≤ n) : (k - 1 = j - 1 ∧ j - 1 < n) ↔ k = j :=
  ⟨fun h => Nat.pred_inj hk hj1 h.1, fun h => ⟨h ▸ rfl, Nat.lt_of_lt_of_le (Nat.pred_lt (Nat.ne_of_gt hj1)) hj2⟩⟩

theorem swap_idAt (s : HS) (i j k : Nat) (hi1 : 1 ≤ i) (hi2 : i ≤ s.size) (hj1 : 1 ≤ j) (hj2 : j ≤ s.size) :
    (s.swap i j).idAt k = if k = j then s.idAt i else if k = i then s.idAt j else s.idAt k := by
  by_cases hk : k = 0
  · rw [hk, if_neg (Nat.ne_of_lt hj1), if_neg (Nat.ne_of_lt hi1)]
    exact (if_pos rfl).trans ((swap_len s i j).trans (if_pos rfl).symm)
  · have hk1 : 1 ≤ k := Nat.pos_of_ne_zero hk
    have e : ∀ t : HS, t.idAt k = t.heap.getD (k - 1) t.nodes.length := fun t => if_neg hk
    rw [e, e, swap_len, swap_heap, getD_set', getD_set', List.length_set,
      if_congr (pred_eq_iff (n := s.heap.length) hk1 hj1 hj2) rfl rfl,
      if_congr (pred_eq_iff (n := s.heap.length) hk1 hi1 hi2) rfl rfl]

theorem swap_idAt_perm (s : HS) (i j k : Nat) (hi1 : 1 ≤ i) (hi2 : i ≤ s.size) (hj1 : 1 ≤ j) (hj2 : j ≤ s.size) :
    (s.swap i j).idAt k = s.idAt (Equiv.swap i j k) := by
  rw [swap_idAt s i j k hi1 hi2 hj1 hj2]
  split
  · rename_i e; rw [e, Equiv.swap_apply_right]
  · split
    · rename_i e; rw [e, Equiv.swap_apply_left]
    · rename_i e1 e2; rw [Equiv.swap_apply_of_ne_of_ne e2 e1]

theorem swap_range {n i j k : Nat} (hi1 : 1 ≤ i) (hi2 : i ≤ n) (hj1 : 1 ≤ j) (hj2 : j ≤ n) (hk1 : 1 ≤ k)
    (hk2 : k ≤ n) : 1 ≤ Equiv.swap i j k ∧ Equiv.swap i j k ≤ n := by
  rw [Equiv.swap_apply_def]
  split
  · exact ⟨hj1, hj2⟩
  · split
    · exact ⟨hi1, hi2⟩
    · exact ⟨hk1, hk2⟩

theorem swap_inHeap (s : HS) (i j : Nat) (hi1 : 1 ≤ i) (hi2 : i ≤ s.size)
    (hj1 : 1 ≤ j) (hj2 : j ≤ s.size) (id : Nat) : InHeap (s.swap i j) id ↔ InHeap s id := by
  constructor
  · rintro ⟨p, h1, h2, he⟩
    rw [swap_size] at h2
    obtain ⟨r1, r2⟩ := swap_range hi1 hi2 hj1 hj2 h1 h2
    exact ⟨_, r1, r2, (swap_idAt_perm s i j p hi1 hi2 hj1 hj2).symm.trans he⟩
  · rintro ⟨p, h1, h2, he⟩
    obtain ⟨r1, r2⟩ := swap_range hi1 hi2 hj1 hj2 h1 h2
    refine ⟨_, r1, (swap_size s i j).symm ▸ r2, ?_⟩
    rw [swap_idAt_perm s i j _ hi1 hi2 hj1 hj2, Equiv.swap_apply_self]
    exact he

theorem swap_proj {α : Type} (g : Node → α) (hg : ∀ (n : Node) (ix : Int), g { n with index := ix } = g n)
    (s : HS) (i j id : Nat) : g ((s.swap i j).node id) = g (s.node id) := by
  unfold HS.swap HS.setIndex
  rw [setNode_proj g _ _ _ (hg _ _), setNode_proj g _ _ _ (hg _ _)]
  rfl

theorem swap_node_fields (s : HS) (i j id : Nat) :
    ((s.swap i j).node id).load = (s.node id).load ∧ ((s.swap i j).node id).ep = (s.node id).ep ∧
    ((s.swap i j).node id).chan = (s.node id).chan ∧ ((s.swap i j).node id).closed = (s.node id).closed :=
  ⟨swap_proj Node.load (fun _ _ => rfl) s i j id, swap_proj Node.ep (fun _ _ => rfl) s i j id,
    swap_proj Node.chan (fun _ _ => rfl) s i j id, swap_proj Node.closed (fun _ _ => rfl) s i j id⟩

theorem swap_node_index (s : HS) (hw : WF s) (i j id : Nat) (hi1 : 1 ≤ i) (hi2 : i ≤ s.size)
    (hj1 : 1 ≤ j) (hj2 : j ≤ s.size) :
    ((s.swap i j).node id).index =
      if id = s.idAt i then (j : Int) else if id = s.idAt j then (i : Int) else (s.node id).index := by
  have ha := hw.inStore i hi1 hi2
  have hb := hw.inStore j hj1 hj2
  unfold HS.swap
  simp only
  obtain ⟨_, _, _, _, a5⟩ := setIndex_node (({ s with heap := (s.heap.set (i - 1) (s.idAt j)).set (j - 1) (s.idAt i) } : HS).setIndex (s.idAt j) i) (s.idAt i) id j
  obtain ⟨_, _, _, _, b5⟩ := setIndex_node ({ s with heap := (s.heap.set (i - 1) (s.idAt j)).set (j - 1) (s.idAt i) } : HS) (s.idAt j) id i
  rw [a5, b5]
  simp only [setIndex_len]
  have e1 : ({ s with heap := (s.heap.set (i - 1) (s.idAt j)).set (j - 1) (s.idAt i) } : HS).node id = s.node id := rfl
  simp only [e1, ha, hb, and_true]

theorem swap_index_at (s : HS) (hw : WF s) (i j q : Nat) (hi1 : 1 ≤ i) (hi2 : i ≤ s.size)
    (hj1 : 1 ≤ j) (hj2 : j ≤ s.size) (hq1 : 1 ≤ q) (hq2 : q ≤ s.size) :
    ((s.swap i j).node (s.idAt q)).index = (Equiv.swap i j q : Nat) := by
  rw [swap_node_index s hw i j _ hi1 hi2 hj1 hj2]
  by_cases e1 : q = i
  · rw [e1, if_pos rfl, Equiv.swap_apply_left]
  · rw [if_neg fun h => e1 (hw.inj _ _ hq1 hq2 hi1 hi2 h)]
    by_cases e2 : q = j
    · rw [e2, if_pos rfl, Equiv.swap_apply_right]
    · rw [if_neg fun h => e2 (hw.inj _ _ hq1 hq2 hj1 hj2 h), Equiv.swap_apply_of_ne_of_ne e1 e2]
      exact hw.idx q hq1 hq2

theorem swap_index_off (s : HS) (hw : WF s) (i j id : Nat) (hi1 : 1 ≤ i) (hi2 : i ≤ s.size)
    (hj1 : 1 ≤ j) (hj2 : j ≤ s.size) (hn : ¬ InHeap s id) : ((s.swap i j).node id).index = (s.node id).index := by
  rw [swap_node_index s hw i j id hi1 hi2 hj1 hj2, if_neg fun h => hn ⟨i, hi1, hi2, h.symm⟩,
    if_neg fun h => hn ⟨j, hj1, hj2, h.symm⟩]

theorem swap_WF (s : HS) (hw : WF s) (i j : Nat) (hi1 : 1 ≤ i) (hi2 : i ≤ s.size)
    (hj1 : 1 ≤ j) (hj2 : j ≤ s.size) : WF (s.swap i j) := by
  have hsz := swap_size s i j
  have hid := fun k => swap_idAt_perm s i j k hi1 hi2 hj1 hj2
  have hr := fun {k} => swap_range (k := k) hi1 hi2 hj1 hj2
  constructor
  · intro p h1 h2
    rw [hsz] at h2
    rw [hid, swap_len]
    exact hw.inStore _ (hr h1 h2).1 (hr h1 h2).2
  · intro p q hp1 hp2 hq1 hq2 h
    rw [hsz] at hp2 hq2
    rw [hid, hid] at h
    exact (Equiv.swap i j).injective
      (hw.inj _ _ (hr hp1 hp2).1 (hr hp1 hp2).2 (hr hq1 hq2).1 (hr hq1 hq2).2 h)
  · intro p h1 h2
    rw [hsz] at h2
    unfold HS.at
    rw [hid, swap_index_at s hw i j _ hi1 hi2 hj1 hj2 (hr h1 h2).1 (hr h1 h2).2, Equiv.swap_apply_self]
  · intro id hlt hnot
    have hnot' : ¬ InHeap s id := fun h => hnot ((swap_inHeap s i j hi1 hi2 hj1 hj2 id).2 h)
    rw [swap_len] at hlt
    rw [swap_index_off s hw i j id hi1 hi2 hj1 hj2 hnot']
    exact hw.off id hlt hnot'

end Scales.Heap
