/-
  Proofs/ResPoolLemmas.lean — the resurrector/pool/transport chain: what every schedule of each
  operation does to each quiescent state, for every pair of watermarks (by exhaustive exploration
  of the nine clamped pairs, checked by the kernel, and `explore_sound`), and the coupling of the
  model with the specification automaton.
-/
import ScalesModel.Proofs.ResChainLemmas
import ScalesModel.Proofs.ResBackoff
import ScalesModel.Proofs.RunLemmas
namespace Scales.Pool
open Scales.Chain
open Scales.Res (Par nextWait)

/-- the clamped watermark pairs with `hi ≥ 1` -/
def allWM : List WM := [⟨0, 1⟩, ⟨0, 2⟩, ⟨0, 3⟩, ⟨1, 1⟩, ⟨1, 2⟩, ⟨1, 3⟩, ⟨2, 1⟩, ⟨2, 2⟩, ⟨2, 3⟩]

theorem clamp_mem (w : WM) (h : 1 ≤ w.hi) : clampWM w ∈ allWM := by
  have key : ∀ lo, lo ≤ 2 → ∀ hi, hi ≤ 3 → 1 ≤ hi → (⟨lo, hi⟩ : WM) ∈ allWM := by decide
  exact key _ (Nat.min_le_right _ _) _ (Nat.min_le_right _ _) (Nat.le_min.mpr ⟨h, by decide⟩)

/-- does the pool keep an idle connection (`min_watermark ≥ 1`) -/
def keep (w : WM) : Bool := decide (1 ≤ w.lo)

theorem one_le_clamp_lo (w : WM) : 1 ≤ (clampWM w).lo ↔ 1 ≤ w.lo := clamp_lo w 1 (by decide)

theorem clamp_lo_eq_zero (w : WM) : (clampWM w).lo = 0 ↔ w.lo = 0 := by
  have := one_le_clamp_lo w; omega

@[simp] theorem keep_clamp (w : WM) : keep (clampWM w) = keep w := by
  simp only [keep, one_le_clamp_lo]

@[simp] theorem canon_clamp (w : WM) (m : Mode) (r : Bool) : canon (clampWM w) m r = canon w m r := by
  cases m <;> simp only [canon, one_le_clamp_lo]

@[simp] theorem classify_clamp (w : WM) (c : C) : classify (clampWM w) c = classify w c := by
  simp only [classify, one_le_clamp_lo, clamp_lo_eq_zero]

/-- what the outside sees of a finished run -/
structure Outcome where
  mode : Option Mode
  connects : Nat
  resp : RespK
  slp : Slp
  deriving DecidableEq, Repr

def outcome (w : WM) (c : C) : Outcome := ⟨classify w c, c.connects, c.resp, c.slp⟩

@[simp] theorem outcome_clamp (w : WM) (c : C) : outcome (clampWM w) c = outcome w c := by
  simp only [outcome, classify_clamp]

/-- an outcome common to all final states explored for the nine clamped pairs is the outcome of every schedule
    under every pair of watermarks with `hi ≥ 1`; the start, the canonical quiescent state of a mode, is that of the
    clamped pair (`canon_clamp`).  `w` is bound last, here and in the six tables below, so that `op`, the mode and `oc`
    are read off the statement that is being proved; `opReq` has its argument `eof` behind the state and is named. -/
theorem ends_all {op : C → C} {m : Mode} {r : Bool} {oc : WM → Outcome} (hoc : ∀ w, oc (clampWM w) = oc w)
    (h : allWM.all (fun v => decide ((explore v fuel (op (canon v m r))).map
      (fun l => l.all (fun c => decide (outcome v c = oc v))) = some true)) = true) (w : WM) (hw : 1 ≤ w.hi) :
    Ends w (op (canon w m r)) (fun c => outcome w c = oc w) := by
  have hv := List.all_eq_true.mp h _ (clamp_mem w hw)
  rw [decide_eq_true_eq] at hv
  cases he : explore (clampWM w) fuel (op (canon (clampWM w) m r)) with
  | none => rw [he] at hv; cases hv
  | some fs =>
    rw [he, Option.map_some, Option.some.injEq] at hv
    rw [canon_clamp] at he
    refine ends_of_explore w _ fs _ he (fun x hx => ?_)
    have := List.all_eq_true.mp hv x hx
    rwa [decide_eq_true_eq, outcome_clamp, hoc] at this

theorem ends_open (r : Bool) : ∀ w : WM, 1 ≤ w.hi →
    Ends w (opOpen (canon w .idle r)) (fun c => outcome w c =
      ⟨some (if r then .up else .down), 1, .none, if r then .none else .fresh⟩) :=
  ends_all (fun _ => rfl) (by cases r <;> decide +kernel)

/-- did the request meet a connection failure: the peer closed the connection instead of
    answering, or (no kept connection) the connect the request made itself was refused -/
def reqFails (w : WM) (r eof : Bool) : Bool := eof || (!keep w && !r)

@[simp] theorem reqFails_clamp (w : WM) (r eof : Bool) : reqFails (clampWM w) r eof = reqFails w r eof := by
  rw [reqFails, keep_clamp, reqFails]

theorem ends_req_up (r eof : Bool) : ∀ w : WM, 1 ≤ w.hi →
    Ends w (opReq (canon w .up r) eof) (fun c => outcome w c =
      ⟨some (if reqFails w r eof then .down else .up), if keep w then 0 else 1,
       if reqFails w r eof then .err else .ok, if reqFails w r eof then .fresh else .none⟩) :=
  ends_all (op := (opReq · eof)) (fun _ => by simp only [reqFails_clamp, keep_clamp])
    (by cases r <;> cases eof <;> decide +kernel)

theorem ends_req_down (r eof : Bool) : ∀ w : WM, 1 ≤ w.hi →
    Ends w (opReq (canon w .down r) eof) (fun c => outcome w c = ⟨some .down, 0, .ff, .none⟩) :=
  ends_all (op := (opReq · eof)) (fun _ => rfl) (by cases r <;> cases eof <;> decide +kernel)

theorem ends_wake (r : Bool) : ∀ w : WM, 1 ≤ w.hi →
    Ends w (opWake (canon w .down r)) (fun c => outcome w c =
      ⟨some (if r then .up else .down), 1, .none, if r then .none else .backoff⟩) :=
  ends_all (fun _ => rfl) (by cases r <;> decide +kernel)

theorem ends_close_up (r : Bool) : ∀ w : WM, 1 ≤ w.hi →
    Ends w (opClose (canon w .up r)) (fun c => outcome w c = ⟨some .shutU, 0, .none, .none⟩) :=
  ends_all (fun _ => rfl) (by cases r <;> decide +kernel)

theorem ends_close_down (r : Bool) : ∀ w : WM, 1 ≤ w.hi →
    Ends w (opClose (canon w .down r)) (fun c => outcome w c = ⟨some .shutD, 0, .none, .none⟩) :=
  ends_all (fun _ => rfl) (by cases r <;> decide +kernel)

/-- coupling of the model state with the specification automaton, at quiescence -/
structure Inv (p : Par) (s : St) (a : PS) (opened closed : Bool) : Prop where
  hnow : a.now = s.now
  hreach : closed = false → a.reach = s.reach
  hclosed : a.closed = closed
  hidle : opened = false → s.mode = some .idle ∧ a.connDown = false ∧ a.established = false ∧ closed = false
  hlive : opened = true → closed = false →
    (s.mode = some .up ∧ a.established = true ∧ a.connDown = false) ∨
    (s.mode = some .down ∧ a.connDown = true ∧ a.established = false ∧
      s.wakeAt = a.lastEnd + s.wait ∧ s.wait ≤ p.maxW ∧ s.now < s.wakeAt ∧ 0 < s.wait ∧ a.lastEnd ≤ s.now ∧
      ∀ d, a.lastDelay = some d → d ≤ s.wait ∧ (d < s.wait ∨ s.wait = p.maxW))
  hshut : closed = true → s.mode = some .shutU ∨ s.mode = some .shutD

theorem Inv.mode {p : Par} {s : St} {a : PS} {o c : Bool} (hI : Inv p s a o c) : ∃ m, s.mode = some m := by
  cases o with
  | false => exact ⟨_, (hI.hidle rfl).1⟩
  | true =>
    cases c with
    | false => rcases hI.hlive rfl rfl with h | h <;> exact ⟨_, h.1⟩
    | true => rcases hI.hshut rfl with h | h <;> exact ⟨_, h⟩

theorem Inv.of_down {p : Par} {s : St} {a : PS} {o c : Bool} (hI : Inv p s a o c) (hd : s.mode = some .down) :
    o = true ∧ c = false := by
  cases o with
  | false => have := (hI.hidle rfl).1; rw [hd] at this; cases this
  | true =>
    cases c with
    | false => exact ⟨rfl, rfl⟩
    | true => rcases hI.hshut rfl with h | h <;> rw [hd] at h <;> cases h

theorem Inv.advance {p : Par} {s : St} {a : PS} {o c : Bool} (hI : Inv p s a o c) (d : Nat)
    (hlt : s.mode = some .down → s.now + d < s.wakeAt) :
    Inv p { s with now := s.now + d, last := begin s.last } { a with now := a.now + d } o c :=
  ⟨congrArg (· + d) hI.hnow, hI.hreach, hI.hclosed, hI.hidle,
    fun ho hc => (hI.hlive ho hc).imp id fun ⟨hm, hcd, hes, hwk, hwm, _, hwp, hle, hld⟩ =>
      ⟨hm, hcd, hes, hwk, hwm, hlt hm, hwp, Nat.le_add_right_of_le hle, hld⟩,
    hI.hshut⟩

theorem stepSt_opn (p : Par) (w : WM) (s : St) (sched : List Nat) (hm : s.mode = some .idle) :
    stepSt p w s (.opn sched) = settle p w s (drain w (opOpen (canon w .idle s.reach)) sched) 1 0 := by
  simp [stepSt, hm, canon]

theorem stepSt_req (p : Par) (w : WM) (s : St) (eof : Bool) (sched : List Nat) (m : Mode) (hm : s.mode = some m) :
    stepSt p w s (.req eof sched) = settle p w s (drain w (opReq (canon w m s.reach) eof) sched) 0 0 := by
  simp [stepSt, hm]

theorem stepSt_close (p : Par) (w : WM) (s : St) (sched : List Nat) (m : Mode) (hm : s.mode = some m) :
    stepSt p w s (.close sched) = settle p w s (drain w (opClose (canon w m s.reach)) sched) 0 0 := by
  simp [stepSt, hm]

theorem stepSt_tick_wake (p : Par) (w : WM) (s : St) (d : Nat) (sched : List Nat) (hm : s.mode = some .down)
    (hw : s.wakeAt ≤ s.now + d) :
    stepSt p w s (.tick d sched) = settle p w s (drain w (opWake (canon w .down s.reach)) sched) 1 d := by
  simp [stepSt, hm, hw]

theorem stepSt_tick_quiet (p : Par) (w : WM) (s : St) (d : Nat) (sched : List Nat) (m : Mode) (hm : s.mode = some m)
    (hw : ¬(m = .down ∧ s.wakeAt ≤ s.now + d)) :
    stepSt p w s (.tick d sched) = { s with now := s.now + d, last := begin s.last } := by
  simp [stepSt, hm, hw]

/-- The state `settle` leaves, by the outcome `oc` of the run: a record update of `s`, so that what the coupling and the
    observation read of it is there by definition. -/
theorem settle_eq {w : WM} {c : C} {oc : Outcome} (h : outcome w c = oc) (p : Par) (s : St) (dp dt : Nat) :
    settle p w s c dp dt = { s with
      last := c, mode := oc.mode, ups := s.ups + c.ups, pools := s.pools + dp, now := s.now + dt,
      wait := match oc.slp with
        | .fresh => p.init | .backoff => nextWait p s.wait | .none => s.wait,
      wakeAt := match oc.slp with
        | .fresh => s.now + dt + p.init | .backoff => s.now + dt + nextWait p s.wait | .none => s.wakeAt } := by
  subst h
  unfold settle outcome
  cases c.slp <;> rfl

theorem inv_fresh {p : Par} {l u pl} (hp : p.Ok) (a : PS) {n : Nat} {r : Bool} (hnow : a.now = n) (hreach : a.reach = r)
    (hac : a.closed = false) :
    Inv p { mode := some .down, last := l, reach := r, now := n, wakeAt := n + p.init, wait := p.init, ups := u, pools := pl }
      { a with connDown := true, established := false, lastEnd := a.now, lastDelay := none } true false :=
  ⟨hnow, fun _ => hreach, hac, nofun,
    fun _ _ => .inr ⟨rfl, rfl, rfl, congrArg (· + p.init) hnow.symm, hp.init_le, Nat.lt_add_of_pos_right hp.init_pos,
      hp.init_pos, Nat.le_of_eq hnow, nofun⟩,
    nofun⟩

theorem inv_up {p : Par} {l wk wt u pl} (a : PS) {n : Nat} {r : Bool} (hnow : a.now = n) (hreach : a.reach = r)
    (hac : a.closed = false) (hes : a.established = true) (hcd : a.connDown = false) :
    Inv p { mode := some .up, last := l, reach := r, now := n, wakeAt := wk, wait := wt, ups := u, pools := pl } a true false :=
  ⟨hnow, fun _ => hreach, hac, nofun, fun _ _ => .inl ⟨rfl, hes, hcd⟩, nofun⟩

theorem inv_backoff {p : Par} {l u pl} (hf : Res.Grows p) {w : Nat} (hwm : w ≤ p.maxW) (hwp : 0 < w)
    (a : PS) {n : Nat} {r : Bool} (hnow : a.now = n) (hreach : a.reach = r) (hac : a.closed = false)
    (hcd : a.connDown = true) (hes : a.established = false) (hle : a.lastEnd = n)
    (hld : a.lastDelay = some w) :
    Inv p { mode := some .down, last := l, reach := r, now := n, wakeAt := n + nextWait p w, wait := nextWait p w, ups := u,
            pools := pl } a true false := by
  have hge := Res.le_nextWait p hf w hwm
  have hpos := Nat.lt_of_lt_of_le hwp hge
  refine ⟨hnow, fun _ => hreach, hac, nofun,
    fun _ _ => .inr ⟨rfl, hcd, hes, congrArg (· + _) hle.symm, Res.nextWait_le_max p w,
      Nat.lt_add_of_pos_right hpos, hpos, Nat.le_of_eq hle, ?_⟩, nofun⟩
  intro d hd
  cases hld.symm.trans hd
  exact ⟨hge, Res.nextWait_strict p hf w hwm⟩

section spec
variable {c : Res.Cfg} {a : PS} {idx : Nat} {o : Obs} {sched : List Nat}

theorem specStep_opn (hq : o.quiet = true) (hc : a.closed = false) (hn : 0 < o.connects) :
    specStep c a idx (.opn sched) o = (.ok, if a.reach then { a with established := true, connDown := false }
      else { a with connDown := true, established := false, lastEnd := a.now, lastDelay := none }) := by
  unfold specStep
  rw [if_neg (by rw [hq]; nofun), if_neg (by rw [hc]; nofun)]
  exact (if_neg (Nat.ne_of_gt hn)).trans (apply_ite (Prod.mk Verdict.ok) _ _ _).symm

theorem specStep_req_down {eof : Bool} (hq : o.quiet = true) (hc : a.closed = false) (hd : a.connDown = true)
    (hr : o.resp = .ff) (hn : o.connects = 0) (hnot : ¬(a.reach = true ∧ max a.reachSince a.lastEnd + c.maxW ≤ a.now)) :
    specStep c a idx (.req eof sched) o = (.ok, a) := by
  unfold specStep
  rw [if_neg (by rw [hq]; nofun), if_neg (by rw [hc]; nofun)]
  exact (if_pos hd).trans ((if_neg (by rw [hr, hn]; exact fun h => h.elim (· rfl) (Nat.lt_irrefl 0))).trans (if_neg hnot))

theorem specStep_req_fails {eof : Bool} (hq : o.quiet = true) (hc : a.closed = false) (hd : a.connDown = false)
    (he : a.established = true) (hf : eof = true ∨ (0 < o.connects ∧ a.reach = false)) :
    specStep c a idx (.req eof sched) o =
      (.ok, { a with connDown := true, established := false, lastEnd := a.now, lastDelay := none }) := by
  unfold specStep
  rw [if_neg (by rw [hq]; nofun), if_neg (by rw [hc]; nofun)]
  refine (if_neg (by rw [hd]; nofun)).trans ((if_pos he).trans ?_)
  by_cases hx : 0 < o.connects ∧ a.reach = false
  · exact if_pos hx
  · exact (if_neg hx).trans (if_pos (hf.resolve_right hx))

theorem specStep_req_ok (hq : o.quiet = true) (hc : a.closed = false) (hd : a.connDown = false)
    (he : a.established = true) (hx : ¬(0 < o.connects ∧ a.reach = false)) (hr : o.resp = .ok) :
    specStep c a idx (.req false sched) o = (.ok, a) := by
  unfold specStep
  rw [if_neg (by rw [hq]; nofun), if_neg (by rw [hc]; nofun)]
  exact (if_neg (by rw [hd]; nofun)).trans ((if_pos he).trans ((if_neg hx).trans
    ((if_neg Bool.false_ne_true).trans (if_neg (by rw [hr]; exact fun h => h rfl)))))

theorem specStep_tick_quiet {d : Nat} (hq : o.quiet = true) (hn : o.connects = 0) :
    specStep c a idx (.tick d sched) o = (.ok, { a with now := a.now + d }) := by
  unfold specStep
  rw [if_neg (by rw [hq]; nofun)]
  cases hc : a.closed with
  | true => exact (if_pos rfl).trans (if_neg (by rw [hn]; exact Nat.lt_irrefl 0))
  | false => exact (if_neg Bool.false_ne_true).trans (if_pos (.inl hn))

theorem specStep_tick_wake {d dl : Nat} (hq : o.quiet = true) (hc : a.closed = false) (hn : 0 < o.connects)
    (hd : a.connDown = true) (hdl : a.now + d - a.lastEnd = dl) (hle : dl ≤ c.maxW)
    (hld : ∀ d0, a.lastDelay = some d0 → d0 ≤ dl ∧ (d0 < dl ∨ dl = c.maxW)) :
    specStep c a idx (.tick d sched) o = (.ok,
      if a.reach then { a with now := a.now + d, established := true, connDown := false, lastDelay := none }
      else { a with now := a.now + d, lastEnd := a.now + d, lastDelay := some dl }) := by
  subst hdl
  have hok := Res.delay_ok _ _ _ hld
  unfold specStep
  rw [if_neg (by rw [hq]; nofun), if_neg (by rw [hc]; nofun)]
  exact (if_neg fun h => h.elim (Nat.ne_of_gt hn) (fun h => nomatch hd.symm.trans h)).trans
    ((if_neg (Nat.not_lt.mpr hle)).trans ((if_neg fun h => Bool.false_ne_true (hok.symm.trans h)).trans
      (apply_ite (Prod.mk Verdict.ok) _ _ _).symm))

theorem specStep_reach {up : Bool} (hq : o.quiet = true) (hn : o.connects = 0) :
    specStep c a idx (.reach up) o =
      (.ok, if a.closed then a else { a with reach := up, reachSince := a.now }) := by
  unfold specStep
  rw [if_neg (by rw [hq]; nofun)]
  cases hc : a.closed with
  | true => exact (if_pos rfl).trans (if_neg (by rw [hn]; exact Nat.lt_irrefl 0))
  | false => exact if_neg Bool.false_ne_true

theorem specStep_close (hq : o.quiet = true) (hc : a.closed = false) :
    specStep c a idx (.close sched) o = (.ok, { a with closed := true }) := by
  unfold specStep
  rw [if_neg (by rw [hq]; nofun), if_neg (by rw [hc]; nofun)]

end spec

theorem step_ok (cfg : Cfg) (hc : Res.cfgWF cfg.r = true) (hw : 1 ≤ cfg.w.hi) (s : St) (a : PS) (o c : Bool)
    (idx : Nat) (op : Op) (hI : Inv cfg.r.par s a o c) (hop : opOk s o c op = true) :
    ∃ a', specStep cfg.r a idx op (obsOf (stepSt cfg.r.par cfg.w s op)) = (.ok, a') ∧
      Inv cfg.r.par (stepSt cfg.r.par cfg.w s op) a' (o || isOpn op) (c || isClose op) := by
  obtain ⟨m, hm⟩ := hI.mode
  cases op with
  | opn sched =>
    simp only [opOk, Bool.and_eq_true, Bool.not_eq_true'] at hop
    obtain ⟨rfl, rfl⟩ := hop
    have hac : a.closed = false := hI.hclosed
    have hreach := hI.hreach rfl
    have g := (ends_open s.reach cfg.w hw).drain sched
    rw [stepSt_opn _ _ _ _ (hI.hidle rfl).1, settle_eq g]
    refine ⟨_, specStep_opn rfl hac (Nat.lt_of_lt_of_eq Nat.one_pos (congrArg Outcome.connects g).symm), ?_⟩
    cases hr : s.reach with
    | true => rw [if_pos (hreach.trans hr)]; exact inv_up _ hI.hnow (hreach.trans hr) hac rfl rfl
    | false =>
      rw [if_neg (Bool.eq_false_iff.mp (hreach.trans hr))]
      exact inv_fresh (Res.cfg_ok _ hc) a hI.hnow (hreach.trans hr) hac
  | req eof sched =>
    simp only [opOk, Bool.and_eq_true, Bool.not_eq_true'] at hop
    obtain ⟨rfl, rfl⟩ := hop
    have hac : a.closed = false := hI.hclosed
    have hnow := hI.hnow
    have hreach := hI.hreach rfl
    rcases hI.hlive rfl rfl with ⟨hm, hes, hcd⟩ | ⟨hm, hcd, hes, hwk, hwm, hlt, hwpos, hle, hld⟩
    · have g := (ends_req_up s.reach eof cfg.w hw).drain sched
      rw [stepSt_req _ _ _ _ _ _ hm, settle_eq g]
      obtain ⟨-, hcn, hrs, -⟩ := Outcome.mk.inj g
      cases hf : reqFails cfg.w s.reach eof with
      | true =>
        refine ⟨_, specStep_req_fails rfl hac hcd hes ?_, inv_fresh (Res.cfg_ok _ hc) a hnow hreach hac⟩
        simp only [reqFails, Bool.or_eq_true, Bool.and_eq_true, Bool.not_eq_true'] at hf
        refine hf.imp id fun ⟨hk, hr⟩ => ⟨?_, hreach.trans hr⟩
        show 0 < (drain _ _ sched).connects
        rw [hcn, hk]; exact Nat.one_pos
      | false =>
        rw [hf] at hrs
        simp only [reqFails, Bool.or_eq_false_iff, Bool.and_eq_false_iff, Bool.not_eq_false'] at hf
        obtain ⟨rfl, hkr⟩ := hf
        refine ⟨a, specStep_req_ok rfl hac hcd hes ?_ hrs, inv_up a hnow hreach hac hes hcd⟩
        rintro ⟨hn : 0 < (drain _ _ sched).connects, hr⟩
        rcases hkr with hk | hr'
        · rw [hcn, hk] at hn; cases hn
        · rw [hreach, hr'] at hr; cases hr
    · have g := (ends_req_down s.reach eof cfg.w hw).drain sched
      rw [stepSt_req _ _ _ _ _ _ hm, settle_eq g]
      refine ⟨a, specStep_req_down rfl hac hcd (congrArg Outcome.resp g) (congrArg Outcome.connects g) ?_,
        hnow, fun _ => hreach, hac, nofun, fun _ _ => .inr ⟨rfl, hcd, hes, hwk, hwm, hlt, hwpos, hle, hld⟩, nofun⟩
      refine fun ⟨_, h⟩ => Nat.not_le.mpr ?_ (Nat.le_trans (Nat.add_le_add_right (Nat.le_max_right ..) _) h)
      rw [hnow]; exact Nat.lt_of_lt_of_le hlt (hwk ▸ Nat.add_le_add_left hwm _)
  | close sched =>
    simp only [opOk, Bool.and_eq_true, Bool.not_eq_true'] at hop
    obtain ⟨rfl, rfl⟩ := hop
    rcases hI.hlive rfl rfl with h | h
    · rw [stepSt_close _ _ _ _ _ h.1, settle_eq ((ends_close_up s.reach cfg.w hw).drain sched)]
      exact ⟨_, specStep_close rfl hI.hclosed, hI.hnow, nofun, rfl, nofun, nofun, fun _ => .inl rfl⟩
    · rw [stepSt_close _ _ _ _ _ h.1, settle_eq ((ends_close_down s.reach cfg.w hw).drain sched)]
      exact ⟨_, specStep_close rfl hI.hclosed, hI.hnow, nofun, rfl, nofun, nofun, fun _ => .inr rfl⟩
  | reach up =>
    simp only [isOpn, isClose, Bool.or_false]
    have hs := specStep_reach (c := cfg.r) (a := a) (idx := idx) (o := obsOf (stepSt cfg.r.par cfg.w s (.reach up)))
      (up := up) (by show s.mode.isSome = true; rw [hm]; rfl) rfl
    cases c with
    | true =>
      rw [hI.hclosed, if_pos rfl] at hs
      exact ⟨a, hs, hI.hnow, nofun, hI.hclosed, hI.hidle, hI.hlive, hI.hshut⟩
    | false =>
      rw [hI.hclosed, if_neg Bool.false_ne_true] at hs
      exact ⟨_, hs, hI.hnow, fun _ => rfl, rfl, hI.hidle, hI.hlive, hI.hshut⟩
  | tick d sched =>
    simp only [isOpn, isClose, Bool.or_false]
    simp only [opOk, Bool.and_eq_true, Bool.or_eq_true, decide_eq_true_eq] at hop
    by_cases hwake : m = .down ∧ s.wakeAt ≤ s.now + d
    · obtain ⟨rfl, hwk'⟩ := hwake
      obtain ⟨rfl, rfl⟩ := hI.of_down hm
      have hac : a.closed = false := hI.hclosed
      have hnow := hI.hnow
      have hreach := hI.hreach rfl
      rcases hI.hlive rfl rfl with ⟨hm', _⟩ | ⟨_, hcd, hes, hwk, hwm, hlt, hwpos, hle, hld⟩
      · rw [hm] at hm'; cases hm'
      have heq : s.now + d = s.wakeAt := Nat.le_antisymm (hop.2.resolve_left (fun h => h hm)) hwk'
      have hdl : a.now + d - a.lastEnd = s.wait := by rw [hnow, heq, hwk, Nat.add_sub_cancel_left]
      have g := (ends_wake s.reach cfg.w hw).drain sched
      rw [stepSt_tick_wake _ _ _ _ _ hm hwk', settle_eq g]
      refine ⟨_, specStep_tick_wake rfl hac (Nat.lt_of_lt_of_eq Nat.one_pos (congrArg Outcome.connects g).symm) hcd hdl hwm hld, ?_⟩
      cases hr : s.reach with
      | true => rw [if_pos (hreach.trans hr)]; exact inv_up _ (congrArg (· + d) hnow) (hreach.trans hr) hac rfl rfl
      | false =>
        rw [if_neg (Bool.eq_false_iff.mp (hreach.trans hr))]
        exact inv_backoff (Res.cfg_ok _ hc).grows hwm hwpos _ (congrArg (· + d) hnow) (hreach.trans hr) hac hcd hes
          (congrArg (· + d) hnow) rfl
    · rw [stepSt_tick_quiet _ _ _ _ _ _ hm hwake]
      refine ⟨_, specStep_tick_quiet (by show s.mode.isSome = true; rw [hm]; rfl) rfl, hI.advance d fun hd => ?_⟩
      rw [hm] at hd; cases hd
      exact Nat.lt_of_not_le fun h => hwake ⟨rfl, h⟩

def runOps (cfg : Cfg) (s : St) (ops : List Op) : St := ops.foldl (stepSt cfg.r.par cfg.w) s

theorem run_ok (cfg : Cfg) (hc : Res.cfgWF cfg.r = true) (hw : 1 ≤ cfg.w.hi) (ops : List Op) :
    ∀ (s : St) (a : PS) (o c : Bool) (idx : Nat), Inv cfg.r.par s a o c → wfGo cfg.r.par cfg.w s o c ops = true →
      specGo cfg.r a idx (comp.trace cfg s ops) = .ok ∧ ∃ a' o' c', Inv cfg.r.par (runOps cfg s ops) a' o' c' := by
  induction ops with
  | nil => intro s a o c idx hI _; exact ⟨rfl, a, o, c, hI⟩
  | cons op ops ih =>
    intro s a o c idx hI hwf
    simp only [wfGo, Bool.and_eq_true] at hwf
    obtain ⟨a', hs, hI'⟩ := step_ok cfg hc hw s a o c idx op hI hwf.1
    rw [TComp.trace_cons comp step]
    simp only [specGo, step, hs]
    exact ih _ a' _ _ _ hI' hwf.2

theorem classify_some (w : WM) (c : C) (m : Mode) (h : classify w c = some m) :
    (m = .down → learned c) ∧ (m = .up → c.rDown = false ∧ c.rNext = true ∧ c.pSt = .opened) := by
  revert h
  -- of the tests of `classify` that answer `some _`, the second is the one for `down`, the fourth and fifth those for `up`
  -- (a connection kept, none kept)
  fun_cases classify w c <;> intro h <;> cases h
  case case2 hq hd =>
    exact ⟨fun _ => ⟨hd.2.1, Bool.eq_false_iff.mpr hd.2.2.1, hd.1, Bool.eq_false_iff.mpr fun x => hq (.inr (.inl x))⟩, nofun⟩
  case case4 hr hn hu | case5 hr hn _ hu =>
    exact ⟨nofun, fun _ => ⟨Bool.eq_false_iff.mpr fun x => hr (.inr x), hn, hu.2.1⟩⟩
  all_goals exact ⟨nofun, nofun⟩

theorem learned_of_down {w : WM} {c : C} {oc : Outcome} (h : Ends w c (fun x => outcome w x = oc))
    (hd : oc.mode = some .down) : Ends w c learned :=
  h.mono fun x hx => (classify_some w x .down (by rw [← hd, ← hx]; rfl)).1 rfl

/-- C09's recovery (`C09_respool_recovers_within_max`) for any state with the coupling, whatever the pool keeps -/
theorem recovers (cfg : Cfg) (_hc : Res.cfgWF cfg.r = true) (hw : 1 ≤ cfg.w.hi) (s : St) (a : PS) (o c : Bool)
    (hI : Inv cfg.r.par s a o c) (hd : s.mode = some .down) :
    s.now < s.wakeAt ∧ s.wakeAt ≤ s.now + cfg.r.maxW ∧
    (s.reach = true → ∀ sched sched' : List Nat,
      (stepSt cfg.r.par cfg.w s (.tick (s.wakeAt - s.now) sched)).mode = some .up ∧
      (obsOf (stepSt cfg.r.par cfg.w s (.tick (s.wakeAt - s.now) sched))).connects = 1 ∧
      (obsOf (stepSt cfg.r.par cfg.w s (.tick (s.wakeAt - s.now) sched))).down = false ∧
      (obsOf (stepSt cfg.r.par cfg.w s (.tick (s.wakeAt - s.now) sched))).next = some s.pools ∧
      (obsOf (stepSt cfg.r.par cfg.w s (.tick (s.wakeAt - s.now) sched))).state = .opened ∧
      (obsOf (stepSt cfg.r.par cfg.w (stepSt cfg.r.par cfg.w s (.tick (s.wakeAt - s.now) sched))
        (.req false sched'))).resp = .ok ∧
      (obsOf (stepSt cfg.r.par cfg.w (stepSt cfg.r.par cfg.w s (.tick (s.wakeAt - s.now) sched))
        (.req false sched'))).connects = (if 1 ≤ cfg.w.lo then 0 else 1) ∧
      (stepSt cfg.r.par cfg.w (stepSt cfg.r.par cfg.w s (.tick (s.wakeAt - s.now) sched))
        (.req false sched')).mode = some .up) := by
  obtain ⟨rfl, rfl⟩ := hI.of_down hd
  rcases hI.hlive rfl rfl with ⟨hm, _⟩ | ⟨_, _, _, hwk, hwm, hlt, _, hle, _⟩
  · rw [hd] at hm; cases hm
  have hmw : cfg.r.par.maxW = cfg.r.maxW := rfl
  refine ⟨hlt, by omega, ?_⟩
  intro hr sched sched'
  have hT := (ends_wake true cfg.w hw).drain sched
  obtain ⟨u1, u2, u3⟩ := (classify_some cfg.w _ .up (congrArg Outcome.mode hT)).2 rfl
  have hK := (ends_req_up true false cfg.w hw).drain sched'
  rw [show reqFails cfg.w true false = false by simp [reqFails]] at hK
  have e := settle_eq hT cfg.r.par s 1 (s.wakeAt - s.now)
  rw [stepSt_tick_wake _ _ _ _ _ hd (by omega), hr]
  generalize settle cfg.r.par cfg.w s _ 1 (s.wakeAt - s.now) = s1 at e ⊢
  rw [stepSt_req _ _ _ _ _ .up (e ▸ rfl), show s1.reach = true from e ▸ hr, settle_eq hK]
  subst e
  exact ⟨rfl, congrArg Outcome.connects hT, u1, by simp [obsOf, u2], by simp [obsOf, u1, u2, u3], congrArg Outcome.resp hK,
    (congrArg Outcome.connects hK).trans (by simp [keep]), rfl⟩

theorem inv_init (p : Par) : Inv p {} {} false false :=
  ⟨rfl, fun _ => rfl, rfl, fun _ => ⟨rfl, rfl, rfl, rfl⟩, (fun h => by cases h), (fun h => by cases h)⟩

theorem wf_parts {cfg : Cfg} {ops : List Op} (h : comp.wf cfg ops = true) :
    Res.cfgWF cfg.r = true ∧ 1 ≤ cfg.w.hi ∧ wfGo cfg.r.par cfg.w {} false false ops = true := by
  simpa [comp, cfgWF, Bool.and_eq_true, and_assoc] using h

theorem run_init {cfg : Cfg} {ops : List Op} (h : comp.wf cfg ops = true) :
    comp.spec cfg (comp.modelTrace cfg ops) = .ok ∧ ∃ a o c, Inv cfg.r.par (runOps cfg {} ops) a o c :=
  run_ok cfg (wf_parts h).1 (wf_parts h).2.1 ops {} {} false false 0 (inv_init cfg.r.par) (wf_parts h).2.2

end Scales.Pool
