import ScalesModel.Proofs.LBCalls
import ScalesModel.Adapter.ApertureHeap

/-!
  The dispatch table along one operation, and C06 "load-tracking": the aperture's `_total` is the number of
  requests dispatched and not yet completed.  `_total` moves only in `_AdjustAperture` (+1 from `_OnGet`, −1
  from `_OnPut`), the dispatch table only in a dispatch (one entry appended) and in the first completion of a
  dispatch (`step_newReqs`, in the words of the judges of Adapter/ApertureHeap.lean, which rebuild the whole
  table for C03/C04; the completion flags C06's specification rebuilds are its second column).
-/
namespace Scales.LB
open Scales.Heap Scales.Aperture Scales.LBBase

/-- the bit of a dispatch-table entry the spec rebuilds: has the dispatch completed? -/
def flagsOf (s : HS) : List Bool := s.reqs.map (·.2)

/-- `_total` is the number of open dispatches (aperture), or stays 0 (plain heap balancer) -/
def TInv (cfg : Cfg) (a : AS) : Prop := a.total = expectedTotal cfg (flagsOf a.hs)

theorem TInv.calm {cfg : Cfg} {a a' : AS} (h : TInv cfg a) (c : Calm a a') : TInv cfg a' := by
  unfold TInv flagsOf at *; rw [c.total, c.reqs]; exact h

theorem expected_append_false (cfg : Cfg) (fl : List Bool) :
    expectedTotal cfg (fl ++ [false]) = expectedTotal cfg fl + (if cfg.aperture then 1 else 0) := by
  unfold expectedTotal
  split
  · rw [List.count_append, List.count_singleton_self, Nat.cast_add, Nat.cast_one]
  · rfl

theorem expected_set_true (cfg : Cfg) (fl : List Bool) (r : Nat) (h : fl[r]? = some false) :
    expectedTotal cfg (fl.set r true) = expectedTotal cfg fl + (if cfg.aperture then -1 else 0) := by
  obtain ⟨hlt, hrf⟩ := List.getElem?_eq_some_iff.1 h
  unfold expectedTotal
  split
  · have hpos : 0 < fl.count false := List.count_pos_iff.2 (hrf ▸ List.getElem_mem hlt)
    rw [List.count_set hlt, hrf]
    simp only [beq_self_eq_true, Bool.true_beq, if_true, Bool.false_eq_true, if_false, Nat.add_zero]
    omega
  · rfl

theorem TInv.get {cfg : Cfg} {a : AS} (t : TInv cfg a) : TInv cfg (a.get cfg).1 := by
  rcases get_book cfg a with h | ⟨nid, ep, a2, u, h2, h⟩ <;> rw [h]
  · exact t
  · unfold TInv flagsOf at t ⊢
    rw [(onMove_book cfg a2 1).1, (onMove_book cfg a2 1).2, h2, List.map_append, List.map_singleton,
      expected_append_false, ← t, u.total]

theorem TInv.put {cfg : Cfg} {a : AS} (t : TInv cfg a) (r j : Nat) : TInv cfg (a.put cfg r j) := by
  rcases put_shape cfg a r j with ⟨nid, b, h, e⟩ | ⟨_, b, e⟩ <;> rw [e]
  · have hf : (a.hs.reqs.map (·.2))[r]? = some false := by rw [List.getElem?_map, h]; rfl
    unfold TInv flagsOf at t ⊢
    rw [(onMove_book cfg _ (-1)).1, (onMove_book cfg _ (-1)).2, put_open_reqs h, List.map_set,
      expected_set_true cfg _ r hf, ← t]
  · exact t

theorem set_true_of_ne_false (fl : List Bool) (r : Nat) (h : fl[r]? ≠ some false) : fl.set r true = fl := by
  by_cases hl : r < fl.length
  · have ht : fl[r] = true := by
      cases hb : fl[r]
      · exact absurd (by rw [List.getElem?_eq_getElem hl, hb]) h
      · rfl
    exact (congrArg (fl.set r) ht.symm).trans (List.set_getElem_self hl)
  · exact List.set_eq_of_length_le (Nat.le_of_not_lt hl)

theorem flags_put (reqs : List (Nat × Bool)) (r : Nat) :
    List.map (·.2) (match reqs[r]? with | some (nid, false) => reqs.set r (nid, true) | _ => reqs) =
      (reqs.map (·.2)).set r true := by
  split
  · exact List.map_set
  · rename_i h
    refine (set_true_of_ne_false _ r fun hc => ?_).symm
    rw [List.getElem?_map] at hc
    cases hr : reqs[r]? with
    | none => rw [hr] at hc; cases hc
    | some p =>
      obtain ⟨nid, b⟩ := p
      rw [hr] at hc
      cases b
      · exact h nid hr
      · cases hc

theorem get_newReqs (cfg : Cfg) (a : AS) :
    (a.get cfg).1.hs.reqs = a.hs.reqs ++ newReqs [ResV.ofGet (a.get cfg).2] := by
  rw [(get_reqs cfg a).1]
  cases (a.get cfg).2 <;> rfl

/-! "The table grows by the dispatches made" holds along calm moves and along a request, and composes (`Calls.fold`). -/

theorem grows_calm {a a' : AS} (c : Calm a a') : a'.hs.reqs = a.hs.reqs ++ [] := c.reqs.trans (List.append_nil _).symm

theorem newReqs_append (a b : List ResV) : newReqs (a ++ b) = newReqs a ++ newReqs b := by
  unfold newReqs; exact List.filterMap_append

theorem newReqs_filter_ne (l : List ResV) : newReqs (l.filter (· ≠ .queued)) = newReqs l :=
  filterMap_flushed _ rfl l

theorem grows_trans {a b c : AS} {l l' : List ResV} (h1 : b.hs.reqs = a.hs.reqs ++ newReqs l)
    (h2 : c.hs.reqs = b.hs.reqs ++ newReqs l') : c.hs.reqs = a.hs.reqs ++ newReqs (l ++ l') := by
  rw [h2, h1, List.append_assoc, newReqs_append]

theorem step_newReqs (cfg : Cfg) (lb : St) (op : Op) :
    (stepSt cfg lb op).1.sub.hs.reqs = reqsPut lb.sub.hs.reqs op ++ newReqs (stepSt cfg lb op).2 := by
  refine ((stepSt_calls lb op).fold (fun a l a' => a'.hs.reqs = a.hs.reqs ++ newReqs l) grows_calm (get_newReqs cfg)
    (fun _ => (List.append_nil _).symm) grows_trans).trans (congrArg₂ (· ++ ·) ?_ (newReqs_filter_ne _))
  cases op with
  | put r j e => exact put_reqs cfg (feed lb e).sub r j
  | chan nid st => exact (setChan_calm (feed lb ⟨[], []⟩).sub nid st).reqs
  | _ => rfl

theorem reqsPut_flags (reqs : List (Nat × Bool)) (op : Op) :
    (reqsPut reqs op).map (·.2) = flagsPut (reqs.map (·.2)) op := by
  cases op with
  | put r _ _ => exact flags_put reqs r
  | _ => rfl

theorem newReqs_flags (rs : List ResV) : (newReqs rs).map (·.2) = nodeFlags rs := by
  unfold newReqs nodeFlags
  rw [List.map_filterMap]
  exact List.filterMap_congr fun r _ => by cases r <;> rfl

theorem total_step (cfg : Cfg) (lb : St) (op : Op) :
    flagsOf (stepSt cfg lb op).1.sub.hs =
      flagsAfter (flagsOf lb.sub.hs) op (obsOf (stepSt cfg lb op).1 (stepSt cfg lb op).2) ∧
    (TInv cfg lb.sub → TInv cfg (stepSt cfg lb op).1.sub) := by
  constructor
  · -- the flags are the second column of the dispatch table
    unfold flagsOf flagsAfter
    rw [step_newReqs, List.map_append, reqsPut_flags, newReqs_flags]
    rfl
  · intro t
    refine (stepSt_calls lb op).fold (fun a _ a' => TInv cfg a → TInv cfg a')
      (fun c t => t.calm c) (fun a t => t.get) (fun _ t => t) (fun h1 h2 t => h2 (h1 t)) ?_
    cases op with
    | put r j e => exact TInv.put (a := (feed lb e).sub) t r j
    | chan nid st => exact TInv.calm (a := (feed lb ⟨[], []⟩).sub) t (setChan_calm _ nid st)
    | _ => exact t

end Scales.LB
