/-
  Proofs/WatermarkProcs.lean — C07: the pool's procedures (`Close()`, `_Release`, `_Get` with its `_Dequeue`)
  keep the invariant, emit only events the specification's per-event clauses accept, and leave alone
  what `Frame` / `Same` say; `_ProcessQueue` is given by its two equations (`procQueue_skip`,
  `procQueue_skip_all`).
-/
import ScalesModel.Proofs.WatermarkInv
import ScalesModel.Proofs.VerdictLemmas

namespace Scales.Watermark

theorem evsCheck_append (cfg : Cfg) (hf gate : Bool) (ev : Ev) :
    ∀ (l : List Ev) (v : View), evsCheck cfg hf gate v (l ++ [ev]) = .ok ↔
      (evsCheck cfg hf gate v l = .ok ∧ evCheck cfg hf gate (l.foldl View.apply v) ev = .ok) := by
  intro l
  induction l with
  | nil => intro v; simp [evsCheck, Verdict.and_eq_ok]
  | cons e l ih => intro v; simp only [List.cons_append, evsCheck, Verdict.and_eq_ok, List.foldl_cons, ih, and_assoc]

def EvOk (cfg : Cfg) (hf gate : Bool) (s : St) : Prop := evsCheck cfg hf gate s.base s.evs = .ok

theorem evOk_emit {cfg : Cfg} {hf gate : Bool} {s : St} {ev : Ev} (h : EvOk cfg hf gate s)
    (hev : evCheck cfg hf gate s.view ev = .ok) : EvOk cfg hf gate (s.emit ev) :=
  (evsCheck_append cfg hf gate ev s.evs s.base).2 ⟨h, hev⟩

section evCheck
variable {cfg : Cfg} {hf gate : Bool} {v : View}

theorem evCheck_closed (sid : Nat) : evCheck cfg hf gate v (.closed sid) = .ok := rfl
theorem evCheck_rel (sid : Nat) : evCheck cfg hf gate v (.rel sid) = .ok := rfl

theorem evCheck_done {c : Nat} {st : CStat} (out : Outcome) (h : v.calls[c]? = some st)
    (ha : st.answerable = true) : evCheck cfg hf gate v (.done c out) = .ok := by
  simp only [evCheck, h]
  match st, ha with
  | .arriving, _ | .pending, _ | .released, _ | .connecting _, _ => rfl

theorem evCheck_queued {c : Nat} (h : v.calls[c]? = some .arriving) :
    evCheck cfg hf gate v (.queued c) = .ok := by
  simp [evCheck, h]

/-- a connection that nobody holds, as `evCheck` looks it up -/
theorem sinks_of_free {sid : Nat} (hlt : sid < v.sinks.length) (hfree : holderOf v sid = none) :
    ∃ k, v.sinks[sid]? = some k ∧ k.lent = none :=
  ⟨_, sinks_get hlt, (holderOf_sinkAt v sid).symm.trans hfree⟩

theorem evCheck_sent {sid c : Nat} (hlt : sid < v.sinks.length) (hfree : holderOf v sid = none)
    (hst : v.calls[c]? = some .arriving ∨ v.calls[c]? = some .pending)
    (h1 : hf = true → oldestPending v = some c)
    (h2 : hf = false → gate = true → pendingIds v = []) :
    evCheck cfg hf gate v (.sent sid c) = .ok := by
  obtain ⟨k, hk1, hk2⟩ := sinks_of_free hlt hfree
  have hstart : startable v c = true := by rcases hst with h | h <;> simp [startable, h]
  simp only [evCheck, hk1, hk2, hstart]
  cases hf with
  | true => simp [h1 rfl]
  | false =>
    cases gate with
    | true => simp [h2 rfl rfl]
    | false => simp

theorem evCheck_connecting {sid c : Nat} (hlt : sid < v.sinks.length) (hfree : holderOf v sid = none)
    (hst : v.calls[c]? = some .arriving) (h2 : hf = false → gate = true → pendingIds v = []) :
    evCheck cfg hf gate v (.connecting sid c) = .ok := by
  obtain ⟨k, hk1, hk2⟩ := sinks_of_free hlt hfree
  simp only [evCheck, hk1, hk2, hst]
  cases hf with
  | true => simp
  | false =>
    cases gate with
    | true => simp [h2 rfl rfl]
    | false => simp

theorem evCheck_sent_opened {sid c : Nat} (ho : isOpening v sid = true) (hl : holderOf v sid = some c) :
    evCheck cfg hf gate v (.sent sid c) = .ok := by
  have hk := sinks_get (holderOf_lt hl)
  rw [isOpening_eq, Bool.and_eq_true, openFlag_sinkAt] at ho
  rw [holderOf_sinkAt] at hl
  simp [evCheck, hk, hl, ho.1]

theorem evCheck_created {ok : Bool}
    (h : (aliveIds (v.apply (.created v.sinks.length ok))).length ≤ cfg.max) :
    evCheck cfg hf gate v (.created v.sinks.length ok) = .ok := by
  simp [evCheck, Nat.not_lt.2 h]

end evCheck

/-- the invariant, and the events emitted so far in this operation pass the per-event clauses under the flags
    `hf` (inside a deferred hand-off) and `gate` (the pool has never been seen closed); `ev` reads `s.base` and
    `s.evs` only, so a state that differs in the pool's own lists takes it over as it is -/
structure MInv (cfg : Cfg) (hf gate : Bool) (h : Option Nat) (s : St) : Prop where
  inv : Inv cfg h s
  ev : EvOk cfg hf gate s

/-- no event has been checked yet, so this holds for whatever the two flags of the per-event clauses are
    (a caller that wants only the invariant passes `false false`) -/
theorem Reached.minv {cfg : Cfg} {s : St} (hr : Reached cfg s) (hf gate : Bool) : MInv cfg hf gate none s :=
  ⟨hr.inv, by unfold EvOk; rw [hr.evs]; rfl⟩

def isDoneEv (c : Nat) : Ev → Bool
  | .done c' _ => c' == c
  | _ => false

def doneCount (c : Nat) (evs : List Ev) : Nat := evs.countP (isDoneEv c)

/-- responses already delivered to `c` in this operation, plus one if `c` is still waiting:
    never increases while the pool's procedures run -/
def pot (s : St) (c : Nat) : Nat :=
  doneCount c s.evs + (if s.view.calls[c]? = some .pending then 1 else 0)

theorem doneCount_append (c : Nat) (l : List Ev) (ev : Ev) :
    doneCount c (l ++ [ev]) = doneCount c l + (if isDoneEv c ev then 1 else 0) := by
  unfold doneCount; rw [List.countP_append, List.countP_singleton]

theorem doneCount_pos_of_mem {c : Nat} {out : Outcome} {evs : List Ev} (h : Ev.done c out ∈ evs) :
    1 ≤ doneCount c evs :=
  List.countP_pos_iff.2 ⟨_, h, by simp [isDoneEv]⟩

theorem pot_emit_other (s : St) (ev : Ev) (c : Nat) (h1 : isDoneEv c ev = false)
    (h2 : (s.view.apply ev).calls[c]? = s.view.calls[c]?) : pot (s.emit ev) c = pot s c := by
  unfold pot
  rw [view_emit, h2, emit_evs, doneCount_append, h1]; rfl

theorem pot_emit_done_pending (s : St) (c : Nat) (out : Outcome) (hc : s.view.calls[c]? = some .pending) :
    pot (s.emit (.done c out)) c = pot s c := by
  have hafter : (s.view.apply (.done c out)).calls[c]? = some .done := by
    rw [calls_done, if_pos ⟨rfl, getElem?_lt hc⟩, doneStat, hc]
  have hdone : isDoneEv c (.done c out) = true := beq_self_eq_true c
  unfold pot
  rw [view_emit, hafter, hc, emit_evs, doneCount_append, hdone]; rfl

/-- no `raised` event: no exception has escaped -/
def NR (l : List Ev) : Prop := ∀ e ∈ l, isRaised e = false

theorem NR_nil : NR [] := nofun

theorem NR_append {l : List Ev} {ev : Ev} (h : NR l) (hev : isRaised ev = false) : NR (l ++ [ev]) :=
  fun e he => (List.mem_append.1 he).elim (h e) fun h1 => List.mem_singleton.1 h1 ▸ hev

theorem NR_of_nil {l : List Ev} (h : l = []) : NR l := h ▸ NR_nil

theorem filter_of_NR {l : List Ev} (h : NR l) : l.filter isRaised = [] :=
  List.filter_eq_nil_iff.2 fun e he => by simp [h e he]

/-- what every procedure leaves alone -/
structure Frame (s s' : St) : Prop where
  evs : ∃ tail, s'.evs = s.evs ++ tail
  base : s'.base = s.base
  keep : ∀ (j : Nat) (st : CStat), s.view.calls[j]? = some st → st ≠ .pending → s'.view.calls[j]? = some st
  pclosed : s.pstate = .closed → s'.pstate = .closed
  flag : s'.everClosed = true → s.everClosed = true ∨ s'.pstate = .closed
  pot : ∀ c : Nat, pot s' c ≤ pot s c
  nr : NR s.evs → NR s'.evs

/-- same picture and events, other lists: only the two conditions on `pstate` and `everClosed` are left -/
theorem Frame.of_eq {s s' : St} (hb : s'.base = s.base) (he : s'.evs = s.evs)
    (hp : s.pstate = .closed → s'.pstate = .closed)
    (hf : s'.everClosed = true → s.everClosed = true ∨ s'.pstate = .closed) : Frame s s' := by
  have hv := view_congr hb he
  exact ⟨⟨[], by rw [he, List.append_nil]⟩, hb, fun _ _ h _ => hv ▸ h, hp, hf,
    fun c => Nat.le_of_eq (by unfold Watermark.pot; rw [hv, he]), fun h => he ▸ h⟩

theorem Frame.refl (s : St) : Frame s s := .of_eq rfl rfl id .inl

theorem Frame.trans {a b c : St} (h1 : Frame a b) (h2 : Frame b c) : Frame a c := by
  obtain ⟨t1, e1⟩ := h1.evs
  obtain ⟨t2, e2⟩ := h2.evs
  exact ⟨⟨t1 ++ t2, by rw [e2, e1, List.append_assoc]⟩, h2.base.trans h1.base,
    fun j st hj hne => h2.keep j st (h1.keep j st hj hne) hne, fun h => h2.pclosed (h1.pclosed h),
    fun h => (h2.flag h).elim (fun h3 => (h1.flag h3).imp_right h2.pclosed) Or.inr,
    fun x => Nat.le_trans (h2.pot x) (h1.pot x), fun h => h2.nr (h1.nr h)⟩

theorem Frame.mem_evs {s s' : St} (h : Frame s s') {e : Ev} (he : e ∈ s.evs) : e ∈ s'.evs := by
  obtain ⟨t, ht⟩ := h.evs; rw [ht]; exact List.mem_append_left _ he

theorem frame_emit_quiet (s : St) {ev : Ev} (hc : (s.view.apply ev).calls = s.view.calls)
    (hd : ∀ c, isDoneEv c ev = false) (hr : isRaised ev = false) : Frame s (s.emit ev) :=
  ⟨⟨[ev], rfl⟩, rfl, fun j st h _ => by rw [view_emit, hc]; exact h, id, Or.inl,
   fun c => Nat.le_of_eq (pot_emit_other s _ c (hd c) (by rw [hc])), fun h => NR_append h hr⟩

theorem frame_emit_done_pending (s : St) (c : Nat) (out : Outcome) (hc : s.view.calls[c]? = some .pending) :
    Frame s (s.emit (.done c out)) := by
  refine ⟨⟨[.done c out], rfl⟩, rfl, fun j st h hne => ?_, id, Or.inl, fun c' => Nat.le_of_eq ?_, fun h => NR_append h rfl⟩
  · rw [view_emit, calls_done, if_neg]; · exact h
    rintro ⟨rfl, _⟩; rw [hc] at h; cases h; exact hne rfl
  · by_cases hcc : c' = c
    · rw [hcc]; exact pot_emit_done_pending s c out hc
    · exact pot_emit_other _ _ _ (by simp [isDoneEv, Ne.symm hcc]) (by rw [calls_done, if_neg fun h => hcc h.1])

section minv
variable {cfg : Cfg} {hf gate : Bool} {h : Option Nat} {s : St}

theorem MInv.closed (hm : MInv cfg hf gate h s) (sid : Nat) : MInv cfg hf gate h (s.emit (.closed sid)) :=
  ⟨hm.inv.emit_closed sid, evOk_emit hm.ev (evCheck_closed sid)⟩

theorem MInv.done (hm : MInv cfg hf gate h s) (c : Nat) (out : Outcome) {st : CStat}
    (hc : s.view.calls[c]? = some st) (ha : st.answerable = true) : MInv cfg hf gate h (s.emit (.done c out)) :=
  ⟨hm.inv.emit_done c out hc ha, evOk_emit hm.ev (evCheck_done out hc ha)⟩

theorem MInv.rel_lent {sid c : Nat} (hm : MInv cfg hf gate none s) (hl : holderOf s.view sid = some c) :
    MInv cfg hf gate (some sid) (s.emit (.rel sid)) :=
  ⟨hm.inv.emit_rel_lent hl, evOk_emit hm.ev (evCheck_rel sid)⟩

theorem MInv.rel_free {sid : Nat} (hm : MInv cfg hf gate (some sid) s) :
    MInv cfg hf gate (some sid) (s.emit (.rel sid)) :=
  ⟨hm.inv.emit_rel_free, evOk_emit hm.ev (evCheck_rel sid)⟩

end minv

/-- what `_Dequeue`, `_Get` and the discarding of the cache leave alone -/
structure Same (s s' : St) : Prop where
  frame : Frame s s'
  waiters : s'.waiters = s.waiters
  tasks : s'.tasks = s.tasks
  pstate : s'.pstate = s.pstate
  everClosed : s'.everClosed = s.everClosed
  calls : ∀ j : Nat, s'.view.calls[j]? = s.view.calls[j]?

/-- the cache and the counter are all of the pool's own state that `Same` lets change -/
theorem Same.lists (s : St) (c : List Nat) (n : Nat) : Same s { s with cache := c, size := n } :=
  ⟨.of_eq rfl rfl id .inl, rfl, rfl, rfl, rfl, fun _ => rfl⟩

theorem Same.refl (s : St) : Same s s := .lists s s.cache s.size

theorem Same.trans {a b c : St} (h1 : Same a b) (h2 : Same b c) : Same a c :=
  ⟨h1.frame.trans h2.frame, h2.waiters.trans h1.waiters, h2.tasks.trans h1.tasks,
   h2.pstate.trans h1.pstate, h2.everClosed.trans h1.everClosed, fun j => (h2.calls j).trans (h1.calls j)⟩

theorem same_emit_quiet (s : St) {ev : Ev} (hc : (s.view.apply ev).calls = s.view.calls)
    (hd : ∀ c, isDoneEv c ev = false) (hr : isRaised ev = false) : Same s (s.emit ev) :=
  ⟨frame_emit_quiet s hc hd hr, rfl, rfl, rfl, rfl, fun j => by rw [view_emit, hc]⟩

theorem same_discard (s : St) (sid : Nat) : Same s (discard s sid) :=
  same_emit_quiet s rfl (fun _ => rfl) rfl

/-- every waiting call of `v` has been failed in `evs` -/
def Failed (v : View) (evs : List Ev) : Prop :=
  ∀ c : Nat, v.calls[c]? = some .pending → Ev.done c .serviceClosed ∈ evs

theorem Failed.anti {v v' : View} {evs : List Ev} (h : Failed v evs)
    (hv : ∀ c : Nat, v'.calls[c]? = some .pending → v.calls[c]? = some .pending) : Failed v' evs :=
  fun c hc => h c (hv c hc)

theorem Failed.append {v : View} {evs : List Ev} (h : Failed v evs) (l : List Ev) : Failed v (evs ++ l) :=
  fun c hc => List.mem_append_left l (h c hc)

theorem failWaiters_spec {cfg : Cfg} {hf gate : Bool} {h : Option Nat} (l : List Nat) :
    ∀ s : St, MInv cfg hf gate h s →
      MInv cfg hf gate h (failWaiters s l) ∧ Frame s (failWaiters s l) ∧
      (failWaiters s l).waiters = s.waiters ∧
      (∀ c ∈ l, s.view.calls[c]? = some .pending → Ev.done c .serviceClosed ∈ (failWaiters s l).evs) := by
  induction l with
  | nil => exact fun s hm => ⟨hm, Frame.refl s, rfl, nofun⟩
  | cons c l ih =>
    intro s hm
    unfold failWaiters
    by_cases hp : s.stat c = some .pending
    · rw [if_pos hp]
      obtain ⟨a1, a2, a3, a5⟩ := ih _ (hm.done c .serviceClosed hp rfl)
      refine ⟨a1, (frame_emit_done_pending s c _ hp).trans a2, a3, fun c' hc' hpc' => ?_⟩
      -- `c` itself has just been failed; any other call waits as before
      by_cases hcc : c' = c
      · exact hcc ▸ a2.mem_evs (List.mem_append_right _ (List.mem_singleton_self _))
      · refine a5 c' ((List.mem_cons.1 hc').resolve_left hcc) ?_
        rw [view_emit, calls_done, if_neg fun h => hcc h.1]; exact hpc'
    · rw [if_neg hp]
      obtain ⟨a1, a2, a3, a5⟩ := ih s hm
      exact ⟨a1, a2, a3, fun c' hc' hpc' => (List.mem_cons.1 hc').elim (fun h => absurd (h ▸ hpc') hp) (a5 c' · hpc')⟩

theorem closePool_spec {cfg : Cfg} {hf gate : Bool} {h : Option Nat} {s : St}
    (hinv : Inv cfg h { s with pstate := .closed, everClosed := true }) (hev : EvOk cfg hf gate s) :
    MInv cfg hf gate h (closePool s) ∧ Frame s (closePool s) ∧
    (closePool s).waiters = s.waiters ∧ (closePool s).pstate = .closed ∧ Failed s.view (closePool s).evs := by
  unfold closePool
  have f1 : Frame s { s with pstate := .closed, everClosed := true } :=
    .of_eq rfl rfl (fun _ => rfl) fun _ => .inr rfl
  -- discarding the cache: each `_DiscardSink` keeps both
  obtain ⟨b1, b2⟩ := List.foldlRecOn s.cache discard
    (motive := fun x => MInv cfg hf gate h x ∧ Same { s with pstate := .closed, everClosed := true } x)
    ⟨⟨hinv, hev⟩, .refl _⟩ fun x a sid _ => ⟨a.1.closed sid, a.2.trans (same_discard x sid)⟩
  obtain ⟨c1, c2, c3, c5⟩ := failWaiters_spec _ _ b1
  exact ⟨c1, f1.trans (b2.frame.trans c2), c3.trans b2.waiters, c2.pclosed b2.pstate,
    fun c hc => c5 c (by rw [b2.waiters]; exact hinv.pendW c hc) ((b2.calls c).trans hc)⟩

theorem discard_hand {cfg : Cfg} {hf gate : Bool} {s : St} {sid : Nat} (hm : MInv cfg hf gate (some sid) s)
    (hfull : s.everClosed = false → s.waiters = []) :
    MInv cfg hf gate none (discard { s with size := s.size - 1 } sid) ∧
    Same s (discard { s with size := s.size - 1 } sid) :=
  ⟨⟨drop_hand (hm.inv.emit_closed sid) (isAlive_after_closed s sid) hfull,
    evOk_emit (s := { s with size := s.size - 1 }) hm.ev (evCheck_closed sid)⟩,
   (Same.lists s s.cache (s.size - 1)).trans (same_discard _ sid)⟩

/-- `_Release`, from the state after its `rel` event (`hm`: whoever calls it says why that event keeps the invariant,
    `MInv.rel_lent` or `MInv.rel_free`); the last clause is the release of a dead connection on a pool that is not closed -/
theorem release_spec {cfg : Cfg} {hf gate : Bool} {s0 : St} {sid : Nat}
    (hm : MInv cfg hf gate (some sid) (s0.emit (.rel sid))) :
    MInv cfg hf gate none (release cfg s0 sid) ∧ Frame (s0.emit (.rel sid)) (release cfg s0 sid) ∧
    ((s0.emit (.rel sid)).pstate ≠ .closed → isAlive (s0.emit (.rel sid)).view sid = false →
      (release cfg s0 sid).pstate = .closed ∧ Failed (s0.emit (.rel sid)).view (release cfg s0 sid).evs) := by
  unfold release; dsimp only
  generalize s0.emit (.rel sid) = s at hm ⊢
  have halive : ∀ {p : Prop}, isAlive s.view sid = true → isAlive s.view sid = false → p :=
    fun h1 h2 => by rw [h1] at h2; cases h2
  by_cases hc : s.pstate = .closed
  · rw [if_pos hc]
    have := discard_hand hm fun he => by rw [hm.inv.closedFlag hc] at he; cases he
    exact ⟨this.1, this.2.frame, fun h => absurd hc h⟩
  rw [if_neg hc]
  by_cases hd : s.alive sid = false
  · rw [if_pos hd]
    obtain ⟨a1, a2, _, a4, a5⟩ := closePool_spec (cfg := cfg) (hf := hf) (gate := gate)
      (s := { s with size := s.size - 1 }) (drop_hand (set_closed hm.inv) hd nofun) hm.ev
    exact ⟨a1, (Frame.of_eq (s := s) (s' := { s with size := s.size - 1 }) rfl rfl id .inl).trans a2, fun _ _ => ⟨a4, a5⟩⟩
  rw [if_neg hd]
  have ha : isAlive s.view sid = true := (Bool.not_eq_false _).mp hd
  by_cases hw : s.waiters.isEmpty = false
  · rw [if_pos hw]
    exact ⟨⟨put_task hm.inv, hm.ev⟩, .of_eq rfl rfl id .inl, fun _ => halive ha⟩
  rw [if_neg hw]
  have hw' : s.waiters = [] := by simpa using hw
  by_cases hmin : s.size ≤ cfg.min
  · rw [if_pos hmin]
    exact ⟨⟨put_cache hm.inv hw' hmin, hm.ev⟩, .of_eq rfl rfl id .inl, fun _ => halive ha⟩
  · rw [if_neg hmin]
    have := discard_hand hm fun _ => hw'
    exact ⟨this.1, this.2.frame, fun _ => halive ha⟩

/-- `_Get`, by induction on the cache: a dead connection at its head is discarded and `_Get` starts again -/
theorem get_spec {cfg : Cfg} {hf gate : Bool} (ok : Bool) {l : List Nat} :
    ∀ {s : St}, s.cache = l → MInv cfg hf gate none s → ∀ s1 r, get cfg s ok = (s1, r) → Same s s1 ∧
      (match r with
       | .sink sid _ => MInv cfg hf gate (some sid) s1 ∧ (s1.everClosed = false → s1.waiters = [])
       | .queue => MInv cfg hf gate none s1 ∧ s1.waiters.length + 1 ≤ cfg.maxq ∧ s1.cache = [] ∧ cfg.max ≤ s1.size
       | .fail => MInv cfg hf gate none s1) := by
  induction l with
  | nil =>
    intro s hc hm s1 r hg
    unfold get at hg; rw [hc, dequeue] at hg
    simp only at hg
    split at hg
    · next hlt =>
      cases hg
      have hi := hm.inv.emit_created hlt ok
      refine ⟨(Same.lists s s.cache (s.size + 1)).trans
          (same_emit_quiet _ rfl (fun _ => rfl) rfl), ⟨hi, ?_⟩, fun he => ?_⟩
      · refine evOk_emit (s := { s with size := s.size + 1 }) hm.ev (evCheck_created ?_)
        have := Nat.le_trans hi.acct.aliveIds_le hi.size_le
        rw [view_emit] at this
        exact this
      · by_contra hne
        exact Nat.lt_irrefl _ (Nat.lt_of_lt_of_le hlt (hm.inv.full he hne))
    · next hlt =>
      split at hg <;> cases hg
      · exact ⟨.refl s, hm⟩
      · next hq => exact ⟨.refl s, hm, Nat.le_of_not_lt hq, hc, Nat.le_of_not_lt hlt⟩
  | cons sid rest ih =>
    intro s hc hm s1 r hg
    have hw : s.waiters = [] := by
      by_contra hne
      have := hm.inv.cacheW hne
      rw [hc] at this; cases this
    have h1 : MInv cfg hf gate (some sid) { s with cache := rest } := ⟨take_cache hm.inv hc, hm.ev⟩
    unfold get at hg; rw [hc, dequeue] at hg
    by_cases ha : s.alive sid = true
    · rw [if_pos ha] at hg; cases hg
      exact ⟨.lists s rest s.size, h1, fun _ => hw⟩
    · -- what is left of `hg` is `get` on the state after the discard, whose cache is `rest`
      rw [if_neg ha] at hg
      obtain ⟨b1, b2⟩ := discard_hand h1 fun _ => hw
      obtain ⟨a1, a2⟩ := ih rfl b1 s1 r hg
      exact ⟨((Same.lists s rest s.size).trans b2).trans a1, a2⟩

theorem procQueue_skip (cfg : Cfg) (sid c : Nat) (w2 : List Nat) :
    ∀ (w1 : List Nat) (s : St), (∀ x ∈ w1, s.stat x ≠ some .pending) → s.stat c = some .pending →
      procQueue cfg s sid (w1 ++ c :: w2) = ({ s with waiters := w2 }).emit (.sent sid c) := by
  intro w1
  induction w1 with
  | nil => intro s _ hc; rw [List.nil_append, procQueue, if_pos hc]
  | cons x w1 ih =>
    intro s hx hc
    rw [List.cons_append, procQueue, if_neg (hx x List.mem_cons_self),
      ih { s with waiters := w1 ++ c :: w2 } (fun y hy => hx y (List.mem_cons_of_mem _ hy)) hc]

theorem procQueue_skip_all (cfg : Cfg) (sid : Nat) :
    ∀ (w1 : List Nat) (s : St), s.waiters = w1 → (∀ x ∈ w1, s.stat x ≠ some .pending) →
      procQueue cfg s sid w1 = release cfg { s with waiters := [] } sid := by
  intro w1
  induction w1 with
  | nil => intro s hw _; rw [procQueue, ← hw]
  | cons x w1 ih =>
    intro s hw hx
    rw [procQueue, if_neg (hx x List.mem_cons_self)]
    exact ih { s with waiters := w1 } rfl fun y hy => hx y (List.mem_cons_of_mem _ hy)

end Scales.Watermark
