/-
  Proofs/ResMuxFacts.lean — consequences of the invariant and the coupling of the ThriftMux chain
  model for reachable states: the clauses of C09, stated on the model.
-/
import ScalesModel.Proofs.ResMuxSpec
import ScalesModel.Proofs.MuxTLemmas
namespace Scales.ResMux
open Scales.Transport
open Scales.MuxT
open Scales.Res (Par nextWait Grows)

theorem ph_of_cfg (c : Cfg) (h : cfgWF c = true) : PH c.par := by
  simp only [cfgWF, Bool.and_eq_true] at h
  have hp := Res.cfg_ok c.res h.1
  exact ⟨hp.init_pos, hp.init_le, hp.grows⟩

theorem cpl_init (p : P) : Cpl p {} {} :=
  ⟨rfl, rfl, rfl, rfl, rfl, rfl, fun hx => absurd rfl hx, fun hx => absurd rfl hx, nofun, nofun⟩

theorem wf_parts {cfg : Cfg} {ops : List Op} (h : comp.wf cfg ops = true) :
    PH cfg.par ∧ wfGo cfg.par {} false false [] ops = true := by
  have h' : cfgWF cfg = true ∧ wfGo cfg.par {} false false [] ops = true := by
    simpa [comp, Bool.and_eq_true] using h
  exact ⟨ph_of_cfg cfg h'.1, h'.2⟩

theorem run_init {cfg : Cfg} (ops more : List Op) (h : comp.wf cfg (ops ++ more) = true) :
    ∃ a' idx', comp.spec cfg (comp.modelTrace cfg (ops ++ more)) =
        specGo cfg a' idx' (comp.trace cfg (runOps cfg.par {} ops) more) ∧
      GInv cfg.par (runOps cfg.par {} ops) (ops.any isOpn) (ops.any isClose) ∧
      if ops.any isClose then a'.closed = true else Cpl cfg.par (runOps cfg.par {} ops) a' :=
  run_ok (wf_parts h).1 more ops {} {} false false [] 0 (ginv_init cfg.par) (cpl_init cfg.par) (wf_parts h).2

theorem model_satisfies_spec (cfg : Cfg) (ops : List Op) (h : comp.wf cfg ops = true) :
    comp.spec cfg (comp.modelTrace cfg ops) = .ok := by
  obtain ⟨_, _, e, _⟩ := run_init ops [] (by rwa [List.append_nil])
  rwa [List.append_nil] at e

theorem reach_inv (cfg : Cfg) (ops : List Op) (h : comp.wf cfg ops = true) :
    CInv cfg.par true (runOps cfg.par {} ops) := by
  obtain ⟨_, _, _, g, _⟩ := run_init ops [] (by rwa [List.append_nil])
  exact g.inv

theorem absorb_dels (p : P) (s : St) (t' : MuxT.St) (o : MuxT.Out) :
    ∀ d ∈ o.eff.dels, (d.1, cvt d.2) ∈ (absorb p s t' o).2.dels := fun d hd =>
  List.mem_map.mpr ⟨d, List.mem_append_left _ hd, rfl⟩

/-- the Tping is on the wire -/
def tOk1 : MuxT.St := { tOk with sl := .waitQ }
/-- the header of the peer's first frame has been read -/
def tOk2 : MuxT.St := { tOk1 with rl := .body }
/-- that frame was the Rping: open -/
def tUp : MuxT.St :=
  { cstate := .opened, hasOpenResult := true, opening := false, openRes := .ok, tagMap := [], sendQ := [],
    sl := .waitQ, rl := .hdr, pingLoop := true, pingWait := false, pending := [] }

theorem tOk_wr : tOk.wr .ok = (tOk1, { sent := [.ping] }) := rfl
theorem tOk1_hdr : tOk1.burst [(.ok, .junk)] = (tOk2, {}) := rfl
theorem tOk2_rping : tOk2.burst [(.ok, .rping)] = (tUp, {}) := rfl

theorem tinv_tUp : TInv tUp := ⟨by simp [Inv0, tUp], rfl, tcore_opened rfl rfl rfl nofun⟩

theorem doTick_wake (p : P) (hp : PH p) (s : St) (wk w : Nat) (h : CInv p true s)
    (hrg : s.rg = .sleep wk w) (hr : s.reach = true) :
    (doTick p s (wk - s.now)).1.tr = tOk ∧ (doTick p s (wk - s.now)).1.rg = .opening w ∧
    (doTick p s (wk - s.now)).1.down = true ∧ (doTick p s (wk - s.now)).1.sub = false ∧
    (doTick p s (wk - s.now)).2.conns = 1 := by
  obtain ⟨_, s1, _⟩ := h.sl wk w hrg
  have hlt := s1 rfl
  obtain ⟨hdn, _, hsub⟩ := h.fail_fast (by rw [hrg]; nofun)
  obtain ⟨s2, c, dr, e, c2, z⟩ := doTick_front (d := wk - s.now) hp h
    (fun wk' w' hx => by
      rw [hrg] at hx; injection hx with e1 _
      exact e1 ▸ Nat.le_of_eq (Nat.add_sub_cancel' (Nat.le_of_lt hlt)))
  obtain ⟨_, _, _, _, rfl⟩ := dr.deaf hsub (by rw [hrg]; nofun)
  rcases tickWake_cases p c2 with ⟨wk', w', hr', _, e'⟩ | ⟨c3, _⟩
  · cases hrg.symm.trans hr'
    rw [e, e', resWake_up]
    · exact ⟨rfl, rfl, hdn, hsub, by show c.conns + 1 = 1; rw [z]⟩
    · exact hr
  · exact absurd ((c3.sl wk w hrg).2.1 rfl)
      (Nat.not_lt.mpr (Nat.le_of_eq (Nat.add_sub_cancel' (Nat.le_of_lt hlt)).symm))

theorem absorb_handshake (p : P) (s : St) (t' : MuxT.St) (o : MuxT.Out) (w : Nat) (hrg : s.rg = .opening w)
    (hsub : s.sub = false) (h2 : t'.openRes = .pending) :
    (absorb p s t' o).1.tr = t' ∧ (absorb p s t' o).1.rg = .opening w ∧ (absorb p s t' o).1.down = s.down ∧
    (absorb p s t' o).1.sub = false := by
  rw [absorb_quiet (.inr hsub) (fun _ _ => h2), settle_nopend p s t' (fun _ => h2)]
  exact ⟨rfl, hrg, rfl, hsub⟩

/-- In a reachable fail-fast state whose retry greenlet is asleep: the wake instant is at most one
    maximum interval ahead; if the endpoint accepts connections then, the greenlet connects at
    that instant; and if the peer then takes the Tping and answers it, the resurrector installs
    the new transport, leaves fail-fast mode and reports Open, and the next request is accepted,
    entered in the tag map and queued for transmission. -/
theorem recovers (p : P) (hp : PH p) (s : St) (h : CInv p true s) (wk w : Nat) (hrg : s.rg = .sleep wk w) :
    s.now < wk ∧ wk ≤ s.now + p.r.maxW ∧
    (s.reach = true →
      (doTick p s (wk - s.now)).2.conns = 1 ∧
      (doBurst p (doBurst p (doWr p (doTick p s (wk - s.now)).1 .ok).1 [(.ok, .junk)]).1 [(.ok, .rping)]).1.down = false ∧
      (doBurst p (doBurst p (doWr p (doTick p s (wk - s.now)).1 .ok).1 [(.ok, .junk)]).1 [(.ok, .rping)]).1.inst = true ∧
      stateOf (doBurst p (doBurst p (doWr p (doTick p s (wk - s.now)).1 .ok).1 [(.ok, .junk)]).1 [(.ok, .rping)]).1 = .opened ∧
      ∀ id,
        (doReq p (doBurst p (doBurst p (doWr p (doTick p s (wk - s.now)).1 .ok).1 [(.ok, .junk)]).1 [(.ok, .rping)]).1 id).2.dels = [] ∧
        (tagOf id, id) ∈ (doReq p (doBurst p (doBurst p (doWr p (doTick p s (wk - s.now)).1 .ok).1 [(.ok, .junk)]).1 [(.ok, .rping)]).1 id).1.tr.tagMap ∧
        Item.req (tagOf id) id ∈ qItems (doReq p (doBurst p (doBurst p (doWr p (doTick p s (wk - s.now)).1 .ok).1 [(.ok, .junk)]).1 [(.ok, .rping)]).1 id).1.tr) := by
  obtain ⟨_, s1, s2, _, _, _⟩ := h.sl wk w hrg
  refine ⟨s1 rfl, s2, ?_⟩
  intro hr
  obtain ⟨a1, a2, a3, a4, a7⟩ := doTick_wake p hp s wk w h hrg hr
  generalize (doTick p s (wk - s.now)) = r1 at *
  have e2 : doWr p r1.1 .ok = absorb p r1.1 tOk1 { sent := [.ping] } := by simp only [doWr, a1, tOk_wr]
  obtain ⟨b1, b2, b3, b4⟩ := absorb_handshake p r1.1 tOk1 { sent := [.ping] } w a2 a4 rfl
  rw [← e2] at b1 b2 b3 b4
  generalize (doWr p r1.1 .ok) = r2 at *
  have e3 : doBurst p r2.1 [(.ok, .junk)] = absorb p r2.1 tOk2 {} := by simp only [doBurst, b1, tOk1_hdr]
  obtain ⟨c1, c2, c3, c4⟩ := absorb_handshake p r2.1 tOk2 {} w b2 b4 rfl
  rw [← e3] at c1 c2 c3 c4
  generalize (doBurst p r2.1 [(.ok, .junk)]) = r3 at *
  have e4 : doBurst p r3.1 [(.ok, .rping)] = absorb p r3.1 tUp {} := by simp only [doBurst, c1, tOk2_rping]
  have d := absorb_opened (p := p) (t' := tUp) (o := {}) c4 c2 (c3.trans (b3.trans a3)) rfl
  rw [← e4] at d
  obtain ⟨f1, k⟩ := settle_keep p r3.1 tinv_tUp
  generalize (settle p r3.1 tUp).1 = x at d f1 k
  generalize (doBurst p r3.1 [(.ok, .rping)]) = r4 at *
  have d2 : r4.1.down = false := by rw [d]
  have d4 : r4.1.inst = true := by rw [d]
  have hcs : r4.1.tr.cstate = .opened := by rw [d]; exact k.cstate
  have hop : r4.1.tr.opening = false := by rw [d]; exact k.opening
  have htr : TInv r4.1.tr := by rw [d]; exact f1
  refine ⟨a7, d2, d4, ?_, ?_⟩
  · rw [stateOf, if_neg (by rw [d2]; exact Bool.false_ne_true), if_neg (by rw [d4]; nofun)]; exact hcs
  intro id
  have e := request_opened r4.1.tr id (tagOf id) hcs hop
  have hnp : ∀ {t' : MuxT.St}, r4.1.tr.openRes = .pending → t'.openRes = .pending :=
    fun e => absurd e (htr.not_pending hop)
  fun_cases doReq p r4.1 id with
  | case1 hi => rw [d4] at hi; cases hi
  | case2 _ ho => rw [hop] at ho; cases ho
  | case3 =>
    rename_i r
    rw [absorb_snd_nopend p r4.1 _ _ hnp, (absorb_env p r4.1 _ _).1, settle_nopend p r4.1 _ hnp, show r = _ from e]
    exact ⟨rfl, by simp, by rw [qItems_pump]; simp [qItems]⟩

/-- the specification accepts the whole history and, from the `Close()` on, accepts no connect -/
theorem closed_stops_connects (cfg : Cfg) (ops1 ops2 : List Op) (h : comp.wf cfg (ops1 ++ Op.close :: ops2) = true) :
    ∀ x ∈ comp.trace cfg (runOps cfg.par {} (ops1 ++ [Op.close])) ops2, x.2.conns = 0 := by
  have h' : comp.wf cfg ((ops1 ++ [Op.close]) ++ ops2) = true := by rwa [List.append_assoc, List.singleton_append]
  obtain ⟨a', idx', e, _, k⟩ := run_init (ops1 ++ [Op.close]) ops2 h'
  rw [if_pos (by rw [List.any_append, List.any_cons]; exact Bool.or_true _)] at k
  exact specGo_closed cfg k _ idx' (e.symm.trans (model_satisfies_spec cfg _ h'))

end Scales.ResMux
