import ScalesModel.Proofs.HeapInv

/-! `HInv` is kept by `setChan`, `_AddSink` of an endpoint that is not in the heap, `_RemoveSink`; what the latter two
    change is stated apart and from `WF` alone (`addSink_facts`, `remove_facts`).  `Inv` is established by `HS.init` and
    kept by `setChan`, `join`, `leave`. -/
namespace Scales.Heap

theorem Inv_init : Inv HS.init := by
  have hpos : ∀ p, 1 ≤ p → p ≤ HS.init.size → False := fun p h1 h2 => Nat.not_succ_le_zero 0 (Nat.le_trans h1 h2)
  have hno : ∀ id, ¬ InHeap HS.init id := fun id ⟨p, h1, h2, _⟩ => hpos p h1 h2
  have hlen : ∀ id, ¬ id < HS.init.nodes.length := fun id => Nat.not_lt_zero id
  refine ⟨⟨fun p h1 h2 => (hpos p h1 h2).elim, fun p _ h1 h2 => (hpos p h1 h2).elim,
      fun p h1 h2 => (hpos p h1 h2).elim, fun id hl => absurd hl (hlen id)⟩,
    fun k h1 h2 => (hpos k (Nat.le_of_succ_le h1) h2).elim,
    ⟨fun id hl => absurd hl (hlen id), (by decide), fun r hr => (nomatch hr), fun id h => absurd h (hno id),
      fun id hl => absurd hl (hlen id), fun a _ h => absurd h (hno a)⟩,
    ⟨fun id h => (nomatch h), fun id h => absurd h (hno id), List.nodup_nil⟩, ?_⟩
  intro ep
  exact ⟨fun h => (nomatch h), fun ⟨id, h, _⟩ => absurd h (hno id)⟩

/-- a channel event changes nothing the invariant reads -/
theorem setChan_frameW (s : HS) (nid st : Nat) :
    FrameW s (s.setChan nid st) ∧ (WF s → WF (s.setChan nid st)) ∧ L (s.setChan nid st) = L s ∧
    ∀ id, ((s.setChan nid st).node id).chan = if id = nid ∧ nid < s.nodes.length then st else (s.node id).chan := by
  rw [setChan_eq]
  refine ⟨⟨rfl, setNode_len _ _ _, fun id => ⟨setNode_proj Node.load s nid { s.node nid with chan := st } rfl id,
      setNode_proj Node.ep s nid { s.node nid with chan := st } rfl id,
      setNode_proj Node.closed s nid { s.node nid with chan := st } rfl id⟩,
      setNode_inHeap _ _ _, rfl, rfl, rfl⟩,
    fun hw => setNode_WF s hw nid _ rfl, setNode_L s nid { s.node nid with chan := st } rfl, fun id => ?_⟩
  rw [node_setNode]
  split <;> rfl

theorem HInv_setChan {s : HS} (h : HInv s) (nid st : Nat) : HInv (s.setChan nid st) := by
  obtain ⟨fw, w, e, _⟩ := setChan_frameW s nid st
  exact h.frameW fw (w h.wf) (by rw [e, fw.size]; exact h.ord)

theorem Inv_setChan (s : HS) (h : Inv s) (nid st : Nat) : Inv (s.setChan nid st) :=
  (HInv_setChan (.of_inv h) nid st).inv (h.srv.frameW (setChan_frameW s nid st).1)

theorem push_Book (s : HS) (hw : WF s) (b : Book s) (nd : Node)
    (hep : ∀ id, InHeap s id → (s.node id).ep ≠ nd.ep) (hl : nd.load = Idle) (hc : nd.closed = 0) :
    Book (s.push nd) := by
  have hold : ∀ id, id < s.nodes.length → (s.push nd).node id = s.node id := fun id h => push_node_old s nd h
  have hnew : (s.push nd).node s.nodes.length = nd := by rw [push_node, if_pos rfl]
  have ho : ∀ id, outOf (s.push nd) id = outOf s id := fun id => rfl
  constructor
  · intro id hlt
    rw [push_len] at hlt
    rcases Nat.lt_or_eq_of_le (Nat.le_of_lt_succ hlt) with e | e
    · rw [hold id e, ho]; exact b.acct id e
    · subst e
      have hz : outOf s s.nodes.length = 0 := outL_zero _ _ fun r hr => Nat.ne_of_lt (b.reqsOk r hr)
      rw [hnew, ho, hz, hl]
      exact Or.inr (Int.add_zero _).symm
  · exact b.bound
  · intro r hr; rw [push_len]; exact Nat.lt_succ_of_lt (b.reqsOk r hr)
  · intro id h
    rw [push_inHeap s] at h
    rcases h with h | h
    · rw [hold id (inHeap_lt s hw id h)]; exact b.closedIn id h
    · rw [h, hnew]; exact hc
  · intro id hlt hn
    rw [push_len] at hlt
    rw [push_inHeap s, not_or] at hn
    have : id < s.nodes.length := Nat.lt_of_le_of_ne (Nat.le_of_lt_succ hlt) hn.2
    rw [hold id this, ho]
    exact b.closedOff id this hn.1
  · intro a c ha hc' he
    rw [push_inHeap s] at ha hc'
    rcases ha with ha | ha <;> rcases hc' with hc' | hc'
    · rw [hold a (inHeap_lt s hw a ha), hold c (inHeap_lt s hw c hc')] at he
      exact b.epsInj a c ha hc' he
    · rw [hold a (inHeap_lt s hw a ha), hc', hnew] at he
      exact absurd he (hep a ha)
    · rw [hold c (inHeap_lt s hw c hc'), ha, hnew] at he
      exact absurd he.symm (hep c hc')
    · rw [ha, hc']

theorem push_DownOk (s : HS) (hw : WF s) (d : List Nat) (b : DownOk s d) (nd : Node) (hl : nd.load = Idle) :
    DownOk (s.push nd) d := by
  constructor
  · intro id hd
    obtain ⟨h1, h2⟩ := b.pen id hd
    rw [push_len, push_node_old s nd h1]
    exact ⟨Nat.lt_succ_of_lt h1, h2⟩
  · intro id h hge
    rw [push_inHeap s] at h
    rcases h with h | h
    · rw [push_node_old s nd (inHeap_lt s hw id h)] at hge
      exact b.all id h hge
    · rw [push_node, if_pos h, hl] at hge
      exact absurd hge (by decide)
  · exact b.nodup

theorem addSink_push (s : HS) (ep : Nat) :
    s.addSink ep = (s.push ⟨Idle, (s.size + 1 : Nat), ep, 1, 0⟩).fixUp (s.size + 1) := rfl

/-- `s'` is `s` after a new node, idle and in the heap, has been made for endpoint `ep` -/
structure JoinFacts (s s' : HS) (ep : Nat) : Prop where
  len : s'.nodes.length = s.nodes.length + 1
  reqs : s'.reqs = s.reqs
  inHeap : ∀ id, InHeap s' id ↔ InHeap s id ∨ id = s.nodes.length
  old : ∀ id, id < s.nodes.length → (s'.node id).load = (s.node id).load ∧ (s'.node id).ep = (s.node id).ep ∧
    (s'.node id).chan = (s.node id).chan ∧ (s'.node id).closed = (s.node id).closed
  new : (s'.node s.nodes.length).load = Idle ∧ (s'.node s.nodes.length).ep = ep ∧
    (s'.node s.nodes.length).chan = 1 ∧ (s'.node s.nodes.length).closed = 0

theorem addSink_facts {s : HS} (hw : WF s) (ep : Nat) :
    JoinFacts s (s.addSink ep) ep ∧ (s.addSink ep).size = s.size + 1 ∧ (s.addSink ep).servers = s.servers ∧
    WF (s.addSink ep) := by
  rw [addSink_push]
  obtain ⟨w, f, _⟩ := push_spec s hw ⟨Idle, (s.size + 1 : Nat), ep, 1, 0⟩ rfl
  refine ⟨⟨by rw [f.len, push_len], by rw [f.reqs]; rfl, fun id => by rw [f.inHeap, push_inHeap s], fun id hl => ?_, ?_⟩,
    by rw [f.size, push_size], by rw [f.servers]; rfl, w⟩
  · obtain ⟨a, b, c, d⟩ := f.fields id
    rw [a, b, c, d, push_node_old s _ hl]
    exact ⟨rfl, rfl, rfl, rfl⟩
  · obtain ⟨a, b, c, d⟩ := f.fields s.nodes.length
    rw [a, b, c, d, push_node, if_pos rfl]
    exact ⟨rfl, rfl, rfl, rfl⟩

theorem HInv_addSink {s : HS} (h : HInv s) (ep : Nat) (hnew : ∀ id, InHeap s id → (s.node id).ep ≠ ep) :
    HInv (s.addSink ep) := by
  rw [addSink_push]
  obtain ⟨w, f, o⟩ := push_spec s h.wf ⟨Idle, (s.size + 1 : Nat), ep, 1, 0⟩ rfl
  replace o := o h.ord
  refine ⟨w, by rw [f.size, push_size]; exact o, (push_Book s h.wf h.book _ hnew rfl rfl).frame f, ?_⟩
  rw [f.down]; exact (push_DownOk s h.wf _ h.down _ rfl).frame f

theorem join_old (s : HS) (ep : Nat) (h : ep ∈ s.servers) : s.join ep = s := by
  unfold HS.join
  rw [if_pos (List.contains_iff_mem.mpr h)]

theorem join_new (s : HS) (h : Inv s) (ep : Nat) (hnew : ep ∉ s.servers) :
    Inv (s.join ep) ∧ JoinFacts s (s.join ep) ep := by
  unfold HS.join
  rw [if_neg fun x => hnew (List.contains_iff_mem.mp x)]
  -- `_servers` takes the endpoint, then `_AddSink` runs on the same store
  have ht : HInv ({ s with servers := s.servers ++ [ep] } : HS) := (HInv.of_inv h).servers _
  obtain ⟨jf, _, hsv, _⟩ := addSink_facts ht.wf ep
  -- the two start states share store and records, so the facts are those about `s`
  replace jf : JoinFacts s (({ s with servers := s.servers ++ [ep] } : HS).addSink ep) ep :=
    ⟨jf.len, jf.reqs, jf.inHeap, jf.old, jf.new⟩
  refine ⟨(HInv_addSink ht ep fun id hin he => hnew ((h.srv ep).mpr ⟨id, hin, he⟩)).inv fun x => ?_, jf⟩
  rw [hsv]
  show x ∈ s.servers ++ [ep] ↔ _
  rw [List.mem_append, h.srv x, List.mem_singleton]
  constructor
  · rintro (⟨id, h1, h2⟩ | h1)
    · exact ⟨id, (jf.inHeap id).mpr (Or.inl h1), (jf.old id (inHeap_lt s h.wf id h1)).2.1.trans h2⟩
    · exact ⟨s.nodes.length, (jf.inHeap _).mpr (Or.inr rfl), jf.new.2.1.trans h1.symm⟩
  · rintro ⟨id, h1, h2⟩
    rcases (jf.inHeap id).mp h1 with h1 | h1
    · exact Or.inl ⟨id, h1, (jf.old id (inHeap_lt s h.wf id h1)).2.1.symm.trans h2⟩
    · exact Or.inr (h2.symm.trans (h1 ▸ jf.new.2.1))

theorem Inv_join (s : HS) (h : Inv s) (ep : Nat) : Inv (s.join ep) := by
  by_cases hin : ep ∈ s.servers
  · rw [join_old s ep hin]; exact h
  · exact (join_new s h ep hin).1

theorem delAt_node_spec (s : HS) (hw : WF s) (nid : Nat) (hin : InHeap s nid) :
    WF (s.delAt (pos s nid)) ∧ Frame s (s.delAt (pos s nid)) ∧
    (s.delAt (pos s nid)).idAt (s.delAt (pos s nid)).size = nid ∧ 1 ≤ (s.delAt (pos s nid)).size ∧
    (Ord (L s) s.size → Ord (L (s.delAt (pos s nid))) ((s.delAt (pos s nid)).size - 1)) := by
  obtain ⟨p1, p2, p3, _, _⟩ := pos_spec s hw nid hin
  obtain ⟨wu, fu, hidu, ou⟩ := delAt_spec s hw (pos s nid) p1 p2
  rw [fu.size]
  exact ⟨wu, fu, hidu.trans p3, Nat.le_trans p1 p2, fun ho => ou (Ord_hole _ _ _ _ ho (Nat.sub_le _ _))
    (GP_mono _ _ _ _ (Ord_to_up (L s) s.size (pos s nid) ho).2 (Nat.sub_le _ _))⟩

/-- the `Close()` calls on a node's channel once `_RemoveSink` has discarded it: it is closed at once if it is
    idle or marked down -/
def closedAfter (u : HS) (nid : Nat) : Nat :=
  (u.node nid).closed + if (u.node nid).load = Idle ∨ (u.node nid).load ≥ 0 then 1 else 0

/-- `_RemoveSink` on the heap node `nid`: deletion at its slot, then the last slot (where it has gone) is dropped -/
def HS.removed (s : HS) (nid : Nat) : HS :=
  (s.delAt (pos s nid)).pop (closedAfter (s.delAt (pos s nid)) nid)

/-- `s'` is `s` after the heap node `nid` has been taken out of the heap: nothing else changes but its close count -/
structure LeaveFacts (s s' : HS) (nid : Nat) : Prop where
  len : s'.nodes.length = s.nodes.length
  reqs : s'.reqs = s.reqs
  inHeap : ∀ id, InHeap s' id ↔ InHeap s id ∧ id ≠ nid
  fields : ∀ id, (s'.node id).load = (s.node id).load ∧ (s'.node id).ep = (s.node id).ep ∧
    (s'.node id).chan = (s.node id).chan ∧
    (s'.node id).closed = (if id = nid then
      (s.node nid).closed + (if (s.node nid).load = Idle ∨ (s.node nid).load ≥ 0 then 1 else 0) else (s.node id).closed)

theorem remove_facts {s : HS} (hw : WF s) {nid : Nat} (hin : InHeap s nid) :
    WF (s.removed nid) ∧ LeaveFacts s (s.removed nid) nid ∧ (s.removed nid).servers = s.servers ∧
    (s.removed nid).down = s.down ∧ (Ord (L s) s.size → Ord (L (s.removed nid)) (s.removed nid).size) := by
  obtain ⟨wu, fu, hlast, hn1, ou⟩ := delAt_node_spec s hw nid hin
  unfold HS.removed closedAfter
  rw [(fu.fields nid).1, (fu.fields nid).2.2.2]
  generalize s.delAt (pos s nid) = u at *
  generalize hc : (s.node nid).closed + (if (s.node nid).load = Idle ∨ (s.node nid).load ≥ 0 then 1 else 0) = c
  refine ⟨pop_WF u wu hn1 c, ⟨(pop_len u c).trans fu.len, fu.reqs,
    fun id => by rw [pop_inHeap u wu hn1 c id, hlast, fu.inHeap], fun id => ?_⟩, fu.servers, fu.down, fun ho => ?_⟩
  · obtain ⟨a, b, c', d⟩ := fu.fields id
    rw [pop_node, hlast, ← a, ← b, ← c', ← d]
    by_cases e : id = nid
    · rw [if_pos ⟨e, hlast ▸ wu.inStore u.size hn1 (Nat.le_refl _)⟩, if_pos e]
      exact ⟨rfl, rfl, rfl, hc.symm⟩
    · rw [if_neg fun x => e x.1, if_neg e]
      exact ⟨rfl, rfl, rfl, rfl⟩
  · exact Ord.congr (fun k hk1 hk => pop_L u wu c k hk1
      (Nat.lt_of_le_of_lt (pop_size u c ▸ hk) (Nat.sub_lt hn1 Nat.one_pos))) (pop_size u c ▸ ou ho)

theorem HInv_removed {s : HS} (h : HInv s) {nid : Nat} (hin : InHeap s nid) : HInv (s.removed nid) := by
  obtain ⟨w, lf, _, hdn, o⟩ := remove_facts h.wf hin
  have hl := inHeap_lt s h.wf nid hin
  have ho := outOf_congr lf.reqs
  refine ⟨w, o h.ord, ?_, ?_⟩
  · constructor
    · intro id hlt
      rw [(lf.fields id).1, ho]
      exact h.book.acct id (lf.len ▸ hlt)
    · rw [lf.reqs]; exact h.book.bound
    · intro r hr; rw [lf.len]; exact h.book.reqsOk r (lf.reqs ▸ hr)
    · intro id hi
      rw [lf.inHeap] at hi
      rw [(lf.fields id).2.2.2, if_neg hi.2]
      exact h.book.closedIn id hi.1
    · intro id hlt hn
      rw [lf.len] at hlt
      rw [(lf.fields id).2.2.2, (lf.fields id).1, ho]
      by_cases e : id = nid
      · -- the removed node is closed at once iff it is idle or marked down
        rw [if_pos e, e, h.book.closedIn nid hin, Nat.zero_add]
        exact if_congr (h.book.idle_iff nid hl) rfl rfl
      · rw [if_neg e]
        exact h.book.closedOff id hlt fun x => hn ((lf.inHeap id).mpr ⟨x, e⟩)
    · intro a b ha hb' he
      rw [(lf.fields a).2.1, (lf.fields b).2.1] at he
      exact h.book.epsInj a b ((lf.inHeap a).mp ha).1 ((lf.inHeap b).mp hb').1 he
  · rw [hdn]
    exact ⟨fun id hd => by rw [(lf.fields id).1, lf.len]; exact h.down.pen id hd,
      fun id hi hge => h.down.all id ((lf.inHeap id).mp hi).1 ((lf.fields id).1 ▸ hge), h.down.nodup⟩

theorem findByEp_some (s : HS) (ep nid : Nat) (h : s.findByEp ep = some nid) : InHeap s nid ∧ (s.node nid).ep = ep :=
  ⟨(mem_heap_iff s nid).mp (List.mem_of_find?_eq_some h), by simpa using List.find?_some h⟩

theorem findByEp_none (s : HS) (ep : Nat) (h : s.findByEp ep = none) (id : Nat) (hin : InHeap s id) :
    (s.node id).ep ≠ ep := by
  unfold HS.findByEp at h
  rw [List.find?_eq_none] at h
  simpa using h id ((mem_heap_iff s id).mpr hin)

theorem removeSink_none {s : HS} {ep : Nat} (hf : s.findByEp ep = none) : s.removeSink ep = (s, false) := by
  unfold HS.removeSink
  rw [hf]

theorem removeSink_pop (s : HS) (hw : WF s) (ep nid : Nat) (hfind : s.findByEp ep = some nid) :
    s.removeSink ep = (s.removed nid, true) := by
  have hin := (findByEp_some s ep nid hfind).1
  have hidx := index_of_inHeap s hw nid hin
  unfold HS.removeSink
  rw [hfind]
  dsimp only
  rw [if_neg (by omega)]
  unfold HS.removed HS.pop
  simp only [(delAt_node_spec s hw nid hin).2.2.1]
  rfl

theorem HInv_removeSink {s : HS} (h : HInv s) (ep : Nat) : HInv (s.removeSink ep).1 := by
  cases hf : s.findByEp ep with
  | none => rw [removeSink_none hf]; exact h
  | some nid => rw [removeSink_pop s h.wf ep nid hf]; exact HInv_removed h (findByEp_some s ep nid hf).1

theorem leave_none (s : HS) (ep : Nat) (hf : s.findByEp ep = none) :
    s.leave ep = { s with servers := s.servers.filter (· ≠ ep) } :=
  congrArg Prod.fst (removeSink_none (s := ({ s with servers := s.servers.filter (· ≠ ep) } : HS)) hf)

/-- `_servers` loses the endpoint, then `_RemoveSink` takes the node that holds it out of the same store: `_servers` and
    the heap hold the same endpoints again -/
theorem leave_some (s : HS) (h : Inv s) (ep nid : Nat) (hf : s.findByEp ep = some nid) :
    Inv (s.leave ep) ∧ LeaveFacts s (s.leave ep) nid := by
  unfold HS.leave
  obtain ⟨hin, hep⟩ := findByEp_some s ep nid hf
  have ht : HInv ({ s with servers := s.servers.filter (· ≠ ep) } : HS) := (HInv.of_inv h).servers _
  rw [removeSink_pop _ ht.wf ep nid hf]
  obtain ⟨_, lf, hsv, _⟩ := remove_facts ht.wf (nid := nid) hin
  -- the two start states share store and records, so the facts are those about `s`
  refine ⟨(HInv_removed ht hin).inv fun e => ?_, lf.len, lf.reqs, lf.inHeap, lf.fields⟩
  rw [hsv]
  show e ∈ s.servers.filter (· ≠ ep) ↔ _
  rw [List.mem_filter, h.srv e, decide_eq_true_eq]
  constructor
  · rintro ⟨⟨id, h1, h2⟩, hne⟩
    exact ⟨id, (lf.inHeap id).mpr ⟨h1, fun e' => hne (h2.symm.trans (e' ▸ hep))⟩, (lf.fields id).2.1.trans h2⟩
  · rintro ⟨id, h1, h2⟩
    rw [(lf.fields id).2.1] at h2
    rw [lf.inHeap] at h1
    exact ⟨⟨id, h1.1, h2⟩, fun he => h1.2 (h.book.epsInj id nid h1.1 hin ((h2.trans he).trans hep.symm))⟩

theorem Inv_leave (s : HS) (h : Inv s) (ep : Nat) : Inv (s.leave ep) := by
  cases hf : s.findByEp ep with
  | none =>
    rw [leave_none s ep hf]
    refine ((HInv.of_inv h).servers _).inv fun e => ?_
    show e ∈ s.servers.filter (· ≠ ep) ↔ _
    rw [List.mem_filter, h.srv e, decide_eq_true_eq]
    exact ⟨fun x => x.1, fun ⟨id, h1, h2⟩ => ⟨⟨id, h1, h2⟩, fun he => findByEp_none s ep hf id h1 (h2.trans he)⟩⟩
  | some nid => exact (leave_some s h ep nid hf).1

end Scales.Heap
