/-
  Proofs/ThriftCodecLemmas.lean — lemmas for C14.  The decoders undo the encoders (`dec_enc`, `decMsg_enc`).
  The read loop sees of a chunking only the stream it delivers (`Chunks`, `readAll_spec`), so the client's read
  path is a function of that stream (`streamMsg`); it is analysed once, on `ThriftShared.readMsg` (the part of
  `clientOutcome` before the decision, shared by both components), and `clientOutcome_readMsg` carries the
  facts over.
-/
import ScalesModel.Adapter.ThriftCodec
import ScalesModel.Proofs.BigEndian
import ScalesModel.Proofs.RunLemmas
import ScalesModel.Proofs.VerdictLemmas
import ScalesModel.Model.ThriftShared

namespace Scales.ThriftCodec

theorem beNat_eq_digits (w u : Nat) : beNat w u = BigEndian.digits w u := by
  induction w generalizing u with
  | zero => rfl
  | succ w ih => rw [beNat, BigEndian.digits, ih]

theorem encInt_length (w : Nat) (n : Int) : (encInt w n).length = w := by
  rw [encInt, beNat_eq_digits]; exact BigEndian.digits_length _ _

theorem encInt_lt (w : Nat) (n : Int) : ∀ b ∈ encInt w n, b < 256 := by
  rw [encInt, beNat_eq_digits]; exact BigEndian.digits_allBytes _ _

theorem natCast_pow_256 (w : Nat) : (256 : Int) ^ w = ((256 ^ w : Nat) : Int) := (Int.natCast_pow 256 w).symm

theorem toSigned_eq_signed (w u : Nat) : toSigned w u = BigEndian.signed (256 ^ w) u := by
  unfold toSigned BigEndian.signed
  rw [natCast_pow_256]
  by_cases h : 2 * u < 256 ^ w
  · rw [if_neg (Nat.not_le.2 h), if_pos h]
  · rw [if_pos (Nat.not_lt.1 h), if_neg h]

theorem toSigned_fromBE_encInt (w : Nat) (n : Int) (h : fitsInt w n = true) :
    toSigned w (fromBE (encInt w n)) = n := by
  simp only [fitsInt, Bool.and_eq_true, decide_eq_true_eq, natCast_pow_256] at h
  rw [toSigned_eq_signed, encInt, toUnsigned, natCast_pow_256, beNat_eq_digits]
  -- `fromBE` unfolds to `BigEndian.value`
  exact BigEndian.signed_value_digits rfl h.1 h.2

theorem fitsInt_natCast (w k : Nat) (h : 2 * k < 256 ^ w) : fitsInt w (k : Int) = true := by
  simp only [fitsInt, Bool.and_eq_true, decide_eq_true_eq, natCast_pow_256]
  omega

/-- a length that fits `pack('!i', ·)` -/
theorem fits_i32 {k : Nat} (h : k < 2147483648) : 2 * k < 256 ^ 4 := by omega

theorem takeN_append (a rest : Bytes) : takeN a.length (a ++ rest) = some (a, rest) :=
  BigEndian.take_drop_eq_some.2 ⟨rfl, rfl⟩

theorem decInt_encInt (w : Nat) (n : Int) (rest : Bytes) (h : fitsInt w n = true) :
    decInt w (encInt w n ++ rest) = some (n, rest) := by
  have := takeN_append (encInt w n) rest
  rw [encInt_length] at this
  simp only [decInt, this, toSigned_fromBE_encInt w n h]

/-- as the decoders read a length or a field id: they test the sign, then take `toNat` -/
theorem decInt_encInt_nat (w k : Nat) (rest : Bytes) (h : 2 * k < 256 ^ w) :
    decInt w (encInt w k ++ rest) = some ((k : Int), rest) ∧ ¬ (k : Int) < 0 ∧ (k : Int).toNat = k :=
  ⟨decInt_encInt w k rest (fitsInt_natCast w k h), Int.not_lt.mpr (Int.natCast_nonneg k), Int.toNat_natCast k⟩

/- The branch of `decVal` / `decFields` at each type code, by `rfl`: at a numeral the chain
   `if ty = 2 … else if ty = 8 …` evaluates.  Rewriting with the equations of the mutual definition would
   leave the whole chain in the goal. -/
theorem decVal_i32 (f : Nat) (bs : Bytes) :
    decVal (f + 1) 8 bs = match decInt 4 bs with
      | some (n, rest) => some (.i32 n, rest)
      | none => none := rfl

theorem decVal_i64 (f : Nat) (bs : Bytes) :
    decVal (f + 1) 10 bs = match decInt 8 bs with
      | some (n, rest) => some (.i64 n, rest)
      | none => none := rfl

theorem decVal_str (f : Nat) (bs : Bytes) :
    decVal (f + 1) 11 bs = match decInt 4 bs with
      | some (n, rest) =>
        if n < 0 then none
        else match takeN n.toNat rest with
          | some (s, rest') => some (.str s, rest')
          | none => none
      | none => none := rfl

theorem decVal_struct (f : Nat) (bs : Bytes) :
    decVal (f + 1) 12 bs = match decFields f bs with
      | some (fs, rest) => some (.struct fs, rest)
      | none => none := rfl

theorem decFields_field (f ty : Nat) (bs : Bytes) (h : ty ≠ 0) :
    decFields (f + 1) (ty :: bs) = match decInt 2 bs with
      | some (fid, bs1) =>
        if fid < 0 then none
        else match decVal f ty bs1 with
          | some (v, bs2) =>
            match decFields f bs2 with
            | some (fs, bs3) => some (.cons fid.toNat v fs, bs3)
            | none => none
          | none => none
      | none => none := if_neg h

theorem encFields_length_pos : ∀ fs : TFields, 0 < (encFields fs).length
  | .nil => Nat.one_pos
  | .cons .. => Nat.succ_pos _

theorem tyCode_ne_zero (v : TVal) : tyCode v ≠ 0 := by cases v <;> exact Nat.succ_ne_zero _

/- Every call of the decoders consumes at least one byte, so fuel above the length of the encoding suffices.
   By induction on the fuel, on which the decoders recurse: a value inside a value is read with one less. -/
theorem dec_enc : ∀ fuel : Nat,
    (∀ (v : TVal) (rest : Bytes), v.wf = true → (encVal v).length + 1 ≤ fuel →
      decVal fuel (tyCode v) (encVal v ++ rest) = some (v, rest)) ∧
    (∀ (fs : TFields) (rest : Bytes), fs.wf = true → (encFields fs).length ≤ fuel →
      decFields fuel (encFields fs ++ rest) = some (fs, rest))
  | 0 => ⟨fun _ _ _ hf => absurd hf (Nat.not_succ_le_zero _),
          fun fs _ _ hf => absurd hf (Nat.not_le_of_gt (encFields_length_pos fs))⟩
  | f + 1 => by
    obtain ⟨ihv, ihf⟩ := dec_enc f
    refine ⟨fun v rest h hf => ?_, fun fs rest h hf => ?_⟩
    · cases v with
      | bool b => cases b <;> rfl
      | i32 n =>
        show decVal _ 8 (encInt 4 n ++ rest) = _
        rw [decVal_i32, decInt_encInt 4 n rest h]
      | i64 n =>
        show decVal _ 10 (encInt 8 n ++ rest) = _
        rw [decVal_i64, decInt_encInt 8 n rest h]
      | str bs =>
        have h : bs.length < 2147483648 := of_decide_eq_true h
        obtain ⟨h1, h2, h3⟩ := decInt_encInt_nat 4 bs.length (bs ++ rest) (fits_i32 h)
        show decVal _ 11 (encInt 4 bs.length ++ bs ++ rest) = _
        rw [decVal_str, List.append_assoc, h1]
        simp only [if_neg h2, h3, takeN_append]
      | struct fs =>
        show decVal _ 12 (encFields fs ++ rest) = _
        rw [decVal_struct, ihf fs rest h (Nat.le_of_succ_le_succ hf)]
    · cases fs with
      | nil => rfl
      | cons fid v r =>
        simp only [TFields.wf, Bool.and_eq_true, decide_eq_true_eq] at h
        obtain ⟨⟨hfid, hv⟩, hr⟩ := h
        have hf : 2 + ((encVal v).length + (encFields r).length) + 1 ≤ f + 1 := by
          simpa only [encFields, List.length_cons, List.length_append, encInt_length] using hf
        obtain ⟨h1, h2, h3⟩ := decInt_encInt_nat 2 fid (encVal v ++ (encFields r ++ rest)) (by omega)
        show decFields _ (tyCode v :: (encInt 2 fid ++ (encVal v ++ encFields r)) ++ rest) = _
        rw [List.cons_append, List.append_assoc, List.append_assoc, decFields_field _ _ _ (tyCode_ne_zero v), h1]
        simp only [if_neg h2, h3, ihv v _ hv (by omega), ihf r rest hr (by omega)]

/-- as `decMsg` calls it: the fuel is the length of the input -/
theorem decFields_enc_self (fs : TFields) (h : fs.wf = true) :
    decFields (encFields fs).length (encFields fs) = some (fs, []) := by
  have := (dec_enc _).2 fs [] h (Nat.le_refl _)
  rwa [List.append_nil] at this

theorem decMsg_enc (m : Msg) (hn : m.name.length < 2147483648) (hs : fitsInt 4 m.seqid = true)
    (hb : m.body.wf = true) : decMsg (encMsg m) = some m := by
  obtain ⟨name, mtype, seqid, body⟩ := m
  have hn : name.length < 2147483648 := hn
  obtain ⟨h1, h2, h3⟩ :=
    decInt_encInt_nat 4 name.length (name ++ (encInt 4 seqid ++ encFields body)) (fits_i32 hn)
  simp only [encMsg, decMsg, List.cons_append, List.nil_append, and_self, if_true, h1, if_neg h2, h3,
    takeN_append, decInt_encInt 4 _ _ hs, decFields_enc_self body hb]

/-- the name is part of the message: a message that fits a frame has a name that fits its length field -/
theorem encMsg_name_lt {m : Msg} {b : Nat} (h : (encMsg m).length < b) : m.name.length < b :=
  Nat.lt_of_le_of_lt ((List.sublist_append_left m.name _).trans
    ((List.sublist_append_right ..).trans (List.sublist_append_right ..))).length_le h

theorem fits4_zero : fitsInt 4 0 = true := by decide

theorem replyMsg_name (name : Bytes) (r : Reply) : (replyMsg name r).name = name := by
  cases r <;> rfl

theorem replyMsg_body_wf (name : Bytes) (r : Reply) (h : replyWf r = true) : (replyMsg name r).body.wf = true := by
  cases r with
  | app ty msg =>
    simp only [replyWf, Bool.and_eq_true] at h
    cases msg with
    | none => simp only [replyMsg, appFields, TFields.wf, TVal.wf, h.1]; rfl
    | some m =>
      have := h.2
      simp only [msgOk] at this
      simp only [replyMsg, appFields, TFields.wf, TVal.wf, h.1, this]; rfl
  | result fs => exact h

theorem decMsg_replyMsg (name : Bytes) (r : Reply) (h : replyWf r = true)
    (hl : (encMsg (replyMsg name r)).length < 2147483648) :
    decMsg (encMsg (replyMsg name r)) = some (replyMsg name r) := by
  refine decMsg_enc _ (encMsg_name_lt hl) ?_ (replyMsg_body_wf name r h)
  cases r <;> exact fits4_zero

theorem frame_length (p : Bytes) : (frame p).length = p.length + 4 := by
  rw [frame, List.length_append, encInt_length, Nat.add_comm]

theorem frame_take (p : Bytes) : (frame p).take 4 = encInt 4 p.length :=
  List.take_left' (encInt_length ..)

theorem frame_drop (p : Bytes) : (frame p).drop 4 = p :=
  List.drop_left' (encInt_length ..)

theorem lenPrefix_roundtrip (p : Bytes) (h : p.length < 2147483648) :
    toSigned 4 (fromBE (encInt 4 p.length)) = (p.length : Int) :=
  toSigned_fromBE_encInt 4 _ (fitsInt_natCast 4 _ (fits_i32 h))

theorem decMsg_callBytes (name : Bytes) (args : TFields) (hn : name.length < 2147483648)
    (hw : args.wf = true) : decMsg ((callBytes name args).drop 4) = some ⟨name, mtCall, 0, args⟩ := by
  rw [callBytes, frame_drop]
  exact decMsg_enc ⟨name, mtCall, 0, args⟩ hn fits4_zero hw

theorem readAllGo_done (fuel want : Nat) (acc : Bytes) (ps : List Bytes) (h : want ≤ acc.length) :
    readAllGo fuel want acc ps = .ok acc ps := by
  cases fuel <;> rw [readAllGo, if_pos h]

/-- All the read loop needs of `recv`, through which alone it sees the pieces.  `0 < d`: asked for nothing, `recv`
    returns nothing although pieces are left. -/
theorem recv_spec {d : Nat} {ps ps' : List Bytes} {chunk : Bytes} (hne : ∀ p ∈ ps, p ≠ []) (hd : 0 < d)
    (hr : recv d ps = (chunk, ps')) :
    chunk ++ ps'.flatten = ps.flatten ∧ chunk.length ≤ d ∧ (∀ p ∈ ps', p ≠ []) ∧ (chunk.length = 0 → ps = []) := by
  cases ps with
  | nil => cases hr; exact ⟨rfl, Nat.zero_le _, hne, fun _ => rfl⟩
  | cons p ps =>
    obtain ⟨hp, hne'⟩ := List.forall_mem_cons.mp hne
    rw [recv] at hr
    split at hr <;> cases hr
    · exact ⟨rfl, ‹_›, hne', fun h => absurd (List.eq_nil_of_length_eq_zero h) hp⟩
    · rename_i hk
      have hk : d < p.length := Nat.lt_of_not_le hk
      refine ⟨?_, List.length_take_le .., List.forall_mem_cons.mpr ⟨?_, hne'⟩, fun h => ?_⟩
      · rw [List.flatten_cons, List.flatten_cons, ← List.append_assoc, List.take_append_drop]
      · exact List.ne_nil_of_length_pos (by rw [List.length_drop]; exact Nat.sub_pos_of_lt hk)
      · rw [List.length_take_of_le (Nat.le_of_lt hk)] at h; exact absurd h (Nat.ne_of_gt hd)

/-- `ps` is a way the socket may deliver the stream `s`: cut into pieces, none of them empty, so that `recv` returns
    nothing only at the end of the stream.  The read loop keeps it between the pieces left and the bytes left
    (`readAllGo_spec`), and it is all the read path sees of a chunking (`readMsg_eq_stream`). -/
def Chunks (ps : List Bytes) (s : Bytes) : Prop := ps.flatten = s ∧ ∀ p ∈ ps, p ≠ []

/- By the loop's own recursion: `acc` followed by what the pieces deliver is the same stream at every turn
   (`recv_spec`), so a piece that is cut needs no case of its own: the next turn finds `acc` full. -/
theorem readAllGo_spec (fuel want : Nat) (acc : Bytes) (ps : List Bytes) :
    ∀ s, Chunks ps s → acc.length ≤ want → want ≤ acc.length + fuel →
    (want ≤ (acc ++ s).length →
       ∃ rest, readAllGo fuel want acc ps = .ok ((acc ++ s).take want) rest ∧ Chunks rest ((acc ++ s).drop want)) ∧
    ((acc ++ s).length < want → readAllGo fuel want acc ps = .eof) := by
  fun_induction readAllGo fuel want acc ps with
  | case1 fuel want acc ps h =>
    intro s hc ha _
    have h : acc.length = want := Nat.le_antisymm ha h
    refine ⟨fun _ => ⟨ps, by rw [List.take_left' h], by rw [List.drop_left' h]; exact hc⟩, fun hl => ?_⟩
    rw [List.length_append, h] at hl
    exact absurd hl (Nat.not_lt.mpr (Nat.le_add_right ..))
  | case2 want acc ps h => exact fun _ _ _ hf => absurd hf h
  | case3 want acc ps h fuel chunk ps' hr hc =>
    rintro _ ⟨rfl, hne⟩ _ _
    have := (recv_spec hne (Nat.sub_pos_of_lt (Nat.lt_of_not_le h)) hr).2.2.2 hc
    subst this
    rw [List.flatten_nil, List.append_nil]
    exact ⟨fun hl => absurd hl h, fun _ => rfl⟩
  | case4 want acc ps h fuel chunk ps' hr hc ih =>
    rintro _ ⟨rfl, hne⟩ _ hf
    have h := Nat.lt_of_not_le h
    obtain ⟨h1, h2, h3, _⟩ := recv_spec hne (Nat.sub_pos_of_lt h) hr
    rw [← h1, ← List.append_assoc]
    refine ih _ ⟨rfl, h3⟩ ?_ ?_ <;> rw [List.length_append]
    · exact Nat.add_le_of_le_sub' (Nat.le_of_lt h) h2
    · omega

theorem readAll_spec (n : Nat) {ps : List Bytes} {s : Bytes} (hc : Chunks ps s) :
    (n ≤ s.length → ∃ rest, readAll n ps = .ok (s.take n) rest ∧ Chunks rest (s.drop n)) ∧
    (s.length < n → readAll n ps = .eof) :=
  readAllGo_spec n n [] ps s hc (Nat.zero_le n) (Nat.le_add_left n _)

theorem splitBy_chunks (ns : List Nat) (s : Bytes) : Chunks (splitBy ns s) (s.take (listSum ns)) := by
  fun_induction splitBy ns s with
  | case1 s => exact ⟨by rw [listSum, List.take_zero]; rfl, nofun⟩
  | case2 n ns s h ih =>
    rw [listSum]
    rcases h with rfl | rfl
    · rwa [Nat.zero_add]
    · rwa [List.take_nil] at ih ⊢
  | case3 n ns s h ih =>
    rw [listSum, List.take_add]
    exact ⟨by rw [List.flatten_cons, ih.1], List.forall_mem_cons.mpr ⟨fun ht => h (List.take_eq_nil_iff.mp ht), ih.2⟩⟩

end Scales.ThriftCodec

namespace Scales.ThriftShared
open Scales.ThriftCodec

theorem clientOutcome_readMsg (sig : Sig) (ps : List Bytes) :
    clientOutcome sig ps = (match readMsg ps with
      | .msg m => decide_ sig m
      | .eof => .err true .eof
      | .bad o => o) := by
  unfold clientOutcome readMsg
  cases readAll 4 ps with
  | ok hdr rest =>
    simp only
    cases readAll (toSigned 4 (fromBE hdr)).toNat rest with
    | ok payload rest2 =>
      simp only
      cases decMsg payload <;> rfl
    | eof => rfl
    | fuel => rfl
  | eof => rfl
  | fuel => rfl

/-- what `readMsg` computes, written on the concatenated stream with the decoder's own readers -/
def streamMsg (s : Bytes) : Rd :=
  match decInt 4 s with
  | none => .eof
  | some (sz, body) =>
    match takeN sz.toNat body with
    | none => .eof
    | some (p, _) =>
      match decMsg p with
      | some m => .msg m
      | none => .bad (.err true .decode)

theorem readMsg_eq_stream {ps : List Bytes} {s : Bytes} (hc : Chunks ps s) : readMsg ps = streamMsg s := by
  obtain ⟨h1, h2⟩ := readAll_spec 4 hc
  unfold streamMsg decInt takeN
  by_cases hlen : 4 ≤ s.length
  · obtain ⟨rest, hr, hc'⟩ := h1 hlen
    obtain ⟨g1, g2⟩ := readAll_spec (toSigned 4 (fromBE (s.take 4))).toNat hc'
    by_cases hl2 : (toSigned 4 (fromBE (s.take 4))).toNat ≤ (s.drop 4).length
    · obtain ⟨rest2, hr2, _⟩ := g1 hl2
      simp only [readMsg, hr, hr2, if_pos hlen, if_pos hl2]
      cases decMsg (List.take (toSigned 4 (fromBE (List.take 4 s))).toNat (List.drop 4 s)) <;> rfl
    · simp only [readMsg, hr, g2 (Nat.lt_of_not_le hl2), if_pos hlen, if_neg hl2]
  · simp only [readMsg, h2 (Nat.lt_of_not_le hlen), if_neg hlen]

theorem streamMsg_frame (p extra : Bytes) (hl : p.length < 2147483648) :
    streamMsg (frame p ++ extra) = match decMsg p with
      | some m => .msg m
      | none => .bad (.err true .decode) := by
  obtain ⟨h1, _, h3⟩ := decInt_encInt_nat 4 p.length (p ++ extra) (fits_i32 hl)
  rw [streamMsg, frame, List.append_assoc, h1]
  dsimp only
  rw [h3, takeN_append]

theorem streamMsg_trunc (p : Bytes) (k : Nat) (hl : p.length < 2147483648) (hk : k < (frame p).length) :
    streamMsg ((frame p).take k) = .eof := by
  rw [frame_length] at hk
  by_cases h4 : k < 4
  · rw [streamMsg, decInt, takeN, if_neg (Nat.not_le.mpr (Nat.lt_of_le_of_lt (List.length_take_le ..) h4))]
  · have : (frame p).take k = encInt 4 p.length ++ p.take (k - 4) := by
      rw [frame, List.take_append, encInt_length, List.take_of_length_le (by rw [encInt_length]; exact Nat.le_of_not_lt h4)]
    obtain ⟨h1, _, h3⟩ := decInt_encInt_nat 4 p.length (p.take (k - 4)) (fits_i32 hl)
    rw [this, streamMsg, h1]
    dsimp only
    rw [h3, takeN, if_neg (Nat.not_le.mpr (Nat.lt_of_le_of_lt (List.length_take_le ..) (by omega : k - 4 < p.length)))]

theorem readMsg_splitBy_reply (name : Bytes) (r : Reply) (sizes : List Nat) (hw : replyWf r = true)
    (hl : (encMsg (replyMsg name r)).length < 2147483648) :
    readMsg (splitBy sizes (replyBytes name r)) =
      if (replyBytes name r).length ≤ listSum sizes then .msg (replyMsg name r) else .eof := by
  rw [readMsg_eq_stream (splitBy_chunks ..)]
  by_cases hcov : (replyBytes name r).length ≤ listSum sizes
  · have := streamMsg_frame _ [] hl
    rw [List.append_nil, decMsg_replyMsg name r hw hl] at this
    rw [if_pos hcov, List.take_of_length_le hcov]
    exact this
  · rw [if_neg hcov]
    exact streamMsg_trunc _ _ hl (Nat.lt_of_not_le hcov)

end Scales.ThriftShared

namespace Scales.ThriftCodec
open Scales.ThriftShared (clientOutcome_readMsg readMsg_splitBy_reply)

theorem appOf_appFields (ty : Int) (msg : Option Bytes) : appOf (appFields ty msg) (0, none) = (ty, msg) := by
  cases msg <;> rfl

theorem decide_replyMsg (sig : Sig) (r : Reply) : decide_ sig (replyMsg sig.name r) = expected sig r := by
  cases r with
  | app ty msg =>
    simp only [decide_, replyMsg, if_true, appOf_appFields, expected]
  | result fs =>
    simp only [decide_, replyMsg, mtException, mtReply, expected, Nat.reduceEqDiff, if_false, ne_eq,
      not_true_eq_false]

theorem clientOutcome_splitBy_reply (sig : Sig) (r : Reply) (sizes : List Nat) (hw : replyWf r = true)
    (hl : (encMsg (replyMsg sig.name r)).length < 2147483648) :
    clientOutcome sig (splitBy sizes (replyBytes sig.name r)) =
      if (replyBytes sig.name r).length ≤ listSum sizes then expected sig r else .err true .eof := by
  rw [clientOutcome_readMsg, readMsg_splitBy_reply sig.name r sizes hw hl]
  by_cases hcov : (replyBytes sig.name r).length ≤ listSum sizes
  · rw [if_pos hcov, if_pos hcov]; exact decide_replyMsg sig r
  · rw [if_neg hcov, if_neg hcov]

theorem firstDeclared_nil (ds : List Nat) : firstDeclared .nil ds = none := by
  induction ds with
  | nil => rfl
  | cons d ds ih => exact ih

theorem firstDeclared_single (fid : Nat) (v : TVal) (ds : List Nat) (h : fid ∈ ds) :
    firstDeclared (.cons fid v .nil) ds = some (fid, v) := by
  induction ds with
  | nil => cases h
  | cons d ds ih =>
    by_cases hd : fid = d
    · subst hd; simp only [firstDeclared, TFields.lookup, if_true]
    · simp only [firstDeclared, TFields.lookup, hd, if_false, ih ((List.mem_cons.mp h).resolve_left hd)]

theorem replyOk_wf (cfg : Cfg) (r : Reply) (h : replyOk cfg r = true) : replyWf r = true :=
  (Bool.and_eq_true _ _ ▸ h).1

theorem specCall_ok (cfg : Cfg) (idx : Nat) (args : TFields)
    (hl : (callPayload cfg.name args).length < 2147483648) :
    specCall cfg idx args (callBytes cfg.name args) (some (cfg.name, mtCall, args)) = .ok := by
  have hc : 4 ≤ (callBytes cfg.name args).length ∧
      toSigned 4 (fromBE ((callBytes cfg.name args).take 4))
        = (((callBytes cfg.name args).length - 4 : Nat) : Int) := by
    rw [callBytes, frame_length, frame_take, lenPrefix_roundtrip _ hl, Nat.add_sub_cancel]
    exact ⟨Nat.le_add_left .., rfl⟩
  simp only [specCall, hc, and_self, not_true_eq_false, if_false, ne_eq]

theorem step_spec_ok (cfg : Cfg) (st : St) (idx : Nat) (op : Op)
    (hop : opOk cfg op = true) : specObs cfg idx op (step cfg st op).2 = .ok := by
  cases op with
  | call args =>
    simp only [opOk, Bool.and_eq_true, decide_eq_true_eq] at hop
    simp only [step, specObs, decMsg_callBytes cfg.name args (encMsg_name_lt hop.2) hop.1]
    exact specCall_ok cfg idx args hop.2
  | reply r sizes =>
    simp only [opOk, Bool.and_eq_true, decide_eq_true_eq] at hop
    simp only [step, specObs, specReply, clientOutcome_splitBy_reply cfg r sizes (replyOk_wf cfg r hop.1) hop.2]
    by_cases hcov : listSum sizes < (replyBytes cfg.name r).length
    · rw [if_pos hcov]
    · rw [if_neg hcov, if_pos (Nat.le_of_not_lt hcov), if_pos rfl]

theorem specGo_trace (cfg : Cfg) : ∀ (ops : List Op) (st : St) (idx : Nat),
    (∀ op ∈ ops, opOk cfg op = true) → specGo cfg idx (comp.trace cfg st ops) = .ok
  | [], _, _, _ => rfl
  | op :: ops, st, idx, h => by
    rw [TComp.trace_cons comp step, specGo]
    exact Verdict.and_ok (step_spec_ok cfg st idx op (h op (List.mem_cons_self ..)))
      (specGo_trace cfg ops _ (idx + 1) fun o ho => h o (List.mem_cons_of_mem _ ho))

mutual
  def TVal.bytesOk : TVal → Bool
    | .str bs => bs.all (fun b => decide (b < 256))
    | .struct fs => TFields.bytesOk fs
    | _ => true
  def TFields.bytesOk : TFields → Bool
    | .nil => true
    | .cons _ v rest => TVal.bytesOk v && TFields.bytesOk rest
end

theorem tyCode_lt (v : TVal) : tyCode v < 256 := by cases v <;> exact of_decide_eq_true rfl

mutual
  theorem encVal_lt : ∀ (v : TVal), v.bytesOk = true → ∀ b ∈ encVal v, b < 256
    | .bool x, _ => by cases x <;> exact List.forall_mem_singleton.mpr (by decide)
    | .i32 n, _ => encInt_lt 4 n
    | .i64 n, _ => encInt_lt 8 n
    | .str bs, h => List.forall_mem_append.mpr
        ⟨encInt_lt _ _, fun b hb => of_decide_eq_true (List.all_eq_true.mp h b hb)⟩
    | .struct fs, h => encFields_lt fs h
  theorem encFields_lt : ∀ (fs : TFields), fs.bytesOk = true → ∀ b ∈ encFields fs, b < 256
    | .nil, _ => List.forall_mem_singleton.mpr (by decide)
    | .cons fid v r, h => by
      rw [TFields.bytesOk, Bool.and_eq_true] at h
      simp only [encFields, List.forall_mem_cons, List.forall_mem_append]
      exact ⟨tyCode_lt v, encInt_lt _ _, encVal_lt v h.1, encFields_lt r h.2⟩
end

theorem encMsg_lt (m : Msg) (hn : ∀ b ∈ m.name, b < 256) (ht : m.mtype < 256) (hb : m.body.bytesOk = true) :
    ∀ b ∈ encMsg m, b < 256 := by
  simp only [encMsg, List.forall_mem_cons, List.forall_mem_append]
  exact ⟨⟨by decide, by decide, by decide, ht, nofun⟩, encInt_lt _ _, hn, encInt_lt _ _, encFields_lt _ hb⟩

end Scales.ThriftCodec
