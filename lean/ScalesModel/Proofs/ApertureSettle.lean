import ScalesModel.Model.Aperture
import Mathlib.Algebra.Order.Field.Rat
import Mathlib.Algebra.Order.Field.Basic
import Mathlib.Logic.Function.Iterate
import Mathlib.Tactic.Ring
import Mathlib.Tactic.Linarith
import Mathlib.Tactic.FieldSimp
import Mathlib.Tactic.NormNum

/-!
  The size dynamics of repeated `_AdjustAperture` calls under a constant smoothed number of
  outstanding requests `n`, every active member healthy and no open pending: a state is
  (active size, number of idle endpoints).
  Under a band wider than a factor two they settle (`settles`); two configurations in which they never do.
-/
namespace Scales.Aperture

def expandCond (cfg : Cfg) (n : Rat) (s : Nat × Nat) : Prop :=
  cfg.maxLoad ≤ apLoad cfg s.1 n ∧ 0 < s.2 ∧ s.1 < cfg.maxSize

def contractCond (cfg : Cfg) (n : Rat) (s : Nat × Nat) : Prop :=
  apLoad cfg s.1 n ≤ cfg.minLoad ∧ cfg.minSize < s.1

instance (cfg : Cfg) (n : Rat) (s : Nat × Nat) : Decidable (expandCond cfg n s) := by
  unfold expandCond; infer_instance
instance (cfg : Cfg) (n : Rat) (s : Nat × Nat) : Decidable (contractCond cfg n s) := by
  unfold contractCond; infer_instance

def sizeStep (cfg : Cfg) (n : Rat) (s : Nat × Nat) : Nat × Nat :=
  if expandCond cfg n s then (s.1 + 1, s.2 - 1)
  else if contractCond cfg n s then (s.1 - 1, s.2 + 1)
  else s

theorem sizeStep_fix (cfg : Cfg) (n : Rat) (s : Nat × Nat) (h1 : ¬ expandCond cfg n s)
    (h2 : ¬ contractCond cfg n s) : sizeStep cfg n s = s := by
  unfold sizeStep; rw [if_neg h1, if_neg h2]

theorem sizeStep_expand {cfg : Cfg} {n : Rat} {s : Nat × Nat} (h : expandCond cfg n s) :
    sizeStep cfg n s = (s.1 + 1, s.2 - 1) := if_pos h

theorem sizeStep_contract {cfg : Cfg} {n : Rat} {s : Nat × Nat} (he : ¬ expandCond cfg n s)
    (h : contractCond cfg n s) : sizeStep cfg n s = (s.1 - 1, s.2 + 1) := (if_neg he).trans (if_pos h)

/-- a band wider than a factor two is wider than what one member more takes off the load per member: the
    load cannot be at or above `max_load` with `k ≥ 1` active members and at or below `min_load` with `k + 1` -/
theorem band_gap (cfg : Cfg) (n : Rat) (h0 : 0 ≤ cfg.minLoad) (hb : 2 * cfg.minLoad < cfg.maxLoad) (k : Nat)
    (hk : 1 ≤ k) (he : cfg.maxLoad ≤ apLoad cfg k n) (hc : apLoad cfg (k + 1) n ≤ cfg.minLoad) : False := by
  unfold apLoad at he hc
  rw [if_neg (Nat.ne_of_gt hk)] at he
  rw [if_neg (Nat.succ_ne_zero k)] at hc
  have hk1 : (1 : Rat) ≤ (k : Rat) := by exact_mod_cast hk
  have hkpos : (0 : Rat) < (k : Rat) := lt_of_lt_of_le one_pos hk1
  rw [le_div_iff₀ hkpos] at he
  rw [div_le_iff₀ (by exact_mod_cast Nat.succ_pos k), Nat.cast_succ] at hc
  have h3 : cfg.minLoad * (k + 1) ≤ 2 * cfg.minLoad * k :=
    calc cfg.minLoad * (k + 1) = cfg.minLoad * k + cfg.minLoad * 1 := mul_add _ _ _
      _ ≤ cfg.minLoad * k + cfg.minLoad * k := add_le_add (le_refl _) (mul_le_mul_of_nonneg_left hk1 h0)
      _ = 2 * cfg.minLoad * k := by rw [mul_assoc, two_mul]
  exact not_le.2 (mul_lt_mul_of_pos_right hb hkpos) (he.trans (hc.trans h3))

theorem no_contract_after_expand (cfg : Cfg) (n : Rat) (hm : 1 ≤ cfg.minSize) (h0 : 0 ≤ cfg.minLoad)
    (hb : 2 * cfg.minLoad < cfg.maxLoad) (s : Nat × Nat) (he : expandCond cfg n s) :
    ¬ contractCond cfg n (s.1 + 1, s.2 - 1) :=
  fun hc => band_gap cfg n h0 hb s.1 (Nat.le_of_lt_succ (lt_of_le_of_lt hm hc.2)) he.1 hc.1

theorem no_expand_after_contract (cfg : Cfg) (n : Rat) (hm : 1 ≤ cfg.minSize) (h0 : 0 ≤ cfg.minLoad)
    (hb : 2 * cfg.minLoad < cfg.maxLoad) (s : Nat × Nat) (hc : contractCond cfg n s) :
    ¬ expandCond cfg n (s.1 - 1, s.2 + 1) := by
  intro he
  have h2 : 2 ≤ s.1 := lt_of_le_of_lt hm hc.2
  refine band_gap cfg n h0 hb (s.1 - 1) (Nat.le_sub_one_of_lt h2) he.1 ?_
  rw [Nat.sub_add_cancel (le_trans (Nat.le_succ 1) h2)]
  exact hc.1

theorem iterate_until {α : Type} (f : α → α) (P : α → Prop) (m : α → Nat) (hdec : ∀ s, P s → m (f s) < m s)
    (hstop : ∀ s, P s → ¬ P (f s) → f (f s) = f s) :
    ∀ (i : Nat) (s : α), m s ≤ i → P s → ∃ k, k ≤ i ∧ f (f^[k] s) = f^[k] s := by
  intro i
  induction i with
  | zero => exact fun s hs hp => absurd (hdec s hp) (Nat.le_zero.1 hs ▸ Nat.not_lt_zero _)
  | succ i ih =>
    intro s hs hp
    by_cases hp' : P (f s)
    · obtain ⟨k, hk, hfix⟩ := ih (f s) (Nat.le_of_lt_succ (lt_of_lt_of_le (hdec s hp) hs)) hp'
      exact ⟨k + 1, Nat.succ_le_succ hk, hfix⟩
    · exact ⟨1, Nat.succ_le_succ (Nat.zero_le i), hstop s hp hp'⟩

theorem fix_pinned (cfg : Cfg) (n : Rat) (t : Nat × Nat) (h : sizeStep cfg n t = t) :
    (cfg.minLoad < apLoad cfg t.1 n ∧ apLoad cfg t.1 n < cfg.maxLoad) ∨
    t.1 ≤ cfg.minSize ∨ cfg.maxSize ≤ t.1 ∨ t.2 = 0 := by
  by_cases he : expandCond cfg n t
  · rw [sizeStep_expand he] at h
    have := congrArg Prod.fst h; simp at this
  · by_cases hc : contractCond cfg n t
    · rw [sizeStep_contract he hc] at h
      have := congrArg Prod.snd h; simp at this
    · unfold expandCond at he; unfold contractCond at hc
      by_cases h1 : cfg.maxLoad ≤ apLoad cfg t.1 n
      · have : ¬ (0 < t.2 ∧ t.1 < cfg.maxSize) := fun hh => he ⟨h1, hh⟩
        by_cases h2 : 0 < t.2
        · right; right; left; exact Nat.le_of_not_lt (fun h3 => this ⟨h2, h3⟩)
        · right; right; right; omega
      · by_cases h2 : apLoad cfg t.1 n ≤ cfg.minLoad
        · right; left; exact Nat.le_of_not_lt (fun h3 => hc ⟨h2, h3⟩)
        · left; exact ⟨lt_of_not_ge h2, lt_of_not_ge h1⟩

theorem settles (cfg : Cfg) (n : Rat) (hm : 1 ≤ cfg.minSize) (h0 : 0 ≤ cfg.minLoad)
    (hb : 2 * cfg.minLoad < cfg.maxLoad) (s : Nat × Nat) :
    ∃ k, k ≤ s.1 + s.2 ∧ sizeStep cfg n ((sizeStep cfg n)^[k] s) = (sizeStep cfg n)^[k] s := by
  by_cases he : expandCond cfg n s
  · -- growth goes on while the load stays high, one idle endpoint at a time, and is not undone
    obtain ⟨k, hk, h⟩ := iterate_until (sizeStep cfg n) (expandCond cfg n) (·.2)
      (fun t ht => by rw [sizeStep_expand ht]; exact Nat.sub_lt ht.2.1 Nat.one_pos)
      (fun t ht hn => by
        rw [sizeStep_expand ht] at hn ⊢
        exact sizeStep_fix cfg n _ hn (no_contract_after_expand cfg n hm h0 hb t ht)) s.2 s (le_refl _) he
    exact ⟨k, le_trans hk (Nat.le_add_left _ _), h⟩
  · by_cases hc : contractCond cfg n s
    · -- so does shrinking while the load stays low
      obtain ⟨k, hk, h⟩ := iterate_until (sizeStep cfg n) (fun t => ¬ expandCond cfg n t ∧ contractCond cfg n t) (·.1)
        (fun t ht => by
          rw [sizeStep_contract ht.1 ht.2]
          exact Nat.sub_lt (Nat.zero_lt_of_lt ht.2.2) Nat.one_pos)
        (fun t ht hn => by
          have hx := no_expand_after_contract cfg n hm h0 hb t ht.2
          rw [sizeStep_contract ht.1 ht.2] at hn ⊢
          exact sizeStep_fix cfg n _ hx fun h => hn ⟨hx, h⟩) s.1 s (le_refl _) ⟨he, hc⟩
      exact ⟨k, le_trans hk (Nat.le_add_right _ _), h⟩
    · exact ⟨0, Nat.zero_le _, sizeStep_fix cfg n s he hc⟩

theorem never_settles_of_swap {α : Type} {f : α → α} {s t : α} (h1 : f s = t) (h2 : f t = s) (hne : s ≠ t) :
    ∀ k, f (f^[k] s) ≠ f^[k] s := by
  have key : ∀ k, f^[k] s = s ∨ f^[k] s = t := by
    intro k
    induction k with
    | zero => exact Or.inl rfl
    | succ k ih =>
      rw [Function.iterate_succ_apply']
      rcases ih with h | h <;> rw [h]
      · exact Or.inr h1
      · exact Or.inl h2
  intro k
  rcases key k with h | h <;> rw [h]
  · exact h1 ▸ hne.symm
  · exact h2 ▸ hne

/-- `min_load = max_load`: two members under a constant load of two requests make the aperture
    grow and shrink for ever -/
def oscCfg : Cfg := ⟨true, 1, 4, 1, 1, false, []⟩

theorem osc_step1 : sizeStep oscCfg 2 (2, 1) = (3, 0) :=
  sizeStep_expand (by unfold expandCond apLoad oscCfg; norm_num)

theorem osc_step2 : sizeStep oscCfg 2 (3, 0) = (2, 1) :=
  sizeStep_contract (by unfold expandCond; simp) (by unfold contractCond apLoad oscCfg; norm_num)

theorem osc_never_settles : ∀ k, sizeStep oscCfg 2 ((sizeStep oscCfg 2)^[k] (2, 1)) ≠ (sizeStep oscCfg 2)^[k] (2, 1) :=
  never_settles_of_swap osc_step1 osc_step2 (by decide)

/-- `min_size = 0` with no traffic: the dynamics alternate between no active member and one -/
def oscCfg0 : Cfg := ⟨true, 0, 4, 1 / 2, 2, false, []⟩

theorem osc0_step1 : sizeStep oscCfg0 0 (0, 1) = (1, 0) :=
  sizeStep_expand (by unfold expandCond apLoad oscCfg0; norm_num)

theorem osc0_step2 : sizeStep oscCfg0 0 (1, 0) = (0, 1) :=
  sizeStep_contract (by unfold expandCond; simp) (by unfold contractCond apLoad oscCfg0; norm_num)

theorem osc0_never_settles :
    ∀ k, sizeStep oscCfg0 0 ((sizeStep oscCfg0 0)^[k] (0, 1)) ≠ (sizeStep oscCfg0 0)^[k] (0, 1) :=
  never_settles_of_swap osc0_step1 osc0_step2 (by decide)

end Scales.Aperture
