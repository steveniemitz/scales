/-
  Proofs/SerialLemmas.lean — the serial transport model.  Under its invariant a state has one of
  four forms (`Shape`), and `Tr` is the table of what every operation does on every form, proved
  once from the model (`tr`).  By cases on its rows: the invariant is kept, what a connection
  failure does (`Tr.conn_failure`), and the simulation between the model and the accumulator of its
  executable specification (`Rel`, `accOf`, `Tr.sim`).  Beside it `TStep`: an upper bound on what one
  operation can do to the transaction in flight in any state, invariant or not.  At the end `step_ok` (an
  enabled step is accepted and keeps `Rel`) and, over runs, what Props/C08 cites: `spec_of_rel`, `issued_le`.
-/
import ScalesModel.Adapter.Serial
import ScalesModel.Proofs.TransportLemmas
import ScalesModel.Proofs.VerdictLemmas
import ScalesModel.Proofs.RunLemmas
namespace Scales.Serial
open Scales.Transport

/-- Holds at operation boundaries. The last clause is the re-connect window of Props/C08: `_state` Open
    *without* a connected socket only occurs while a transaction is blocked in the re-connect of its
    time-out handler (`_processing` set): never on an idle transport -/
def Inv (s : St) : Prop :=
  (s.sockOpen = true → s.cstate = .opened) ∧ (s.cstate = .opened → s.openRes = true) ∧
  (∀ t, s.processing = some t → s.cstate = .opened ∧ (t.phase = .reconn ↔ s.sockOpen = false)) ∧
  (s.cstate = .opened → s.sockOpen = false → s.processing.isSome = true)

def owedOf (s : St) : List Nat :=
  match s.processing with
  | none => []
  | some t => [t.id]

theorem mem_owedOf {s : St} {id : Nat} : id ∈ owedOf s ↔ ∃ t, s.processing = some t ∧ t.id = id := by
  unfold owedOf; cases s.processing <;> simp [eq_comm]

def rcOf (s : St) : Option (List Nat) :=
  match s.processing with
  | none => none
  | some t => if t.phase = .reconn then some [t.id] else none

theorem inv_init : Inv St.init := by simp [Inv, St.init]

/-- the four forms of a state satisfying `Inv`: no socket; open and idle; a transaction blocked in an
    I/O call; a transaction blocked in the re-connect of its time-out handler -/
abbrev St.down (cs : CS) (ores : Bool) : St := ⟨cs, false, ores, none⟩
abbrev St.openIdle : St := ⟨.opened, true, true, none⟩
abbrev St.inIO (id : Nat) (dl : Bool) (ph : Phase) : St := ⟨.opened, true, true, some ⟨id, dl, ph⟩⟩
abbrev St.reconnecting (id : Nat) (dl : Bool) : St := ⟨.opened, false, true, some ⟨id, dl, .reconn⟩⟩

inductive Shape : St → Prop
  | down (cs : CS) (ores : Bool) : cs ≠ .opened → Shape (St.down cs ores)
  | openIdle : Shape St.openIdle
  | inIO (id : Nat) (dl : Bool) (ph : Phase) : ph ≠ .reconn → Shape (St.inIO id dl ph)
  | reconnecting (id : Nat) (dl : Bool) : Shape (St.reconnecting id dl)

theorem Shape.inv {s : St} (h : Shape s) : Inv s := by
  cases h <;> simp_all [Inv]

theorem Inv.shape {s : St} (h : Inv s) : Shape s := by
  obtain ⟨cs, so, ores, p⟩ := s
  obtain ⟨h1, h2, h3, h4⟩ := h
  cases p with
  | none =>
    cases so with
    | true => cases h1 rfl; cases h2 rfl; exact .openIdle
    | false => exact .down cs ores fun e => by simpa using h4 e rfl
  | some t =>
    obtain ⟨id, dl, ph⟩ := t
    obtain ⟨rfl, hph⟩ := h3 _ rfl
    cases h2 rfl
    cases so with
    | true => exact .inIO id dl ph fun e => by simpa using hph.mp e
    | false => cases hph.mpr rfl; exact .reconnecting id dl

theorem Shape.closed : Shape (St.down .closed false) := .down .closed false nofun

/-- the re-connect of the time-out handler of request `id` has concluded, whichever way the handler was
    entered: the request gets its TimeoutError, and the transport is open and idle again or went through `_Fault` -/
def reconnected (id : Nat) : Conn → St × Out
  | .ok => (St.openIdle, { eff := { dels := [(id, .timeout)], conns := 1 } })
  | .refuse => (St.down .closed false, { eff := { faults := 1, dels := [(id, .timeout)], conns := 1 } })

/-- What every operation does on every form of a state satisfying `Inv`: the state before, the operation, the
    state after and all the operation put out, each written out; `tr` shows that `stepOut` is always one of
    the rows.  The operations that `enabled` excludes have their rows too: they find no transaction where they
    could act (`ignored`; with no id seen every request is fresh, so `enabled s []` is `enabled` for the
    operations that are not requests) — except end-of-stream on the write, which the model treats as the
    connection failure it would be (`eof` with `ph = .write`). -/
inductive Tr : St → Op → St → Out → Prop
  | look {s} : Tr s .look s {}
  | close {s} : Tr s .close (St.down .closed false) {}
  | reopen {s} (r) : s.openRes = true → Tr s (.openT r) s {}
  | ignored {s} (op) : enabled s [] op = false → connFailure s op = false → Tr s op s {}
  | opened {cs} : Tr (St.down cs false) (.openT .ok) St.openIdle { eff := { conns := 1 } }
  -- `_Fault` does nothing on a transport that reports `closed`
  | openRefused : Tr (St.down .idle false) (.openT .refuse) (St.down .closed false) { eff := { faults := 1, conns := 1 } }
  | openRefusedClosed : Tr (St.down .closed false) (.openT .refuse) (St.down .closed true) { eff := { conns := 1 } }
  | downExpired {cs ores id dl} : cs ≠ .opened → (∃ r, dl = .past r) ∨ dl = .pastBlock → Tr (St.down cs ores) (.req id dl)
      (St.down cs ores) { eff := { dels := [(id, .timeout)] } }
  | downFail {ores id dl} : dl = .none ∨ dl = .future → Tr (St.down .idle ores) (.req id dl)
      (St.down .closed false) { eff := { faults := 1, dels := [(id, .other)] } }
  | downFailClosed {ores id dl} : dl = .none ∨ dl = .future → Tr (St.down .closed ores) (.req id dl)
      (St.down .closed ores) { eff := { dels := [(id, .other)] } }
  | start {id dl} : dl = .none ∨ dl = .future → Tr St.openIdle (.req id dl) (St.inIO id (dl == .future) .write) {}
  | expired {id} (r) : Tr St.openIdle (.req id (.past r)) (reconnected id r).1 (reconnected id r).2
  | expiredBlock {id} : Tr St.openIdle (.req id .pastBlock) (St.reconnecting id true) {}
  -- `inIO` and `reconnecting` alike
  | reject {so} (t i dl) : Tr ⟨.opened, so, true, some t⟩ (.req i dl) ⟨.opened, so, true, some t⟩ { eff := { dels := [(i, .conc)] } }
  | wrote {id dl} : Tr (St.inIO id dl .write) (.io .ok) (St.inIO id dl .read4) { sent := [id] }
  | header {id dl} : Tr (St.inIO id dl .read4) (.io .ok) (St.inIO id dl .readN) {}
  | reply {id dl} : Tr (St.inIO id dl .readN) (.io .ok) St.openIdle { eff := { dels := [(id, .stream)] } }
  | raised {id dl ph} : ph ≠ .reconn → Tr (St.inIO id dl ph) (.io .raise) (St.down .closed false)
      { eff := { faults := 1, dels := [(id, .other)] } }
  | eof {id dl ph} : ph ≠ .reconn → Tr (St.inIO id dl ph) (.io .eof) (St.down .closed false)
      { eff := { faults := 1, dels := [(id, .eof)] } }
  | timedOut {id ph} (r) : ph ≠ .reconn →
      Tr (St.inIO id true ph) (.timeoutHere r) (reconnected id r).1 (reconnected id r).2
  | timedOutBlock {id ph} : ph ≠ .reconn → Tr (St.inIO id true ph) .timeoutBlock (St.reconnecting id true) {}
  | reconnDone {id dl} (r) : Tr (St.reconnecting id dl) (.reconn r) (reconnected id r).1 (reconnected id r).2

theorem tr {s : St} (h : Shape s) (op : Op) : Tr s op (stepOut s op).1 (stepOut s op).2 := by
  cases op with
  | look => exact .look
  | close => exact .close
  | openT r =>
    cases h with
    | down cs ores hcs =>
      cases ores with
      | true => exact .reopen r rfl
      | false => cases r with
        | ok => exact .opened
        | refuse => cases cs with
          | idle => exact .openRefused
          | closed => exact .openRefusedClosed
          | opened => exact absurd rfl hcs
    | _ => exact .reopen r rfl
  | req id dl =>
    cases h with
    | down cs ores hcs =>
      cases dl with
      | past r => exact .downExpired hcs (.inl ⟨r, rfl⟩)
      | pastBlock => exact .downExpired hcs (.inr rfl)
      | none => cases cs with
        | idle => exact .downFail (.inl rfl)
        | closed => exact .downFailClosed (.inl rfl)
        | opened => exact absurd rfl hcs
      | future => cases cs with
        | idle => exact .downFail (.inr rfl)
        | closed => exact .downFailClosed (.inr rfl)
        | opened => exact absurd rfl hcs
    | openIdle =>
      cases dl with
      | none => exact .start (.inl rfl)
      | future => exact .start (.inr rfl)
      | past r => cases r <;> exact .expired _
      | pastBlock => exact .expiredBlock
    | inIO i b ph => exact .reject _ id dl
    | reconnecting i b => exact .reject _ id dl
  | io o =>
    cases h with
    | inIO id dl ph hph =>
      cases o with
      | ok =>
        cases ph with
        | write => exact .wrote
        | read4 => exact .header
        | readN => exact .reply
        | reconn => exact absurd rfl hph
      | raise =>
        cases ph with
        | reconn => exact absurd rfl hph
        | _ => exact .raised hph
      | eof =>
        cases ph with
        | reconn => exact absurd rfl hph
        | _ => exact .eof hph
    | _ => cases o <;> exact .ignored _ rfl rfl
  | timeoutHere r =>
    cases h with
    | inIO id dl ph hph =>
      cases dl with
      | false => cases r <;> exact .ignored _ rfl rfl
      | true =>
        cases ph with
        | reconn => exact absurd rfl hph
        | _ => cases r <;> exact .timedOut _ hph
    | reconnecting id dl => cases dl <;> cases r <;> exact .ignored _ rfl rfl
    | _ => cases r <;> exact .ignored _ rfl rfl
  | timeoutBlock =>
    cases h with
    | inIO id dl ph hph =>
      cases dl with
      | false => exact .ignored _ rfl rfl
      | true =>
        cases ph with
        | reconn => exact absurd rfl hph
        | _ => exact .timedOutBlock hph
    | reconnecting id dl => cases dl <;> exact .ignored _ rfl rfl
    | _ => exact .ignored _ rfl rfl
  | reconn r =>
    cases h with
    | reconnecting id dl => cases r <;> exact .reconnDone _
    | inIO id dl ph hph =>
      cases ph with
      | reconn => exact absurd rfl hph
      | _ => cases r <;> exact .ignored _ rfl rfl
    | _ => cases r <;> exact .ignored _ rfl rfl

theorem Tr.shape {s s' : St} {op : Op} {o : Out} (h : Shape s) (ht : Tr s op s' o) : Shape s' := by
  cases ht with
  | look | reopen | ignored | reject => exact h
  | close | raised | eof | openRefused | downFail => exact .closed
  | opened | reply => exact .openIdle
  | openRefusedClosed | downFailClosed => exact .down .closed _ nofun
  | downExpired => exact h
  | start => exact .inIO _ _ .write nofun
  | wrote => exact .inIO _ _ .read4 nofun
  | header => exact .inIO _ _ .readN nofun
  | expiredBlock | timedOutBlock => exact .reconnecting _ true
  | expired r | timedOut r | reconnDone r => cases r with
    | ok => exact .openIdle
    | refuse => exact .closed

theorem inv_step (s : St) (op : Op) (h : Inv s) : Inv (stepOut s op).1 := ((tr h.shape op).shape h.shape).inv

theorem inv_runOps (ops : List Op) : ∀ s, Inv s → Inv (runOps s ops) := by
  induction ops with
  | nil => exact fun _ h => h
  | cons op ops ih => exact fun s h => ih _ (inv_step s op h)

theorem Inv.eq_idle {s : St} (h : Inv s) (hopen : s.state = .opened) (hidle : s.processing = none) :
    s = St.openIdle := by
  cases h.shape with
  | down cs ores hcs => exact absurd hopen hcs
  | openIdle => rfl
  | inIO => cases hidle
  | reconnecting => cases hidle

theorem Inv.eq_txn {s : St} {t : Txn} (h : Inv s) (hp : s.processing = some t) :
    s = ⟨.opened, t.phase != .reconn, true, some t⟩ := by
  cases h.shape with
  | inIO id dl ph hph =>
    cases hp
    cases ph with
    | reconn => exact absurd rfl hph
    | _ => rfl
  | reconnecting => cases hp; rfl
  | _ => cases hp

theorem connFailure_req {s : St} {op : Op} {t : Txn} (h : connFailure s op = true) (hp : s.processing = some t) :
    isReq op = none := by
  cases op with
  | req id dl =>
    rcases dl with _ | _ | (_ | _) | _
    case past.refuse => simp [connFailure, hp] at h
    all_goals cases h
  | _ => rfl

/-- the clauses failed / closed / signalled of C08 (Adapter/Serial.lean) on the model: what is in flight — the
    transaction, or the request just issued — gets one error, once, and nothing else is handed out -/
theorem Tr.conn_failure {s s' : St} {op : Op} {o : Out} (ht : Tr s op s' o) (hf : connFailure s op = true) :
    ∃ k, k.isError = true ∧ o.eff.dels = (owedOf s ++ (isReq op).toList).map (·, k) ∧
      s'.state = .closed ∧ o.eff.faults = (if s.state = .closed then 0 else 1) ∧ s'.processing = none := by
  cases ht with
  | ignored _ _ hn => cases hn.symm.trans hf
  | reopen r hres => cases r <;> simp [connFailure, hres] at hf
  | downExpired _ hdl => rcases hdl with ⟨_ | _, rfl⟩ | rfl <;> cases hf
  | downFail hdl | downFailClosed hdl | start hdl => rcases hdl with rfl | rfl <;> cases hf
  | reject => cases connFailure_req hf rfl
  | openRefused | openRefusedClosed | raised => exact ⟨.other, rfl, rfl, rfl, rfl, rfl⟩
  | eof => exact ⟨.eof, rfl, rfl, rfl, rfl, rfl⟩
  | expired r | timedOut r | reconnDone r =>
    cases r with
    | ok => cases hf
    | refuse => exact ⟨.timeout, rfl, rfl, rfl, rfl, rfl⟩
  | _ => cases hf

/-- what one operation can do to the transaction in flight, with no invariant assumed: `_processing` before,
    the operation, `_processing` after, the responses handed out, the frames that reached the peer.  An upper
    bound, coarse so that eleven rows cover every state (`same`, `drop`, `fail` hold of any operation that is
    not a request, `refuse` and `fail` of any error, `start` of any `hasDl`); what does happen in a state
    under `Inv` is `Tr`. -/
inductive TStep : Option Txn → Op → Option Txn → List (Nat × Resp) → List Nat → Prop
  | same {p op} : isReq op = none → TStep p op p [] []
  | drop {p op} : isReq op = none → TStep p op none [] []
  | reject (t) {id dl} : TStep (some t) (.req id dl) (some t) [(id, .conc)] []
  | refuse {id dl k} : k.isError = true → TStep none (.req id dl) none [(id, k)] []
  | start {id dl b} : dl = .none ∨ dl = .future → TStep none (.req id dl) (some ⟨id, b, .write⟩) [] []
  | startBlocked {id} : TStep none (.req id .pastBlock) (some ⟨id, true, .reconn⟩) [] []
  | wrote (t) : t.phase = .write → TStep (some t) (.io .ok) (some { t with phase := .read4 }) [] [t.id]
  | header (t) : t.phase = .read4 → TStep (some t) (.io .ok) (some { t with phase := .readN }) [] []
  | reply (t) : t.phase = .readN → TStep (some t) (.io .ok) none [(t.id, .stream)] []
  | fail (t) {op k} : isReq op = none → k.isError = true → TStep (some t) op none [(t.id, k)] []
  | block (t) : t.phase ≠ .reconn → TStep (some t) .timeoutBlock (some { t with phase := .reconn }) [] []

theorem tstep (s : St) (op : Op) :
    TStep s.processing op (stepOut s op).1.processing (stepOut s op).2.eff.dels (stepOut s op).2.sent := by
  obtain ⟨cs, so, ores, p⟩ := s
  cases op with
  | look => exact .same rfl
  | close => exact .drop rfl
  | openT r =>
    cases ores with
    | true => exact .same rfl
    | false =>
      cases r with
      | ok => exact .same rfl
      | refuse =>
        cases so with
        | true => exact .drop rfl
        | false =>
          cases cs with
          | closed => exact .same rfl
          | _ => exact .drop rfl
  | req id dl =>
    cases p with
    | some t => exact .reject t
    | none =>
      cases so with
      | true =>
        cases dl with
        | none => exact .start (.inl rfl)
        | future => exact .start (.inr rfl)
        | past r => cases r <;> exact .refuse rfl
        | pastBlock => exact .startBlocked
      | false =>
        cases dl with
        | past r => exact .refuse rfl
        | pastBlock => exact .refuse rfl
        | _ => exact .refuse rfl
  | io o =>
    cases p with
    | none => exact .same rfl
    | some t =>
      obtain ⟨id, dl, ph⟩ := t
      cases o with
      | ok =>
        cases ph with
        | write => exact .wrote _ rfl
        | read4 => exact .header _ rfl
        | readN => exact .reply _ rfl
        | reconn => exact .same rfl
      | raise =>
        cases ph with
        | reconn => exact .same rfl
        | _ => exact .fail _ rfl rfl
      | eof =>
        cases ph with
        | reconn => exact .same rfl
        | _ => exact .fail _ rfl rfl
  | timeoutHere r =>
    cases p with
    | none => exact .same rfl
    | some t =>
      obtain ⟨id, dl, ph⟩ := t
      cases dl with
      | false => exact .same rfl
      | true =>
        cases ph with
        | reconn => exact .same rfl
        | _ => cases so <;> cases r <;> exact .fail _ rfl rfl
  | timeoutBlock =>
    cases p with
    | none => exact .same rfl
    | some t =>
      obtain ⟨id, dl, ph⟩ := t
      cases dl with
      | false => exact .same rfl
      | true =>
        cases ph with
        | reconn => exact .same rfl
        | _ =>
          cases so with
          | true => exact .block _ nofun
          | false => exact .fail _ rfl rfl
  | reconn r =>
    cases p with
    | none => exact .same rfl
    | some t =>
      obtain ⟨id, dl, ph⟩ := t
      cases ph with
      | reconn => cases r <;> exact .fail _ rfl rfl
      | _ => exact .same rfl

/-- who is handed a response; unless it is a request turned away (`ChannelConcurrencyError`), `_processing` is clear
    afterwards -/
theorem TStep.handed {p p' : Option Txn} {op : Op} {dels : List (Nat × Resp)} {sent : List Nat}
    (h : TStep p op p' dels sent) {id : Nat} {r : Resp} (hd : (id, r) ∈ dels) :
    (∃ t, p = some t ∧ isReq op = some id ∧ r = .conc) ∨
    p' = none ∧ ((∃ t, p = some t ∧ t.id = id ∧ isReq op = none ∧ (r = .stream → t.phase = .readN)) ∨
      (p = none ∧ isReq op = some id ∧ r.isError = true)) := by
  cases h with
  | reject t => cases List.mem_singleton.mp hd; exact .inl ⟨t, rfl, rfl, rfl⟩
  | refuse hk => cases List.mem_singleton.mp hd; exact .inr ⟨rfl, .inr ⟨rfl, rfl, hk⟩⟩
  | reply t ht => cases List.mem_singleton.mp hd; exact .inr ⟨rfl, .inl ⟨t, rfl, rfl, rfl, fun _ => ht⟩⟩
  | fail t hop hk =>
    cases List.mem_singleton.mp hd
    exact .inr ⟨rfl, .inl ⟨t, rfl, rfl, hop, fun e => by cases e; cases hk⟩⟩
  | _ => cases hd

theorem TStep.sent_in_write {p p' : Option Txn} {op : Op} {dels : List (Nat × Resp)} {sent : List Nat}
    (h : TStep p op p' dels sent) {id : Nat} (hid : id ∈ sent) :
    ∃ t, p = some t ∧ t.id = id ∧ t.phase = .write := by
  cases h with
  | wrote t ht => exact ⟨t, rfl, (List.mem_singleton.mp hid).symm, ht⟩
  | _ => cases hid

theorem TStep.in_reconn {t : Txn} {p' : Option Txn} {op : Op} {dels : List (Nat × Resp)} {sent : List Nat}
    (h : TStep (some t) op p' dels sent) (hph : t.phase = .reconn) : sent = [] ∧ (p' = none ∨ p' = some t) := by
  cases h with
  | wrote _ hw => cases hw.symm.trans hph
  | header _ hr => cases hr.symm.trans hph
  | block _ hb => exact absurd hph hb
  | same => exact ⟨rfl, .inr rfl⟩
  | reject => exact ⟨rfl, .inr rfl⟩
  | _ => exact ⟨rfl, .inl rfl⟩

theorem TStep.enters_reconn {p p' : Option Txn} {op : Op} {dels : List (Nat × Resp)} {sent : List Nat}
    (h : TStep p op p' dels sent) (hop : op = .timeoutBlock ∨ ∃ id, op = .req id .pastBlock) :
    sent = [] ∧ ∀ t', p' = some t' → p ≠ some t' → t'.phase = .reconn := by
  cases h with
  | same => exact ⟨rfl, fun _ h1 h2 => absurd h1 h2⟩
  | reject => exact ⟨rfl, fun _ h1 h2 => absurd h1 h2⟩
  | start hdl =>
    obtain h | ⟨_, h⟩ := hop <;> cases h
    obtain h | h := hdl <;> cases h
  | startBlocked => exact ⟨rfl, fun _ h _ => by cases h; rfl⟩
  | block => exact ⟨rfl, fun _ h _ => by cases h; rfl⟩
  | wrote => obtain h | ⟨_, h⟩ := hop <;> cases h
  | header => obtain h | ⟨_, h⟩ := hop <;> cases h
  | _ => exact ⟨rfl, nofun⟩

/-- where a transaction in flight after the step comes from; none comes back out of the re-connect -/
theorem TStep.origin {p p' : Option Txn} {op : Op} {dels : List (Nat × Resp)} {sent : List Nat}
    (h : TStep p op p' dels sent) {t' : Txn} (ht : p' = some t') :
    (∃ t, p = some t ∧ t.id = t'.id ∧ (t'.phase ≠ .reconn → t.phase ≠ .reconn)) ∨
    (∃ dl, op = .req t'.id dl ∧ p = none ∧ (dl = .none ∨ dl = .future ∨ t'.phase = .reconn)) := by
  cases h with
  | same => exact .inl ⟨t', ht, rfl, id⟩
  | reject => exact .inl ⟨t', ht, rfl, id⟩
  | start hdl => cases ht; exact .inr ⟨_, rfl, rfl, hdl.imp_right .inl⟩
  | startBlocked => cases ht; exact .inr ⟨_, rfl, rfl, .inr (.inr rfl)⟩
  | wrote t hw => cases ht; exact .inl ⟨t, rfl, rfl, fun _ => hw ▸ nofun⟩
  | header t hr => cases ht; exact .inl ⟨t, rfl, rfl, fun _ => hr ▸ nofun⟩
  | block t => cases ht; exact .inl ⟨t, rfl, rfl, fun h => absurd rfl h⟩
  | _ => cases ht

/-- `TStep` does not say which error is handed out; for the time-out arm: `TimeoutError`, and `_processing` is
    clear whatever the re-connect does -/
theorem txnTimeout_ends (s : St) (id : Nat) (r : Conn) :
    (s.txnTimeout id r).1.processing = none ∧ (s.txnTimeout id r).2.dels = [(id, .timeout)] := by
  unfold St.txnTimeout
  split
  · cases r <;> exact ⟨rfl, rfl⟩
  · exact ⟨rfl, rfl⟩

/-- the simulation relation: what the accumulator of the specification (`Acc`, Adapter/Serial.lean) has
    reconstructed from the observations so far is what the model's state says, and `seen` are the
    request ids issued so far (`enabled` only lets fresh ones in) -/
structure Rel (s : St) (a : Acc) (seen : List Nat) : Prop where
  owed : a.owed = owedOf s
  prev : a.prev = s.state
  -- `a.wr` (set by `nextWr`: a request accepted on an open idle transport) is blocked in its write
  wr : ∀ id, a.wr = some id → ∃ t, s.processing = some t ∧ t.id = id ∧ t.phase = .write
  -- the request in flight is not fresh: a later request cannot carry its id
  seenO : ∀ id ∈ a.owed, id ∈ seen
  rc : a.rc = rcOf s
  inv : Inv s

def seenAfter (op : Op) (seen : List Nat) : List Nat :=
  match isReq op with
  | some id => id :: seen
  | none => seen

theorem mem_seenAfter_of_mem {op : Op} {seen : List Nat} {id : Nat} (h : id ∈ seen) : id ∈ seenAfter op seen := by
  unfold seenAfter; cases isReq op with
  | none => exact h
  | some i => exact List.mem_cons_of_mem _ h

theorem mem_seenAfter_of_req {op : Op} {seen : List Nat} {id : Nat} (h : isReq op = some id) :
    id ∈ seenAfter op seen := by
  rw [seenAfter, h]; exact List.mem_cons_self

theorem opsOk_cons {s : St} {seen : List Nat} {op : Op} {ops : List Op} :
    opsOk s seen (op :: ops) = true ↔ enabled s seen op = true ∧ opsOk (stepOut s op).1 (seenAfter op seen) ops = true :=
  Bool.and_eq_true_iff

/-- the history of any component that steps by `step` (`serial`, `serial2`, `serial12`), in the terms the simulations use -/
theorem trace_cons (c : TComp Unit St Op Obs) (s : St) (op : Op) (ops : List Op) (hc : c.step = step := by rfl) :
    c.trace () s (op :: ops) = (op, obsOf (stepOut s op).1 (stepOut s op).2) :: c.trace () (stepOut s op).1 ops :=
  TComp.trace_cons c step hc () s op ops

theorem enabled_fresh {s : St} {seen : List Nat} {op : Op} {id : Nat} (hen : enabled s seen op = true)
    (hr : isReq op = some id) : id ∉ seen := by
  cases op with
  | req i dl => cases hr; simpa [enabled] using hen
  | _ => cases hr

theorem enabled_nil {s : St} {seen : List Nat} {op : Op} (h : enabled s seen op = true) : enabled s [] op = true := by
  cases op with
  | req => rfl
  | _ => exact h

theorem rel_init : Rel St.init {} [] := ⟨rfl, rfl, nofun, nofun, rfl, inv_init⟩

/-- The accumulator `Rel` leaves possible beside `s`: `owed`, `prev` and `rc` are read off the state, so a step of
    the simulation is an equation between two such accumulators (`Tr.sim`) and these fields of `Rel` hold of its
    right side by `rfl`.  The three arguments carry history that no state determines: the requests in flight at
    earlier `Close()`s, whether the request in flight was accepted on an open idle transport with nothing but
    `look` since (`nextWr`; `Rel.wr` bounds it), the number of observations. -/
def accOf (s : St) (ab : List Nat) (wr : Option Nat) (idx : Nat) : Acc := ⟨owedOf s, ab, s.state, wr, rcOf s, idx⟩

section
attribute [local simp] specStep owedWith vFail vSilence vCarry vAble nextAcc nextWr nextRc idleOpen isReq isFailure
  firstNotFailed settle Resp.isError obsOf St.state accOf owedOf rcOf

/-- by unfolding alone (`rfl`) on the rows where no request ids have to be compared, by `simp` where a response is
    settled against the requests owed one -/
theorem Tr.sim {seen : List Nat} {s s' : St} {a : Acc} {op : Op} {o : Out} (ht : Tr s op s' o) (h : Rel s a seen)
    (hen : enabled s seen op = true) :
    specStep a op (obsOf s' o) =
      (.ok, accOf s' (if op = .close then a.abandoned ++ owedOf s else a.abandoned) (nextWr a op) (a.idx + 1)) := by
  obtain ⟨owed, ab, prev, wr, rc, idx⟩ := a
  obtain ⟨ho, hp, hw, hseen, hr, hinv⟩ := h
  simp only at ho hp hw hseen hr ⊢
  subst ho hp hr
  have hs := hinv.shape
  cases ht with
  | ignored _ hd => cases hd.symm.trans (enabled_nil hen)
  | look => cases hs with
    | down _ _ hcs => simp [hcs]
    | _ => rfl
  | close => cases hs with
    | down => simp
    | _ => rfl
  | reopen r => cases hs with
    | down _ _ hcs => cases r <;> simp [hcs]
    | _ => cases r <;> rfl
  | reject t i dl' =>
    -- `i` is fresh, so it is not the request in flight
    have hne : t.id ≠ i := fun e => enabled_fresh hen rfl (hseen i (by simp [e]))
    rcases dl' with _ | _ | (_ | _) | _ <;> simp [hne, hne.symm]
  | opened | openRefused | openRefusedClosed => rfl
  | downExpired hcs hdl => rcases hdl with ⟨_ | _, rfl⟩ | rfl <;> simp [hcs]
  | downFail hdl | downFailClosed hdl => rcases hdl with rfl | rfl <;> simp
  | start hdl => rcases hdl with rfl | rfl <;> rfl
  | expired r => cases r <;> simp [reconnected]
  | expiredBlock => simp
  | wrote =>
    -- `vCarry`: a write that was awaited (`wr = some id`) sent `[id]`
    cases wr with
    | none => rfl
    | some i => obtain ⟨_, ht, rfl, -⟩ := hw i rfl; cases ht; simp
  | header =>
    cases wr with
    | none => rfl
    | some i => obtain ⟨_, ht, -, hp⟩ := hw i rfl; cases ht; cases hp
  | reply =>
    cases wr with
    | none => simp
    | some i => obtain ⟨_, ht, -, hp⟩ := hw i rfl; cases ht; cases hp
  | raised hph | eof hph => simp [hph]
  | timedOut r hph => cases r <;> simp [reconnected, hph]
  | timedOutBlock => simp
  | reconnDone r => cases r <;> simp [reconnected]
end

theorem nextWr_write {seen : List Nat} {s : St} {a : Acc} (h : Rel s a seen) {op : Op} {id : Nat}
    (hn : nextWr a op = some id) : ∃ t, (stepOut s op).1.processing = some t ∧ t.id = id ∧ t.phase = .write := by
  have idle : idleOpen a = true → s = St.openIdle := fun hi => by
    obtain ⟨hst, how⟩ := of_decide_eq_true hi
    cases hp : s.processing with
    | none => exact h.inv.eq_idle (h.prev ▸ hst) hp
    | some t => simp [h.owed, owedOf, hp] at how
  cases op with
  | look => exact h.wr id hn
  | req i dl =>
    rcases dl with _ | _ | _ | _ <;> simp only [nextWr, reduceCtorEq, Option.ite_none_right_eq_some, Option.some.injEq] at hn
    all_goals obtain ⟨hi, rfl⟩ := hn; cases idle hi; exact ⟨_, rfl, rfl, rfl⟩
  | _ => cases hn

theorem step_ok (s : St) (a : Acc) (seen : List Nat) (op : Op) (h : Rel s a seen)
    (hen : enabled s seen op = true) :
    (specStep a op (obsOf (stepOut s op).1 (stepOut s op).2)).1 = .ok ∧
    Rel (stepOut s op).1 (specStep a op (obsOf (stepOut s op).1 (stepOut s op).2)).2
      (seenAfter op seen) := by
  have ht := tr h.inv.shape op
  rw [ht.sim h hen]
  -- what is not read off the state: `wr`; the ids seen; the invariant
  refine ⟨rfl, rfl, rfl, fun _ => nextWr_write h, fun id hid => ?_, rfl, inv_step s op h.inv⟩
  obtain ⟨t', hp, rfl⟩ := mem_owedOf.mp hid
  rcases (tstep s op).origin hp with ⟨t, ht, hte, -⟩ | ⟨dl, rfl, -⟩
  · exact mem_seenAfter_of_mem (h.seenO _ (h.owed ▸ mem_owedOf.mpr ⟨t, ht, hte⟩))
  · exact mem_seenAfter_of_req rfl

theorem specStep_count {a : Acc} {op : Op} {o : Obs} (id : Nat) (h : (specStep a op o).1 = .ok) :
    o.dels.countP (fun d => d.1 == id) +
        ((specStep a op o).2.owed.count id + (specStep a op o).2.abandoned.count id) =
      a.owed.count id + a.abandoned.count id + (if (isReq op == some id) = true then 1 else 0) := by
  unfold specStep at h ⊢
  cases hset : settle (owedWith a op) a.abandoned o.dels with
  | error e => rw [hset] at h; cases h
  | ok pr => exact settle_step_count id (isReq op) hset

theorem spec_count (id : Nat) : ∀ (h : List (Op × Obs)) (a : Acc), specGo a h = .ok →
    responsesTo id h ≤ a.owed.count id + a.abandoned.count id + issued id h := by
  intro h
  induction h with
  | nil => intro a _; exact Nat.zero_le _
  | cons p rest ih =>
    intro a hok
    obtain ⟨op, o⟩ := p
    simp only [specGo] at hok
    obtain ⟨hv, hrest⟩ := Verdict.and_eq_ok.1 hok
    have h1 := specStep_count id hv
    have h2 := ih _ hrest
    simp only [responsesTo, issued, List.map_cons, List.sum_cons, List.countP_cons] at h2 ⊢
    omega

theorem spec_of_rel : ∀ (ops : List Op) (s : St) (a : Acc) (seen : List Nat), Rel s a seen →
    opsOk s seen ops = true → specGo a (comp.trace () s ops) = .ok := by
  intro ops
  induction ops with
  | nil => intros; rfl
  | cons op ops ih =>
    intro s a seen hrel hok
    obtain ⟨hen, hrest⟩ := opsOk_cons.mp hok
    obtain ⟨hv, hrel'⟩ := step_ok s a seen op hrel hen
    rw [trace_cons comp, specGo]
    exact Verdict.and_ok hv (ih _ _ _ hrel' hrest)

theorem issued_le (id : Nat) : ∀ (ops : List Op) (s : St) (seen : List Nat),
    opsOk s seen ops = true →
    issued id (comp.trace () s ops) ≤ (if id ∈ seen then 0 else 1) := by
  intro ops
  induction ops with
  | nil => intros; exact Nat.zero_le _
  | cons op ops ih =>
    intro s seen hok
    obtain ⟨hen, hrest⟩ := opsOk_cons.mp hok
    have ih' := ih _ _ hrest
    rw [trace_cons comp, issued, List.countP_cons, ← issued]
    cases hr : isReq op with
    | none => simpa [seenAfter, hr] using ih'
    | some i =>
      have hfresh : i ∉ seen := enabled_fresh hen hr
      simp only [seenAfter, hr] at ih'
      by_cases e : i = id
      · subst e; simp [hfresh] at ih' ⊢; exact ih'
      · have : id ∈ i :: seen ↔ id ∈ seen := by simp [Ne.symm e]
        simp only [this] at ih'
        simpa [e] using ih'

theorem trace_obs_reachable : ∀ (ops : List Op) (s : St), Inv s →
    ∀ p ∈ comp.trace () s ops, ∃ s' o, Inv s' ∧ p.2 = obsOf s' o := by
  intro ops
  induction ops with
  | nil => intro s _ p hp; cases hp
  | cons op ops ih =>
    intro s hinv p hp
    rw [trace_cons comp, List.mem_cons] at hp
    rcases hp with rfl | hp
    · exact ⟨_, _, inv_step s op hinv, rfl⟩
    · exact ih _ (inv_step s op hinv) p hp

end Scales.Serial
