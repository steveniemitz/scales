/-
  Proofs/ServerSetSteps.lean — C19: what each step function of Model/ServerSet.lean does, in the form
  the proofs use it: inversion of the partial functions (`pump` … `next`), the result of a recipe
  callback and of a tree operation as a record update, and what these leave alone.

  Every enabled operation is a transition that leaves the worker where it is (`Plain`), or one after
  which the worker wakes up (`Waking`, then `Woke`, what `wake` does round by round): `Step`, `next_cases`.
-/
import ScalesModel.Proofs.ServerSetLemmas
namespace Scales.ServerSet

theorem mem_todo {members q : List Nat} {n : Nat} :
    n ∈ q.filter (fun n => !members.contains n) ↔ n ∈ q ∧ n ∉ members := by
  simp only [List.mem_filter, Bool.not_eq_true', List.contains_eq_mem, decide_eq_false_iff_not]

theorem filter_nil_memberOk (cfg : Cfg) : ([] : List Nat).filter cfg.memberOk = [] := rfl

/-- what `wake` does, one round of the worker loop at a time: the worker stays where it is (it is in the middle
    of an update, a listing holds it back, or nothing is queued); an update that needs no read is delivered and
    the loop goes on; an update needs a read, which is requested.  The label `nxt` is not recorded: no proof
    reads it.  The state a round starts from is written with `q :: qs` and `none` in place, so that whatever is
    known of it speaks of them by reduction. -/
inductive Woke : St → St → List Note → Prop
  | stay {s : St} : (s.job = none → s.lists.isEmpty = true → s.queue = []) → Woke s s []
  | skip {s s' : St} {q : List Nat} {qs : List (List Nat)} {ns : List Note} : (∀ n ∈ q, n ∈ s.members) →
      Woke { s with members := (finishJob s.members q []).1, queue := qs, job := none } s' ns →
      Woke { s with queue := q :: qs, job := none } s' ((finishJob s.members q []).2 ++ ns)
  | read {s : St} {q : List Nat} {qs : List (List Nat)} {n : Nat} :
      n ∈ q.filter (fun n => !s.members.contains n) →
      Woke { s with queue := q :: qs, job := none }
        { s with queue := qs, job := some ⟨q, (q.filter (fun n => !s.members.contains n)).erase n,
          .requested n, []⟩ } []

theorem pump_woke {nxt : Option Nat} {m : List Nat} {queue : List (List Nat)} {w : WSt}
    (h : pump m queue nxt = some w) (s : St) :
    Woke { s with members := m, queue := queue, job := none }
      { s with members := w.members, queue := w.queue, job := w.job } w.notes := by
  fun_induction pump m queue nxt generalizing w with
  | case1 =>
    cases h
    exact .stay fun _ _ => rfl
  | case3 m q qs nxt todo he r =>
    rename_i ih
    obtain ⟨w0, hw0, rfl⟩ := Option.map_eq_some_iff.mp h
    refine .skip (s := { s with members := m }) (fun n hn => ?_) (ih hw0)
    by_contra hc
    exact List.not_mem_nil (List.isEmpty_iff.mp he ▸ mem_todo.mpr ⟨hn, hc⟩ : n ∈ ([] : List Nat))
  | case4 m =>
    cases h
    exact .read (s := { s with members := m }) (List.contains_iff_mem.mp ‹_›)
  | case2 | case5 | case6 => cases h

theorem wake_woke {s s' : St} {nxt : Option Nat} {ns : List Note} (h : wake s nxt = some (s', ns)) :
    Woke s s' ns := by
  revert h
  fun_cases wake s nxt with
  | case1 j hj =>
    intro h
    cases h
    exact .stay fun h => nomatch hj ▸ h
  | case2 => nofun
  | case3 hj =>
    intro h
    obtain ⟨w, hw, hsw⟩ := Option.map_eq_some_iff.mp h
    cases hsw
    unfold pumpB at hw
    cases hf : s.lists.isEmpty with
    | true =>
      have := pump_woke (by rwa [hf, if_pos rfl] at hw) s
      cases s
      cases hj
      exact this
    | false =>
      rw [hf, if_neg Bool.false_ne_true] at hw
      cases Option.some.inj (Option.ite_none_right_eq_some.mp hw).2
      cases s
      cases hj
      exact .stay fun _ h => nomatch hf ▸ h

/-- the members read, once the answer to the read of `n` is in -/
abbrev gotAfter (got : List Nat) (n : Nat) (found : Bool) : List Nat := if found then got ++ [n] else got

theorem serveStep_cases {s s' : St} (h : serveStep s = some s') :
    ∃ j n, s.job = some j ∧ j.cur = .requested n ∧
      s' = { s with job := some { j with cur := .served n (s.tree.kids.contains n) } } := by
  revert h
  fun_cases serveStep s with
  | case1 j hj n hc => exact fun h => ⟨j, n, hj, hc, (Option.some.inj h).symm⟩
  | case2 | case3 => nofun

theorem serveStep_requested {s : St} {j : Job} {n : Nat} (hj : s.job = some j) (hc : j.cur = .requested n) :
    serveStep s = some { s with job := some { j with cur := .served n (s.tree.kids.contains n) } } := by
  rw [serveStep, hj]
  simp only [hc]

theorem retStep_finish {s : St} {j : Job} {n : Nat} {found : Bool} {nxt : Option Nat} (hj : s.job = some j)
    (hc : j.cur = .served n found) (ht : j.todo = []) :
    retStep s nxt =
      (wake { s with members := (finishJob s.members j.listing (gotAfter j.got n found)).1, job := none }
        nxt).map fun p => (p.1, (finishJob s.members j.listing (gotAfter j.got n found)).2 ++ p.2) := by
  rw [retStep, hj]
  simp only [hc, ht, List.isEmpty_nil, if_true, wake, Option.map_map]
  rfl

theorem retStep_more {s : St} {j : Job} {n m : Nat} {found : Bool} (hj : s.job = some j)
    (hc : j.cur = .served n found) (hm : m ∈ j.todo) :
    retStep s (some m) =
      some ({ s with job := some { j with todo := j.todo.erase m, cur := .requested m,
                                          got := gotAfter j.got n found } }, []) := by
  have he : j.todo.isEmpty = false := List.isEmpty_eq_false_iff_exists_mem.mpr ⟨m, hm⟩
  rw [retStep, hj]
  simp only [hc, he, Bool.false_eq_true, if_false, List.contains_iff_mem.mpr hm, if_true]

theorem retStep_cases {s s' : St} {nxt : Option Nat} {ns : List Note}
    (h : retStep s nxt = some (s', ns)) :
    ∃ j n found, s.job = some j ∧ j.cur = .served n found ∧
      ((j.todo = [] ∧ ∃ ns2,
          wake { s with members := (finishJob s.members j.listing (gotAfter j.got n found)).1, job := none }
            nxt = some (s', ns2) ∧
          ns = (finishJob s.members j.listing (gotAfter j.got n found)).2 ++ ns2) ∨
       (∃ m, m ∈ j.todo ∧ ns = [] ∧
          s' = { s with job := some { j with todo := j.todo.erase m, cur := .requested m,
                                             got := gotAfter j.got n found } })) := by
  revert h
  fun_cases retStep s nxt with
  | case1 nxt j hj n found hc got he r =>
    intro h
    -- nothing left to read: `retStep` runs the loop itself, as `wake` does for the idle worker
    obtain ⟨w, hw, hsw⟩ := Option.map_eq_some_iff.mp h
    cases hsw
    exact ⟨j, n, found, hj, hc, .inl ⟨List.isEmpty_iff.mp he, w.notes, congrArg (Option.map _) hw, rfl⟩⟩
  | case2 j hj n found hc got he m hm =>
    intro h
    cases h
    exact ⟨j, n, found, hj, hc, .inr ⟨m, List.contains_iff_mem.mp hm, rfl, rfl⟩⟩
  | case3 | case4 | case5 | case6 => nofun

/-- two states agree on the tree and on what the recipes and the ServerSet's callbacks keep (not
    necessarily on the worker's variables or on the listings) -/
structure EnvEq (s s' : St) : Prop where
  tree : s'.tree = s.tree
  started : s'.started = s.started
  dw : s'.dw = s.dw
  cw : s'.cw = s.cw
  pending : s'.pending = s.pending
  seen : s'.seen = s.seen
  ever : s'.everCalled = s.everCalled
  watched : s'.watched = s.watched
  nodes : s'.nodes = s.nodes

theorem EnvEq.of_worker (s : St) (m : List Nat) (q : List (List Nat)) (j : Option Job) :
    EnvEq s { s with members := m, queue := q, job := j } :=
  ⟨rfl, rfl, rfl, rfl, rfl, rfl, rfl, rfl, rfl⟩

/-- only `lgen`, `lists` and `done` differ -/
structure ListsOnly (s s1 : St) : Prop where
  env : EnvEq s s1
  members : s1.members = s.members
  queue : s1.queue = s.queue
  job : s1.job = s.job

theorem ListsOnly.of (s : St) (g : Nat) (ls : List Lst) (d : List (Nat × List Nat)) :
    ListsOnly s { s with lgen := g, lists := ls, done := d } :=
  ⟨⟨rfl, rfl, rfl, rfl, rfl, rfl, rfl, rfl, rfl⟩, rfl, rfl, rfl⟩

theorem upd_isEmpty (i : Nat) (f : Lst → Lst) (ls : List Lst) :
    (Lst.upd i f ls).isEmpty = ls.isEmpty := by
  fun_induction Lst.upd i f ls <;> rfl

theorem listStep_listsOnly {cfg : Cfg} {s s1 : St} {nxt : Option Nat} (h : listStep cfg s nxt = some s1) :
    ListsOnly s s1 ∧ (s1.lists.isEmpty = true → s.lists.isEmpty = true) := by
  revert h
  fun_cases listStep cfg s nxt with
  | case1 =>
    intro h
    cases h
    exact ⟨ListsOnly.of s _ _ _, id⟩
  | case3 =>
    intro h
    cases h
    exact ⟨ListsOnly.of s _ _ _, fun h => by simp at h⟩
  | case2 | case4 => nofun

theorem lserveStep_listsOnly {s s1 : St} {i : Nat} (h : lserveStep s i = some s1) :
    ListsOnly s s1 ∧ (s1.lists.isEmpty = true → s.lists.isEmpty = true) := by
  revert h
  fun_cases lserveStep s i with
  | case1 =>
    intro h
    cases h
    exact ⟨ListsOnly.of s _ _ _, fun h => (upd_isEmpty _ _ _).symm.trans h⟩
  | case2 | case3 => nofun

theorem lserveStep_requested {s : St} {i n : Nat} {l : Lst} (hf : s.lists.find? (fun x => x.id = i) = some l)
    (hc : l.cur = .requested n) :
    lserveStep s i = some { s with lists := Lst.upd i (fun x =>
      { x with cur := .served n (s.tree.kids.contains n) }) s.lists } := by
  rw [lserveStep, hf]
  simp only [hc]

theorem lretStep_last {s : St} {i n : Nat} {found : Bool} {l : Lst} {nxt : Option Nat}
    (hf : s.lists.find? (fun x => x.id = i) = some l) (hc : l.cur = .served n found) (ht : l.todo = []) :
    lretStep s i nxt =
      wake { s with lists := Lst.drop i s.lists, done := s.done ++ [(i, gotAfter l.got n found)] } nxt := by
  rw [lretStep, hf]
  simp only [hc, ht, List.isEmpty_nil, if_true]

theorem lretStep_more {s : St} {i n m : Nat} {found : Bool} {l : Lst}
    (hf : s.lists.find? (fun x => x.id = i) = some l) (hc : l.cur = .served n found) (hm : m ∈ l.todo) :
    lretStep s i (some m) = some ({ s with lists := Lst.upd i (fun x =>
      { x with todo := l.todo.erase m, cur := .requested m, got := gotAfter l.got n found }) s.lists }, []) := by
  have he : l.todo.isEmpty = false := List.isEmpty_eq_false_iff_exists_mem.mpr ⟨m, hm⟩
  rw [lretStep, hf]
  simp only [hc, he, Bool.false_eq_true, if_false, List.contains_iff_mem.mpr hm, if_true]

theorem lretStep_cases {s s' : St} {i : Nat} {nxt : Option Nat} {ns : List Note}
    (h : lretStep s i nxt = some (s', ns)) :
    (ListsOnly s s' ∧ (s'.lists.isEmpty = true → s.lists.isEmpty = true) ∧ ns = []) ∨
    (∃ s1, ListsOnly s s1 ∧ wake s1 nxt = some (s', ns)) := by
  revert h
  fun_cases lretStep s i nxt with
  | case1 => exact fun h => .inr ⟨_, ListsOnly.of s _ _ _, h⟩
  | case2 =>
    intro h
    cases h
    exact .inl ⟨ListsOnly.of s _ _ _, fun h => (upd_isEmpty _ _ _).symm.trans h, rfl⟩
  | case3 | case4 | case5 | case6 => nofun

theorem fireData_eq (s : St) :
    fireData s = { s with dw := false, pending := s.pending ++ if s.dw then [Ev.data] else [] } := by
  unfold fireData
  cases s with
  | mk tree started dw =>
    cases dw
    · simp only [Bool.false_eq_true, if_false, List.append_nil]
    · rfl

/-- every tree operation fires all child watches (`c = []`), except the creation of the path -/
theorem treeStep_eq (s : St) (o : TOp) : ∃ d c p,
    treeStep s o = { s with tree := s.tree.apply o, dw := d, cw := c, pending := p } ∧ (c = s.cw ∨ c = []) := by
  cases o with
  | createParent => exact ⟨_, _, _, fireData_eq _, .inl rfl⟩
  | deleteParent => exact ⟨_, _, _, congrArg fireChild (fireData_eq _), .inr rfl⟩
  | createChild n => exact ⟨_, _, _, rfl, .inr rfl⟩
  | deleteChild n => exact ⟨_, _, _, rfl, .inr rfl⟩

/-- `dataDeliver`: the incarnation is the one being watched (or the one seen last, and nothing is
    called); the path is gone; the path has a new incarnation -/
theorem dataDeliver_cases (cfg : Cfg) (s0 : St) :
    ((s0.tree.parent = s0.watched ∨ s0.seen = s0.tree.parent) ∧ dataDeliver cfg s0 =
        { s0 with dw := true, seen := s0.tree.parent, everCalled := true }) ∨
    (s0.tree.parent = none ∧ dataDeliver cfg s0 =
        { s0 with dw := true, seen := none, everCalled := true, watched := none, nodes := [],
                  queue := s0.queue ++ [[]] }) ∨
    (∃ g, s0.tree.parent = some g ∧ dataDeliver cfg s0 =
        { s0 with dw := true, seen := some g, everCalled := true, watched := some g,
                  cw := s0.cw ++ [some g], nodes := s0.tree.kids.filter cfg.memberOk,
                  queue := s0.queue ++ [s0.tree.kids.filter cfg.memberOk] }) := by
  fun_cases dataDeliver cfg s0 with
  | case1 _ _ _ _ _ hw => exact .inl ⟨.inl hw, rfl⟩
  | case2 _ _ _ _ _ _ hp => exact .inr (.inl ⟨hp, hp ▸ rfl⟩)
  | case3 _ _ _ _ _ _ g hp => exact .inr (.inr ⟨g, hp, (if_pos rfl).trans (hp ▸ rfl)⟩)
  | case4 _ _ _ hn =>
    -- nothing is called: the incarnation is the one seen last, and the DataWatch has called before
    rw [Bool.or_eq_true, not_or, bne_iff_ne, Decidable.not_not, Bool.not_eq_true', Bool.not_eq_false] at hn
    refine .inl ⟨.inr hn.1, ?_⟩
    cases s0
    cases hn.2
    rfl

/-- `childDeliver`: nothing happens (a stopped watch, a vanished path); the children are listed
    again; the watch is one left over from an earlier incarnation and stops -/
theorem childDeliver_cases (cfg : Cfg) (s0 : St) (tag : Option Nat) :
    ((tag = none ∨ s0.tree.parent = none) ∧ childDeliver cfg s0 tag = s0) ∨
    (∃ g, tag = some g ∧ s0.tree.parent.isSome = true ∧ s0.watched = some g ∧
      childDeliver cfg s0 tag =
        { s0 with cw := s0.cw ++ [some g], nodes := s0.tree.kids.filter cfg.memberOk,
                  queue := s0.queue ++ [s0.tree.kids.filter cfg.memberOk] }) ∨
    (∃ g, tag = some g ∧ s0.tree.parent.isSome = true ∧ s0.watched ≠ some g ∧
      childDeliver cfg s0 tag = { s0 with cw := s0.cw ++ [none] }) := by
  fun_cases childDeliver cfg s0 tag with
  | case1 => exact .inl ⟨.inl rfl, rfl⟩
  | case2 g hp =>
    fun_cases listChildren cfg s0 g with
    | case1 hw => exact .inr (.inl ⟨g, rfl, hp, hw, rfl⟩)
    | case2 hw => exact .inr (.inr ⟨g, rfl, hp, hw, rfl⟩)
  | case3 g hp => exact .inl ⟨.inr (Option.not_isSome_iff_eq_none.mp hp), rfl⟩

/-- `_nodes` is the current child list and cannot go stale unnoticed: the ChildrenWatch of the
    incarnation being watched holds its watch, or no incarnation is being watched -/
def synced (s : St) : Prop := (∃ g, some g ∈ s.cw ∧ s.watched = some g) ∨ s.watched = none

/-- what a recipe callback does as far as the worker is concerned: it queues nothing, leaves `_nodes`
    alone and cannot make a state synced that was not (a watch left behind by a stopped ChildrenWatch is
    not one of the watched incarnation) — so what held of `_nodes` under `synced` still does; or it pushes
    the new `_nodes`, `[]` or the filtered children -/
structure CbFrame (cfg : Cfg) (s s1 : St) : Prop where
  tree : s1.tree = s.tree
  started : s1.started = s.started
  pending : s1.pending = s.pending
  members : s1.members = s.members
  job : s1.job = s.job
  lists : s1.lists = s.lists
  queue : (s1.queue = s.queue ∧ s1.nodes = s.nodes ∧ (synced s1 → synced s)) ∨
    (s1.queue = s.queue ++ [s1.nodes] ∧
      (s1.nodes = [] ∨ s1.nodes = s.tree.kids.filter cfg.memberOk))

theorem CbFrame.queue_all {cfg : Cfg} {s s1 : St} (fr : CbFrame cfg s s1) {P : List Nat → Prop}
    (h : ∀ l ∈ s.queue, P l) (h0 : P []) (hk : P (s.tree.kids.filter cfg.memberOk)) :
    ∀ l ∈ s1.queue, P l := by
  rcases fr.queue with ⟨hq, _⟩ | ⟨hq, hn⟩
  · exact hq ▸ h
  · rw [hq]
    intro l hl
    rcases List.mem_append.mp hl with hl | hl
    · exact h l hl
    · cases List.mem_singleton.mp hl
      rcases hn with hn | hn <;> rw [hn]
      exacts [h0, hk]

theorem dataDeliver_frame (cfg : Cfg) (s0 : St) : CbFrame cfg s0 (dataDeliver cfg s0) := by
  rcases dataDeliver_cases cfg s0 with ⟨_, h⟩ | ⟨_, h⟩ | ⟨g, _, h⟩ <;> rw [h]
  · exact ⟨rfl, rfl, rfl, rfl, rfl, rfl, Or.inl ⟨rfl, rfl, id⟩⟩
  · exact ⟨rfl, rfl, rfl, rfl, rfl, rfl, Or.inr ⟨rfl, Or.inl rfl⟩⟩
  · exact ⟨rfl, rfl, rfl, rfl, rfl, rfl, Or.inr ⟨rfl, Or.inr rfl⟩⟩

theorem childDeliver_frame (cfg : Cfg) (s0 : St) (tag : Option Nat) :
    CbFrame cfg s0 (childDeliver cfg s0 tag) := by
  rcases childDeliver_cases cfg s0 tag with ⟨_, h⟩ | ⟨g, _, _, _, h⟩ | ⟨g, _, _, _, h⟩ <;> rw [h]
  · exact ⟨rfl, rfl, rfl, rfl, rfl, rfl, Or.inl ⟨rfl, rfl, id⟩⟩
  · exact ⟨rfl, rfl, rfl, rfl, rfl, rfl, Or.inr ⟨rfl, Or.inr rfl⟩⟩
  · refine ⟨rfl, rfl, rfl, rfl, rfl, rfl, Or.inl ⟨rfl, rfl, ?_⟩⟩
    rintro (⟨g', h1, h2⟩ | h)
    · refine Or.inl ⟨g', ?_, h2⟩
      simpa using h1
    · exact Or.inr h

/-- a transition after which the worker wakes up, with the notifications it delivers itself: a
    recipe callback (at construction, or when an event is delivered), the end of an update, the
    return of a listing.  Whether the ServerSet exists is not recorded, here or in `Plain`: no proof reads it. -/
inductive Waking (cfg : Cfg) (s : St) : St → List Note → Prop
  | start : Waking cfg s (dataDeliver cfg { s with started := true }) []
  | data {rest : List Ev} : s.pending = Ev.data :: rest →
      Waking cfg s (dataDeliver cfg { s with pending := rest }) []
  | child {tag : Option Nat} {rest : List Ev} : s.pending = Ev.child tag :: rest →
      Waking cfg s (childDeliver cfg { s with pending := rest } tag) []
  | finish {j : Job} {n : Nat} {found : Bool} : s.job = some j → j.cur = .served n found → j.todo = [] →
      Waking cfg s
        { s with members := (finishJob s.members j.listing (gotAfter j.got n found)).1, job := none }
        (finishJob s.members j.listing (gotAfter j.got n found)).2
  | lret {s1 : St} : ListsOnly s s1 → Waking cfg s s1 []

inductive Plain (s : St) : St → Prop
  | tree {o : TOp} : s.tree.legal o = true → Plain s (treeStep s o)
  | serve {j : Job} {n : Nat} : s.job = some j → j.cur = .requested n →
      Plain s { s with job := some { j with cur := .served n (s.tree.kids.contains n) } }
  | more {j : Job} {n m : Nat} {found : Bool} : s.job = some j → j.cur = .served n found → m ∈ j.todo →
      Plain s { s with job := some { j with todo := j.todo.erase m, cur := .requested m,
                                            got := gotAfter j.got n found } }
  | lists {s1 : St} : ListsOnly s s1 → (s1.lists.isEmpty = true → s.lists.isEmpty = true) → Plain s s1

theorem Woke.tree {s s' : St} {ns : List Note} (h : Woke s s' ns) : s'.tree = s.tree := by
  induction h with
  | stay => rfl
  | skip _ _ ih => exact ih
  | read => rfl

theorem Waking.tree {cfg : Cfg} {s s1 : St} {ns : List Note} (h : Waking cfg s s1 ns) : s1.tree = s.tree := by
  cases h with
  | start => exact (dataDeliver_frame cfg _).tree
  | data => exact (dataDeliver_frame cfg _).tree
  | child => exact (childDeliver_frame cfg _ _).tree
  | finish => rfl
  | lret lo => exact lo.env.tree

inductive Step (cfg : Cfg) (s : St) : St → List Note → Prop
  | plain {s' : St} : Plain s s' → Step cfg s s' []
  | woken {s1 s' : St} {ns1 ns2 : List Note} : Waking cfg s s1 ns1 →
      Woke s1 s' ns2 → Step cfg s s' (ns1 ++ ns2)

theorem next_cases {cfg : Cfg} {s s' : St} {op : Op} {ns : List Note}
    (hn : next cfg s op = some (s', ns)) : s'.tree = specTree s.tree op ∧ Step cfg s s' ns := by
  have woken : ∀ {s1 ns1 nxt ns2}, Waking cfg s s1 ns1 → wake s1 nxt = some (s', ns2) → ns = ns1 ++ ns2 →
      s'.tree = s.tree ∧ Step cfg s s' ns :=
    fun hp hw hns => ⟨(wake_woke hw).tree.trans hp.tree, hns ▸ .woken hp (wake_woke hw)⟩
  revert hn
  fun_cases next cfg s op with
  | case1 o hl =>
    intro h
    cases h
    obtain ⟨d, c, p, h, _⟩ := treeStep_eq s o
    exact ⟨by rw [specTree, if_pos hl, h], .plain (.tree hl)⟩
  | case4 => exact fun h => woken .start h rfl
  | case6 _ _ _ hp => exact fun h => woken (.data hp) h rfl
  | case7 _ _ _ _ hp => exact fun h => woken (.child hp) h rfl
  | case9 =>
    intro h
    obtain ⟨s1, hs1, h⟩ := Option.map_eq_some_iff.mp h
    cases h
    obtain ⟨j, n, hj, hc, rfl⟩ := serveStep_cases hs1
    exact ⟨rfl, .plain (.serve hj hc)⟩
  | case10 =>
    intro h
    obtain ⟨j, n, found, hj, hc, ⟨ht, ns2, hw, hns⟩ | ⟨m, hm, hns, rfl⟩⟩ := retStep_cases h
    · exact woken (.finish hj hc ht) hw hns
    · exact ⟨rfl, hns ▸ .plain (.more hj hc hm)⟩
  | case11 =>
    intro h
    obtain ⟨s1, hs1, h⟩ := Option.map_eq_some_iff.mp h
    cases h
    obtain ⟨lo, hle⟩ := listStep_listsOnly hs1
    exact ⟨lo.env.tree, .plain (.lists lo hle)⟩
  | case13 =>
    intro h
    obtain ⟨s1, hs1, h⟩ := Option.map_eq_some_iff.mp h
    cases h
    obtain ⟨lo, hle⟩ := lserveStep_listsOnly hs1
    exact ⟨lo.env.tree, .plain (.lists lo hle)⟩
  | case15 =>
    intro h
    rcases lretStep_cases h with ⟨lo, hle, hns⟩ | ⟨s1, lo, hw⟩
    · exact ⟨lo.env.tree, hns ▸ .plain (.lists lo hle)⟩
    · exact woken (.lret lo) hw rfl
  | case2 | case3 | case5 | case8 | case12 | case14 | case16 => nofun

end Scales.ServerSet
