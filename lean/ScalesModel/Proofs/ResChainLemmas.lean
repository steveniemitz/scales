/-
  Proofs/ResChainLemmas.lean — schedules of Model/ResChain.lean: FIFO is one of them, `explore`
  really covers all of them, and — while the pool counts at most `sizeBound` transports — every
  pair of watermarks behaves like its clamped pair (`clampWM`), so that exploring the nine
  clamped pairs covers every configuration.  What an exploration establishes is `Ends`: every
  schedule comes to rest within `fuel` steps, in a state of which the explored property holds.
-/
import ScalesModel.Adapter.ResPool
namespace Scales.Chain

theorem run_quiet (w : WM) (c : C) (h : c.tasks.length = 0) (ks : List Nat) : run w c ks = c := by
  cases ks with
  | nil => rfl
  | cons k ks => simp [run, h]

theorem run_append (w : WM) (c : C) (a b : List Nat) : run w (run w c a) b = run w c (a ++ b) := by
  induction a generalizing c with
  | nil => rfl
  | cons k ks ih =>
    by_cases h : c.tasks.length = 0
    · simp [run, h, run_quiet w c h]
    · simp [run, h, ih]

theorem runFIFO_eq_run (w : WM) (c : C) (n : Nat) : runFIFO w c n = run w c (List.replicate n 0) := by
  induction n generalizing c with
  | zero => rfl
  | succ n ih =>
    by_cases h : c.tasks.length = 0
    · simp [runFIFO, List.replicate_succ, run, h]
    · simp [runFIFO, List.replicate_succ, run, h, ih]

theorem clamp_lo (w : WM) (n : Nat) (h : n ≤ sizeBound) : n ≤ (clampWM w).lo ↔ n ≤ w.lo := by
  simp only [clampWM, sizeBound] at *
  omega

theorem clamp_hi (w : WM) (n : Nat) (h : n ≤ sizeBound) : n < (clampWM w).hi ↔ n < w.hi := by
  simp only [clampWM, sizeBound] at *
  omega

theorem trFault_pSize (c : C) : (trFault c).pSize = c.pSize := by
  unfold trFault push; split <;> rfl

/-- the watermarks enter a task only through the two comparisons with the pool's current size -/
theorem runTask_congr {w v : WM} {c : C} (t : Task) (hlo : c.pSize ≤ w.lo ↔ c.pSize ≤ v.lo)
    (hhi : c.pSize < w.hi ↔ c.pSize < v.hi) : runTask w c t = runTask v c t := by
  have hr : ∀ x : C, x.pSize = c.pSize → poolRelease w x = poolRelease v x := fun x hx => by
    simp only [poolRelease, hx, hlo]
  cases t with
  | poolOpen => simp only [runTask, hr { c with pCache := false } rfl, hhi]
  | wakeGet => simp only [runTask, hr (if c.fixed = true then c else { c with tSub := true }) (by split <;> rfl)]
  | reqStart eof => simp only [runTask, hhi]
  | tx eof => simp only [runTask, hr c rfl, hr (trFault c) (trFault_pSize c)]
  | reply => simp only [runTask, hr c rfl]
  | _ => rfl

theorem runTask_clamp (w : WM) (c : C) (t : Task) (h : c.pSize ≤ sizeBound) :
    runTask (clampWM w) c t = runTask w c t :=
  runTask_congr t (clamp_lo w _ h) (clamp_hi w _ h)

theorem fire_clamp (w : WM) (c : C) (i : Nat) (h : c.pSize ≤ sizeBound) :
    fire (clampWM w) c i = fire w c i := by
  unfold fire
  split
  · exact runTask_clamp w _ _ (by simpa using h)
  · rfl

/-- the fold is the inner one of `explore`, collecting the lists `f i` -/
theorem foldr_collect_mem {α β : Type} (f : α → Option (List β)) (l : List α) (fs : List β)
    (h : l.foldr (fun i acc => do let a ← acc; let b ← f i; pure (b ++ a)) (some []) = some fs) (i : α) (hi : i ∈ l) :
    ∃ b, f i = some b ∧ ∀ x ∈ b, x ∈ fs := by
  induction l generalizing fs with
  | nil => cases hi
  | cons j l ih =>
    simp only [List.foldr_cons, bind, Option.bind_eq_some_iff, pure, Option.some.injEq] at h
    obtain ⟨a, ha, b, hb, rfl⟩ := h
    rcases List.mem_cons.mp hi with rfl | hi'
    · exact ⟨b, hb, fun x hx => List.mem_append_left _ hx⟩
    · obtain ⟨b', hb', hsub⟩ := ih a ha hi'
      exact ⟨b', hb', fun x hx => List.mem_append_right _ (hsub x hx)⟩

theorem explore_sound (w : WM) (n : Nat) (c : C) (fs : List C) (h : explore (clampWM w) n c = some fs)
    (picks : List Nat) (hl : n ≤ picks.length) :
    run w c picks ∈ fs ∧ (run w c picks).tasks.length = 0 ∧ run w c picks = run (clampWM w) c picks := by
  revert h
  -- the cases of `explore`: out of fuel (at rest: 1, not: 2), too many transports (3), at rest (4), the fold over the queue (5)
  fun_induction explore (clampWM w) n c generalizing fs picks
  case case2 | case3 => nofun
  case case1 c hq => rintro ⟨⟩; simp [run_quiet _ c hq.1, hq.1]
  case case4 c _ hq => rintro ⟨⟩; simp [run_quiet _ c hq, hq]
  case case5 n c hb hq ih =>
    intro h
    cases picks with
    | nil => cases hl
    | cons k ks =>
      obtain ⟨b, hb', hsub⟩ := foldr_collect_mem _ _ fs h _ (List.mem_range.mpr (Nat.mod_lt k (Nat.pos_of_ne_zero hq)))
      obtain ⟨hm, hquiet, heq⟩ := ih _ b ks (Nat.le_of_succ_le_succ hl) hb'
      rw [fire_clamp w c _ (Nat.le_of_not_lt hb)] at hm hquiet heq
      simp only [run, hq, if_false, fire_clamp w c _ (Nat.le_of_not_lt hb)]
      exact ⟨hsub _ hm, hquiet, heq⟩

def Ends (w : WM) (c : C) (P : C → Prop) : Prop :=
  ∀ picks : List Nat, (fuel ≤ picks.length → (run w c picks).tasks = []) ∧
    ((run w c picks).tasks = [] → P (run w c picks))

theorem Ends.mono {w : WM} {c : C} {P Q : C → Prop} (h : Ends w c P) (hPQ : ∀ x, P x → Q x) : Ends w c Q :=
  fun picks => ⟨(h picks).1, fun hq => hPQ _ ((h picks).2 hq)⟩

theorem ends_of_explore (w : WM) (c : C) (fs : List C) (P : C → Prop)
    (h : explore (clampWM w) fuel c = some fs) (hP : ∀ x ∈ fs, P x) : Ends w c P := by
  intro picks
  refine ⟨fun hl => List.eq_nil_of_length_eq_zero (explore_sound w fuel c fs h picks hl).2.1, fun hq => ?_⟩
  -- a schedule that has come to rest may be prolonged to the exploration depth
  have := (explore_sound w fuel c fs h (picks ++ List.replicate fuel 0) (by simp)).1
  rw [← run_append, run_quiet _ _ (by rw [hq]; rfl)] at this
  exact hP _ this

end Scales.Chain

namespace Scales.Pool
open Scales.Chain

/-- `drain` is a schedule of length ≥ `fuel` -/
theorem drain_eq_run (w : WM) (c : C) (sched : List Nat) :
    drain w c sched = run w c (sched ++ List.replicate fuel 0) := by
  unfold drain; rw [runFIFO_eq_run, run_append]

theorem _root_.Scales.Chain.Ends.drain {w : WM} {c : C} {P : C → Prop} (h : Ends w c P) (sched : List Nat) :
    P (drain w c sched) := by
  rw [drain_eq_run]
  have := h (sched ++ List.replicate fuel 0)
  exact this.2 (this.1 (by simp))

end Scales.Pool
