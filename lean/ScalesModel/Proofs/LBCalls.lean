import ScalesModel.Proofs.ApertureCalm
import ScalesModel.Proofs.LBBaseLemmas
import ScalesModel.Adapter.LB

/-!
  One operation of the balancer (Adapter/LB.lean `stepSt`) as the list of calls the base class
  (Model/LBBase.lean) and the adapter make into the subclass, in order: callbacks applied, requests passed to
  `_AsyncProcessRequestImpl`, and in between whatever the subclass does on its own; the list is labelled with the
  results the operation reports.  `stepSt_calls` is proved once from the model; a fact about an operation is a fact
  about the four kinds of call (the constructors of `Calls` but `nil`), folded along the list (`Calls.fold` for facts
  that hold along calm moves and along a request; `Calls.full` in Proofs/LBInv.lean).  The last part is what an
  operation does to the fields of the base class itself, `initDone`, `blocked` and `queued` (`act_base`).
-/
namespace Scales.LB
open Scales.Heap Scales.Aperture Scales.LBBase

theorem tapesRead_frame (lb : St) :
    (tapesRead lb).initDone = lb.initDone ∧ (tapesRead lb).blocked = lb.blocked ∧
    (tapesRead lb).queued = lb.queued ∧ (tapesRead lb).sub.openAr = lb.sub.openAr := by
  unfold tapesRead
  split
  · exact ⟨rfl, rfl, rfl, rfl⟩
  · exact ⟨rfl, rfl, rfl, rfl⟩

theorem tapesRead_moves (cfg : Cfg) (lb : St) : Moves cfg lb.sub (tapesRead lb).sub := by
  unfold tapesRead
  split
  · exact .refl
  · exact Moves.aux

/-- `expire k`: the deadline event of the `k`-th waiting request is set, as the specification's queue has it
    (`gateArriveB`); `bad` is left open (`∃ b`: the proof sets it if there is no such request) -/
theorem act_expire (cfg : Cfg) (lb : St) (k : Nat) :
    ∃ b, act cfg lb (.expire k) =
      ({ feed lb ⟨[], []⟩ with sub := { (feed lb ⟨[], []⟩).sub with bad := b },
                                queued := gateArriveB lb.queued (.expire k) false }, []) := by
  have hq : gateArriveB lb.queued (.expire k) false =
      match lb.queued[k]? with | some (some _) => lb.queued.set k (some true) | _ => lb.queued := rfl
  rw [hq]
  rcases expire_cases (feed lb ⟨[], []⟩) k with ⟨b, h, e⟩ | ⟨h, e⟩
  · refine ⟨lb.sub.bad, ?_⟩
    rw [show lb.queued[k]? = some (some b) from h]
    simp only [act, e]; rfl
  · refine ⟨true, ?_⟩
    simp only [act, e]
    split
    · rename_i b h'; exact absurd h' (h b)
    · rfl

theorem ofFlush_ne_queued (g : Option GetRes) : ResV.ofFlush g ≠ .queued := by
  cases g with
  | none => exact ResV.noConfusion
  | some g => cases g <;> exact ResV.noConfusion

theorem ofGet_ne_queued (g : GetRes) : ResV.ofGet g ≠ .queued := ofFlush_ne_queued (some g)

theorem filterMap_flushed {β : Type} (φ : ResV → Option β) (h : φ .queued = none) (l : List ResV) :
    (l.filter (· ≠ .queued)).filterMap φ = l.filterMap φ := by
  rw [List.filterMap_filter]
  refine List.filterMap_congr fun x _ => ?_
  split
  · rfl
  · rename_i hx; rw [of_not_not (of_decide_eq_false (Bool.eq_false_iff.2 hx)), h]

/-- the results of an operation with the marker `queued` filtered out: those of the operation proper, then what became of the
    waiting requests -/
theorem flushed_results (l : List ResV) (fr : List (Option GetRes)) :
    (l.filter (· ≠ .queued) ++ fr.map ResV.ofFlush ++ l.filter (· = .queued)).filter (· ≠ .queued) =
      l.filter (· ≠ .queued) ++ fr.map ResV.ofFlush := by
  have h1 : (l.filter (· ≠ .queued) ++ fr.map ResV.ofFlush).filter (· ≠ .queued) = _ := List.filter_eq_self.2 fun x hx =>
    (List.mem_append.1 hx).elim (fun h => (List.mem_filter.1 h).2) fun h => by
      obtain ⟨g, _, rfl⟩ := List.mem_map.1 h
      exact decide_eq_true (ofFlush_ne_queued g)
  have h2 : (l.filter (· = .queued)).filter (· ≠ .queued) = [] := List.filter_eq_nil_iff.2 fun x hx =>
    of_decide_eq_true (List.mem_filter.1 hx).2 ▸ fun h => of_decide_eq_true h rfl
  rw [List.filter_append, h1, h2, List.append_nil]

/-- a callback: a join of a key of `_servers` does nothing; otherwise `_servers` is updated, then the subclass is told -/
theorem applyNotif_shape (cfg : Cfg) (a : AS) (n : Notif) :
    (∃ ep, n = .join ep ∧ ep ∈ a.hs.servers ∧ applyNotif (sub cfg) a n = a) ∨
    (∃ ep, n = .join ep ∧ ep ∉ a.hs.servers ∧
      applyNotif (sub cfg) a n = AS.addSink cfg ((sub cfg).setServers a (a.hs.servers ++ [ep])) ep) ∨
    (∃ ep, n = .leave ep ∧
      applyNotif (sub cfg) a n = AS.removeSink cfg ((sub cfg).setServers a (a.hs.servers.filter (· ≠ ep))) ep) := by
  cases n with
  | join ep =>
    by_cases hm : ep ∈ (sub cfg).servers a
    · exact Or.inl ⟨ep, rfl, hm, addServer_old _ hm⟩
    · exact Or.inr (Or.inl ⟨ep, rfl, hm, addServer_new _ hm⟩)
  | leave ep => exact Or.inr (Or.inr ⟨ep, rfl, rfl⟩)

theorem applyNotif_calm (cfg : Cfg) (a : AS) (n : Notif) : Calm a (applyNotif (sub cfg) a n) := by
  rcases applyNotif_shape cfg a n with ⟨_, _, _, e⟩ | ⟨ep, _, _, e⟩ | ⟨ep, _, e⟩ <;> rw [e]
  · exact Calm.refl a
  · exact Calm.trans (b := (sub cfg).setServers a (a.hs.servers ++ [ep])) (Calm.of_reqs rfl) (addSink_calm cfg _ ep)
  · exact Calm.trans (b := (sub cfg).setServers a (a.hs.servers.filter (· ≠ ep))) (Calm.of_reqs rfl)
      (removeSink_calm cfg _ ep)

/-- The labels are the callbacks applied and the results reported (all but the marker `queued`, as in `Obs.flushed`);
    the calls: the subclass on its own (`own`: the hub's turn, `_OpenInitialChannels`, an open result, a jitter round;
    the tapes), a request, a waiting request dropped without a call, a callback.  What follows a request applies no
    callback: an answer is an eligible endpoint of the state the operation ends in because nothing leaves the balancer
    behind it. -/
inductive Calls (cfg : Cfg) : AS → List Notif → List ResV → AS → Prop
  | nil (a : AS) : Calls cfg a [] [] a
  | own {a b c : AS} {ns : List Notif} {rs : List ResV} : Moves cfg a b → Calls cfg b ns rs c → Calls cfg a ns rs c
  | request {a c : AS} {rs : List ResV} :
      Calls cfg (a.get cfg).1 [] rs c → Calls cfg a [] (ResV.ofGet (a.get cfg).2 :: rs) c
  | dropped {a c : AS} {ns : List Notif} {rs : List ResV} : Calls cfg a ns rs c → Calls cfg a ns (.dropped :: rs) c
  | notif {a c : AS} {ns : List Notif} {rs : List ResV} (n : Notif) :
      Calls cfg (applyNotif (sub cfg) a n) ns rs c → Calls cfg a (n :: ns) rs c

variable {cfg : Cfg}

theorem Calls.inner {a b : AS} (m : Moves cfg a b) : Calls cfg a [] [] b := .own m (.nil b)

theorem Calls.trans {a b c : AS} {ns ns' : List Notif} {rs rs' : List ResV} (p : Calls cfg a ns rs b)
    (q : Calls cfg b ns' rs' c) (ord : rs = [] ∨ ns' = []) : Calls cfg a (ns ++ ns') (rs ++ rs') c := by
  induction p with
  | nil => exact q
  | own m _ ih => exact .own m (ih q ord)
  | request _ ih =>
    obtain rfl : ns' = [] := ord.resolve_left (List.cons_ne_nil _ _)
    exact .request (ih q (Or.inr rfl))
  | dropped _ ih => exact .dropped (ih q (ord.imp_left fun h => nomatch h))
  | notif n _ ih => exact .notif n (ih q ord)

theorem foldl_notif_calls (ns : List Notif) : ∀ a : AS, Calls cfg a ns [] (ns.foldl (applyNotif (sub cfg)) a) := by
  induction ns with
  | nil => exact Calls.nil
  | cons n ns ih => exact fun a => .notif n (ih _)

/-- the subclass state when the calls begin: the tapes are loaded and the log is cleared, and what is the
    operation's own has been done — a completion has run `PutWrapper()`, a channel event has set the state,
    `_OpenImpl` has emptied `_servers` -/
def entry (cfg : Cfg) (lb : St) : Op → AS
  | .put r j e => (feed lb e).sub.put cfg r j
  | .chan nid st => (feed lb ⟨[], []⟩).sub.setChan nid st
  | .loaded _ e => (sub cfg).setServers (feed lb e).sub []
  | .join _ e | .leave _ e | .get e | .getd e | .opened _ _ e | .jitter e => (feed lb e).sub
  | .opn | .expire _ => (feed lb ⟨[], []⟩).sub

/-- the callbacks an operation applies to the subclass: the one it carries (`notifOf`, Proofs/LBSpec.lean) if the
    initial list is installed, none while it is loading; `loaded` installs the list and replays the waiting ones -/
def applied (lb : St) : Op → List Notif
  | .loaded l _ => l.map Notif.join ++ lb.blocked
  | .join ep _ => if lb.initDone then [.join ep] else []
  | .leave ep _ => if lb.initDone then [.leave ep] else []
  | _ => []

theorem flush_calls (q : List (Option Bool)) :
    ∀ a : AS, Calls cfg a [] ((flush (sub cfg) q a).2.map ResV.ofFlush) (flush (sub cfg) q a).1 := by
  induction q with
  | nil => exact Calls.nil
  | cons e q ih =>
    intro a
    by_cases hl : live e = true
    · rw [flush_live _ hl]; exact .request (ih _)
    · rw [flush_dead _ hl]; exact .dropped (ih a)

theorem finish_calls (lb : St) :
    Calls cfg lb.sub [] ((lb.finish (sub cfg)).2.map ResV.ofFlush) (lb.finish (sub cfg)).1.sub := by
  rcases finish_cases (sub cfg) lb with ⟨s0, h0, _, _, e⟩ | ⟨_, e⟩ <;> rw [e]
  · have p0 : Calls cfg lb.sub [] [] s0 := by
      rcases h0 with h0 | h0 <;> rw [h0]
      · exact Calls.nil _
      · exact Calls.inner (settle_moves cfg _)
    have p := (p0.trans (flush_calls lb.queued s0) (Or.inl rfl)).trans (Calls.inner (settle_moves cfg _)) (Or.inr rfl)
    simp only [List.nil_append, List.append_nil] at p
    exact p
  · exact Calls.inner (settle_moves cfg _)

theorem notify_calls (lb : St) (n : Notif) :
    Calls cfg lb.sub (if lb.initDone then [n] else []) [] (lb.notify (sub cfg) n).sub := by
  unfold LB.notify
  split
  · exact .notif n (.nil _)
  · exact Calls.nil _

theorem foldl_addServer_eq (cfg : Cfg) (l : List Nat) (a : AS) :
    l.foldl (addServer (sub cfg)) a = (l.map Notif.join).foldl (applyNotif (sub cfg)) a :=
  (List.foldl_map (f := Notif.join) (g := applyNotif (sub cfg))).symm

theorem load_calls (lb : St) (l : List Nat) :
    Calls cfg ((sub cfg).setServers lb.sub []) (l.map Notif.join ++ lb.blocked) [] (lb.load (sub cfg) l).sub := by
  unfold LB.load loadInitial
  rw [foldl_addServer_eq]
  have p := ((foldl_notif_calls (cfg := cfg) (l.map Notif.join) ((sub cfg).setServers lb.sub [])).trans
    (Calls.inner (openInitial_moves cfg _)) (Or.inl rfl)).trans (foldl_notif_calls lb.blocked _) (Or.inl rfl)
  rwa [List.append_nil] at p

theorem request_calls (lb : St) (evt : Option Bool) :
    Calls cfg lb.sub []
      ((match (lb.request (sub cfg) evt).2 with | some g => [ResV.ofGet g] | none => [ResV.queued]).filter (· ≠ ResV.queued))
      (lb.request (sub cfg) evt).1.sub := by
  by_cases hr : (sub cfg).openReady lb.sub = true
  · rw [request_ready _ hr]
    show Calls cfg _ [] ([ResV.ofGet _].filter (· ≠ .queued)) _
    rw [List.filter_cons_of_pos (by rw [decide_eq_true_eq]; exact ofGet_ne_queued _)]; exact .request (.nil _)
  · rw [request_wait _ hr]; exact Calls.nil _

theorem act_calls (lb : St) (op : Op) :
    Calls cfg (entry cfg lb op) (applied lb op) ((act cfg lb op).2.filter (· ≠ .queued)) (act cfg lb op).1.sub := by
  cases op with
  | opn => exact Calls.nil _
  | loaded l e => exact load_calls (feed lb e) l
  | join ep e => exact notify_calls (feed lb e) _
  | leave ep e => exact notify_calls (feed lb e) _
  | get e => exact request_calls (feed lb e) none
  | getd e => exact request_calls (feed lb e) (some false)
  | expire k =>
    obtain ⟨b, e⟩ := act_expire cfg lb k
    rw [e]; exact Calls.inner Moves.aux
  | put r j e => exact Calls.nil _
  | chan nid s => exact Calls.nil _
  | opened nid ok e => exact Calls.inner (opened_moves cfg _ nid ok)
  | jitter e => exact Calls.inner (jitterStart_moves cfg _)

theorem stepSt_calls (lb : St) (op : Op) :
    Calls cfg (entry cfg lb op) (applied lb op) ((stepSt cfg lb op).2.filter (· ≠ .queued)) (stepSt cfg lb op).1.sub := by
  have pt : Calls cfg ((act cfg lb op).1.finish (sub cfg)).1.sub [] [] (stepSt cfg lb op).1.sub :=
    Calls.inner (tapesRead_moves cfg _)
  have p := ((act_calls lb op).trans (finish_calls (act cfg lb op).1) (Or.inr rfl)).trans pt (Or.inr rfl)
  rw [List.append_nil, List.append_nil, List.append_nil] at p
  exact flushed_results _ _ ▸ p

section
variable (P : AS → List ResV → AS → Prop)
  (calm : ∀ {a a'}, Calm a a' → P a [] a')
  (get : ∀ a, P a [ResV.ofGet (a.get cfg).2] (a.get cfg).1)
  (drop : ∀ a, P a [.dropped] a)
  (trans : ∀ {a b c l l'}, P a l b → P b l' c → P a (l ++ l') c)
include calm get drop trans

/-- For facts that hold along calm moves and along a request: C06's load tracking and own smoothed load, and the
    dispatch table of C03/C04. -/
theorem Calls.fold {a b : AS} {ns : List Notif} {rs : List ResV} (p : Calls cfg a ns rs b) : P a rs b := by
  induction p with
  | nil a => exact calm (Calm.refl a)
  | own m _ ih => exact trans (calm m.calm) ih
  | request _ ih => exact trans (get _) ih
  | dropped _ ih => exact trans (drop _) ih
  | notif n _ ih => exact trans (calm (applyNotif_calm cfg _ n)) ih

end

theorem Calls.reqs_le {a b : AS} {ns : List Notif} {rs : List ResV} (p : Calls cfg a ns rs b) :
    a.hs.reqs.length ≤ b.hs.reqs.length :=
  p.fold (fun a _ b => a.hs.reqs.length ≤ b.hs.reqs.length) (fun c => by rw [c.reqs])
    (fun a => by rw [(get_reqs cfg a).1, List.length_append]; exact Nat.le_add_right _ _) (fun _ => le_refl _) le_trans

def initDoneAfter (lb : St) : Op → Bool
  | .loaded _ _ => true
  | _ => lb.initDone

def blockedAfter (lb : St) : Op → List Notif
  | .loaded _ _ => []
  | .join ep _ => if lb.initDone then lb.blocked else lb.blocked ++ [.join ep]
  | .leave ep _ => if lb.initDone then lb.blocked else lb.blocked ++ [.leave ep]
  | _ => lb.blocked

theorem finish_gateFields (lb : St) :
    (lb.finish (sub cfg)).1.initDone = lb.initDone ∧ (lb.finish (sub cfg)).1.blocked = lb.blocked := by
  rcases finish_cases (sub cfg) lb with ⟨s0, _, _, _, e⟩ | ⟨_, e⟩ <;> rw [e] <;> exact ⟨rfl, rfl⟩

/-- The operation proper and the base class: the gate in front of the callbacks, and the queue in front of the open
    result as the specification rebuilds it (`gateArriveB`).  A request is served on the spot only if the open result is
    complete, and then nothing joins the queue. -/
theorem act_base (lb : St) (op : Op) :
    ((act cfg lb op).1.initDone = initDoneAfter lb op ∧ (act cfg lb op).1.blocked = blockedAfter lb op ∧
      (act cfg lb op).1.queued = gateArriveB lb.queued op ((act cfg lb op).2.contains .queued)) ∧
    ((act cfg lb op).2.filter (· ≠ .queued) ≠ [] → lb.sub.openAr = true ∧ (act cfg lb op).1.queued = lb.queued) := by
  have req : ∀ (e : Env) (evt : Option Bool) (x : St × List ResV),
      x = (((feed lb e).request (sub cfg) evt).1,
        match ((feed lb e).request (sub cfg) evt).2 with | some g => [ResV.ofGet g] | none => [.queued]) →
      (x.1.initDone = lb.initDone ∧ x.1.blocked = lb.blocked ∧
        x.1.queued = (if x.2.contains .queued then lb.queued ++ [evt] else lb.queued)) ∧
      (x.2.filter (· ≠ .queued) ≠ [] → lb.sub.openAr = true ∧ x.1.queued = lb.queued) := by
    rintro e evt _ rfl
    by_cases hr : (sub cfg).openReady (feed lb e).sub = true
    · rw [request_ready _ hr]
      refine ⟨⟨rfl, rfl, (if_neg ?_).symm⟩, fun _ => ⟨hr, rfl⟩⟩
      rw [List.contains_cons, List.contains_nil, Bool.or_false, beq_iff_eq]
      exact fun h => ofGet_ne_queued _ h.symm
    · rw [request_wait _ hr]
      exact ⟨⟨rfl, rfl, rfl⟩, fun h => absurd rfl h⟩
  cases op with
  | join ep e | leave ep e => exact ⟨notify_base _ (feed lb e) _, fun h => absurd rfl h⟩
  | get e => exact req e none _ rfl
  | getd e => exact req e (some false) _ rfl
  | expire k =>
    obtain ⟨b, e⟩ := act_expire cfg lb k
    rw [e]; exact ⟨⟨rfl, rfl, rfl⟩, fun h => absurd rfl h⟩
  | _ => exact ⟨⟨rfl, rfl, rfl⟩, fun h => absurd rfl h⟩

theorem stepSt_gateFields (lb : St) (op : Op) :
    (stepSt cfg lb op).1.initDone = initDoneAfter lb op ∧ (stepSt cfg lb op).1.blocked = blockedAfter lb op := by
  obtain ⟨⟨i1, b1, _⟩, _⟩ := act_base (cfg := cfg) lb op
  obtain ⟨i2, b2⟩ := finish_gateFields (cfg := cfg) (act cfg lb op).1
  obtain ⟨i3, b3, _⟩ := tapesRead_frame ((act cfg lb op).1.finish (sub cfg)).1
  exact ⟨(i3.trans i2).trans i1, (b3.trans b2).trans b1⟩

end Scales.LB
