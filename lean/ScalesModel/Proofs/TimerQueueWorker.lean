/-
  Proofs/TimerQueueWorker.lean — the worker greenlet of Model/TimerQueue.lean.  Besides its blocking
  points its code has one primitive, `pop`, and is one loop (`top`, `drain`) that pops while the head is
  cancelled or due; `timeoutPop` and `peek` are that loop after at most one pop (`timeoutPop_eq`,
  `peek_eq`), and under the control invariant `PcInv` so is the code of every scheduler label (`Loop`,
  `step_sched`).  That the monitor accepts every transition (`step_runs`) and the progress measure `mu`
  both follow this control flow.
-/
import ScalesModel.Proofs.TimerQueueLemmas
import ScalesModel.Proofs.RunLemmas
namespace Scales.TimerQ

/-- what a piece of worker code does to the history: nothing but runs the monitor accepts -/
structure Frame (s s' : St) : Prop where
  seq : s'.seq = s.seq
  res : s'.res = s.res
  now : s'.now = s.now
  recs : s'.recs = s.recs
  cancels : s'.cancels = s.cancels
  runs : ∃ new, s'.out = new.reverse ++ s.out ∧ (accOf s).runs new = (.ok, accOf s')

theorem Frame.keep {s : St} {q : List Item} {ev : Bool} {pc : Pc} :
    Frame s { s with queue := q, ev := ev, pc := pc } :=
  ⟨rfl, rfl, rfl, rfl, rfl, [], rfl, rfl⟩

/-- The pop is put in front of the frame of what follows it (from the popped state to `s'`), not behind a
    frame of what came before: `Acc.runs` recurses from the front of the run list, so the popped head's run
    is one unfolding of it. -/
theorem pop_ok {s s' : St} {h : Item} {rest : List Item} (hc : Core { s with queue := h :: rest })
    (hd : h.cancelled = true ∨ h.deadline ≤ s.now) :
    Core { pop s h with queue := rest } ∧ (Frame { pop s h with queue := rest } s' → Frame s s') := by
  unfold pop
  cases hcanc : h.cancelled with
  | true => exact ⟨hc.popDrop hcanc, fun f => { f with }⟩
  | false =>
    have hdue := hd.resolve_left (hcanc ▸ Bool.false_ne_true)
    obtain ⟨hc', hchk⟩ := hc.popRun hcanc hdue
    refine ⟨hc', fun f => ?_⟩
    obtain ⟨new, ho, hr⟩ := f.runs
    refine { f with runs := ⟨h.seq :: new, ?_, ?_⟩ }
    · rw [List.reverse_cons, List.append_assoc]; exact ho
    · rw [Acc.runs, hchk]; exact hr

/-- The control invariant, per blocking point.  Every `set()` comes with a push and only the worker
    pops, so a set event means a non-empty queue, and past the `clear()` of an iteration (`sleeping0`,
    `waiting`) an entry behind the head: the worker can pop the head and still go round the loop.  A
    worker in a timed wait sleeps towards the head it peeked while the event is clear; a Schedule that
    puts an earlier head under it sets the event, and then only `h.deadline ≤ dl` is left. -/
def PcInv (s : St) : Prop :=
  match s.pc with
  | .crashed => False
  | .top => s.ev = true → s.queue ≠ []
  | .blockedEmpty => (s.ev = true → s.queue ≠ []) ∧ (s.ev = false → s.queue = [])
  | .sleeping0 => s.queue ≠ [] ∧ (s.ev = true → 2 ≤ s.queue.length)
  | .waiting dl pk => ∃ h rest, s.queue = h :: rest ∧ (s.ev = true → rest ≠ []) ∧ h.deadline ≤ dl ∧
      (s.ev = false → h.deadline = dl ∧ h.seq = pk)

structure Inv (s : St) : Prop where
  core : Core s
  pc : PcInv s

/-- for a constructor `p`, `PcInv { s with pc := p }` is by definition the clause of `p` -/
theorem PcInv.of_pc {s : St} {p : Pc} (h : PcInv s) (hp : s.pc = p) : PcInv { s with pc := p } := by
  subst hp; exact h

theorem Inv.init (res now0 : Nat) : Inv (init res now0) :=
  ⟨Core.init res now0, nofun⟩

theorem drain_cons (s : St) (h : Item) (rest : List Item) : drain s (h :: rest) =
    if h.cancelled = true ∨ h.deadline ≤ s.now then drain (pop s h) rest
    else { s with queue := h :: rest, pc := .waiting h.deadline h.seq } := by
  rw [drain, pop]
  cases h.cancelled with
  | true => rfl
  | false =>
    by_cases hlt : s.now < h.deadline
    · rw [if_neg Bool.false_ne_true, if_pos hlt, if_neg (not_or.mpr ⟨Bool.false_ne_true, Nat.not_le.mpr hlt⟩)]
    · rw [if_neg Bool.false_ne_true, if_neg hlt, if_pos (.inr (Nat.le_of_not_lt hlt)), if_neg Bool.false_ne_true]

theorem timeoutPop_eq {s : St} {h : Item} {rest : List Item} (hq : s.queue = h :: rest) :
    timeoutPop s = top { pop s h with queue := rest } := by
  unfold timeoutPop pop
  rw [hq]
  dsimp only
  cases h.cancelled <;> rfl

/-- A cancelled head (`heappop; continue`) or a due one (`wait_timed_out = True`) is popped as after a
    time-out; a live head in the future is waited for unless the event is set again, which is what the
    loop top does with it. -/
theorem peek_eq {s : St} {h : Item} {rest : List Item} (hq : s.queue = h :: rest) :
    peek s = top (if h.cancelled = true ∨ h.deadline ≤ s.now then { pop s h with queue := rest } else s) := by
  by_cases hd : h.cancelled = true ∨ h.deadline ≤ s.now
  · rw [if_pos hd, ← timeoutPop_eq hq]
    unfold peek timeoutPop
    rw [hq]
    dsimp only
    cases hc : h.cancelled with
    | true => rfl
    | false => rw [if_neg (Nat.not_lt.mpr (hd.resolve_left (hc ▸ Bool.false_ne_true)))]
  · rw [if_neg hd]
    unfold peek top
    rw [hq, drain_cons, if_neg hd]
    dsimp only
    rw [if_neg (not_or.mp hd).1, if_pos (Nat.lt_of_not_le (not_or.mp hd).2)]
    cases s.ev <;> rfl

/-- what a piece of worker code started in `s` has established where it blocks, in `s'` -/
structure Ok (s s' : St) : Prop extends Inv s' where
  frame : Frame s s'

theorem drain_ok (q : List Item) : ∀ s : St, Core { s with queue := q } → ¬ s.ev = true → Ok s (drain s q) := by
  induction q with
  | nil =>
    intro s hc hev
    exact ⟨⟨hc.keep, fun h => absurd h hev, fun _ => rfl⟩, .keep⟩
  | cons h rest ih =>
    intro s hc hev
    rw [drain_cons]
    split
    · obtain ⟨hc', hf⟩ := pop_ok hc ‹_›
      have ok := ih _ hc' (pop_ev s h ▸ hev)
      exact ⟨ok.toInv, hf { ok.frame with }⟩
    · exact ⟨⟨hc.keep,
        h, rest, rfl, fun he => absurd he hev, Nat.le_refl _, fun _ => ⟨rfl, rfl⟩⟩,
        .keep⟩

theorem top_ok {s : St} (hc : Core s) (hq : s.ev = true → s.queue ≠ []) : Ok s (top s) := by
  fun_cases top s with
  | case1 hev => exact ⟨⟨hc.keep, hq hev, nofun⟩, .keep⟩
  | case2 hev => exact drain_ok s.queue s hc hev

theorem top_pop_ok {s : St} {h : Item} {rest : List Item} (hc : Core s) (hq : s.queue = h :: rest)
    (hrest : s.ev = true → rest ≠ []) (hd : h.cancelled = true ∨ h.deadline ≤ s.now) :
    Ok s (top { pop s h with queue := rest }) :=
  have ⟨hc', hf⟩ := pop_ok (rest := rest) (hq ▸ hc) hd
  have ok := top_ok hc' (fun hev => hrest ((pop_ev s h).symm.trans hev))
  ⟨ok.toInv, hf ok.frame⟩

theorem PcInv.schedule {s : St} (h : PcInv s) (d : Nat) : PcInv (schedule s d) := by
  have hne : (TimerQ.schedule s d).queue ≠ [] := insertSorted_ne_nil _ _
  unfold PcInv at h ⊢
  rw [schedule_pc]
  revert h
  cases s.pc with
  | crashed => exact id
  | top => exact fun _ _ => hne
  | blockedEmpty =>
    -- the event was set already, or the queue was empty and the new entry is its head
    refine fun h => ⟨fun _ => hne, fun h' => absurd (h' ▸ ?_) Bool.false_ne_true⟩
    cases hs : s.ev with
    | true => exact schedule_ev_mono s d hs
    | false => exact schedule_ev_of_nil s d (h.2 hs)
  | sleeping0 =>
    refine fun h => ⟨hne, fun _ => ?_⟩
    rw [schedule_queue, insertSorted_length]
    exact Nat.succ_le_succ (List.length_pos_iff.mpr h.1)
  | waiting dl pk =>
    rintro ⟨hd, rest, hq, hrest, hle, hev⟩
    have hev' : (TimerQ.schedule s d).ev = false → s.ev = false := fun h' =>
      Bool.eq_false_iff.mpr fun hs => Bool.false_ne_true (h' ▸ schedule_ev_mono s d hs)
    by_cases hlt : (newItem s d).lt hd
    · -- the new entry is the head, and the event is set
      refine ⟨_, hd :: rest, ?_, fun _ => List.cons_ne_nil _ _, Nat.le_trans (Item.lt_deadline_le hlt) hle,
        fun h' => absurd (h' ▸ ?_) Bool.false_ne_true⟩
      · rw [schedule_queue, hq, insertSorted_cons, if_pos hlt]
      · rw [schedule_ev, hq, insertSorted_cons, if_pos hlt]; exact if_pos rfl
    · refine ⟨hd, insertSorted (newItem s d) rest, ?_,
        fun _ => insertSorted_ne_nil _ _, hle, fun h' => hev (hev' h')⟩
      rw [schedule_queue, hq, insertSorted_cons, if_neg hlt]

theorem PcInv.cancel {s : St} (h : PcInv s) (k : Nat) : PcInv (cancel s k) := by
  have hnil : s.queue.map (flag k) ≠ [] ↔ s.queue ≠ [] := not_congr List.map_eq_nil_iff
  unfold PcInv at h ⊢
  rw [cancel_pc, cancel_ev, cancel_queue_flag]
  revert h
  cases s.pc with
  | crashed => exact id
  | top => exact fun h hev => hnil.mpr (h hev)
  | blockedEmpty =>
    exact fun h => ⟨fun hev => hnil.mpr (h.1 hev), fun hev => List.map_eq_nil_iff.mpr (h.2 hev)⟩
  | sleeping0 => exact fun h => ⟨hnil.mpr h.1, fun hev => (List.length_map (flag k)).symm ▸ h.2 hev⟩
  | waiting dl pk =>
    rintro ⟨hd, rest, hq, hrest, hle, hev⟩
    exact ⟨flag k hd, rest.map (flag k), hq ▸ List.map_cons, fun he => mt List.map_eq_nil_iff.mp (hrest he),
      hle, hev⟩

theorem PcInv.queue_ne_nil {s : St} (h : PcInv s) (hev : s.ev = true) : s.queue ≠ [] := by
  unfold PcInv at h
  revert h
  cases s.pc with
  | crashed => exact False.elim
  | top => exact fun h => h hev
  | blockedEmpty => exact fun h => h.1 hev
  | sleeping0 => exact fun h => h.1
  | waiting dl pk => exact fun ⟨_, _, hq, _⟩ => hq ▸ List.cons_ne_nil _ _

theorem quiescent_future {s : St} (hi : Inv s) (hq : resumable s = false) :
    ∀ i ∈ s.queue, s.now < i.deadline := by
  unfold resumable at hq
  cases hpc : s.pc with
  | crashed => exact (hi.pc.of_pc hpc).elim
  | top => rw [hpc] at hq; cases hq
  | sleeping0 => rw [hpc] at hq; cases hq
  | blockedEmpty =>
    rw [hpc] at hq
    rw [(hi.pc.of_pc hpc).2 hq]
    exact fun _ h => (List.not_mem_nil h).elim
  | waiting dl pk =>
    rw [hpc] at hq
    obtain ⟨hev, hdl⟩ := Bool.or_eq_false_iff.mp hq
    obtain ⟨hd, rest, hqq, _, _, hw⟩ := hi.pc.of_pc hpc
    have hlt : s.now < hd.deadline := (hw hev).1 ▸ Nat.lt_of_not_le (of_decide_eq_false hdl)
    have hs := hi.core.sorted
    rw [hqq] at hs ⊢
    exact List.forall_mem_cons.mpr ⟨hlt, fun i hi' =>
      Nat.lt_of_lt_of_le hlt (Item.lt_deadline_le ((List.pairwise_cons.mp hs).1 i hi'))⟩

theorem Inv.no_lost_wakeup {s : St} (hi : Inv s) (hq : resumable s = false) {r : Rec} (hr : r ∈ s.recs)
    (hnc : r.seq ∉ cancSeqs s) (hrd : r.rd ≤ s.now) : ∃ t, (r.seq, t) ∈ s.ran ∧ r.rd ≤ t ∧ t ≤ s.now := by
  refine (hi.core.rec_cases hr hnc).resolve_left fun h => ?_
  obtain ⟨i, hi', _, hd, _⟩ := h
  exact Nat.not_lt.mpr hrd (hd ▸ quiescent_future hi hq i hi')

theorem checkIdle_ok {s : St} (hi : Inv s) (hq : resumable s = false) : (accOf s).checkIdle = .ok := by
  unfold Acc.checkIdle
  generalize hf : List.find? _ (accOf s).recs = o
  cases o with
  | none => rfl
  | some r =>
    have hp := List.find?_some hf
    rw [Bool.and_eq_true, Bool.and_eq_true, Bool.not_eq_true', Bool.not_eq_true', decide_eq_true_eq,
      ← Bool.not_eq_true, ← Bool.not_eq_true, Acc.isCancelled_iff, Acc.hasRun_iff] at hp
    obtain ⟨t, ht, _⟩ := hi.no_lost_wakeup hq (List.mem_of_find?_eq_some hf) hp.1.1 hp.1.2
    exact (hp.2 (List.mem_map_of_mem (f := (·.1)) ht)).elim

def isSched : Label → Bool
  | .start | .resumeSet | .resumeTimeout | .resumeSleep => true
  | _ => false

/-- What the code of a scheduler label is, under the control invariant: a pass round the loop, after at most
    one pop.  A pass without a pop starts from a set event, from the loop top or from `sleeping0`. -/
inductive Loop (s : St) : St → Prop
  | stay : (s.ev = true ∨ s.pc = .top ∨ s.pc = .sleeping0) → Loop s (top s.clearOut)
  | pop {h : Item} {rest : List Item} : s.queue = h :: rest → (s.ev = true → rest ≠ []) →
      (h.cancelled = true ∨ h.deadline ≤ s.now) → Loop s (top { pop s.clearOut h with queue := rest })

theorem step_sched {s s' : St} {l : Label} (hl : isSched l = true) (hs : step s l = some s') :
    resumable s = true ∧ (PcInv s → Loop s s') := by
  unfold step at hs
  unfold resumable
  cases l with
  | schedule _ | cancel _ | tick _ | idle => cases hl
  | start =>
    dsimp only at hs
    split at hs
    · rename_i hpc
      cases hs
      exact ⟨by rw [hpc], fun _ => .stay (.inr (.inl hpc))⟩
    · cases hs
  | resumeSleep =>
    dsimp only at hs
    split at hs
    · rename_i hpc
      cases hs
      refine ⟨by rw [hpc], fun hp => ?_⟩
      obtain ⟨hne, h2⟩ := hp.of_pc hpc
      obtain ⟨hd, rest, hq⟩ := List.exists_cons_of_ne_nil hne
      rw [peek_eq (s := s.clearOut) hq]
      split
      · refine .pop hq (fun hev hn => ?_) ‹_›
        have := h2 hev
        rw [hq, hn] at this
        exact Nat.not_succ_le_self 1 this
      · exact .stay (.inr (.inr hpc))
    · cases hs
  | resumeSet =>
    dsimp only at hs
    split at hs
    · rename_i hpc
      obtain ⟨hev, hs⟩ := Option.ite_none_right_eq_some.mp hs
      cases hs
      exact ⟨by rw [hpc]; exact hev, fun _ => .stay (.inl hev)⟩
    · rename_i hpc
      obtain ⟨hev, hs⟩ := Option.ite_none_right_eq_some.mp hs
      cases hs
      exact ⟨by rw [hpc]; exact Bool.or_eq_true_iff.mpr (.inl hev), fun _ => .stay (.inl hev)⟩
    · cases hs
  | resumeTimeout =>
    dsimp only at hs
    split at hs
    · rename_i hpc
      obtain ⟨hdl, hs⟩ := Option.ite_none_right_eq_some.mp hs
      cases hs
      refine ⟨by rw [hpc]; exact Bool.or_eq_true_iff.mpr (.inr (decide_eq_true hdl)), fun hp => ?_⟩
      obtain ⟨hd, rest, hq, hrest, hle, _⟩ := hp.of_pc hpc
      -- whatever the head is by now, it is due: `hd.deadline ≤ dl` of `PcInv`, and `dl ≤ now`
      exact timeoutPop_eq (s := s.clearOut) hq ▸ .pop hq hrest (.inr (Nat.le_trans hle hdl))
    · cases hs

theorem resumable_iff (s : St) :
    resumable s = true ↔ ∃ l, isSched l = true ∧ (step s l).isSome = true := by
  constructor
  · unfold resumable
    intro hr
    cases hpc : s.pc with
    | crashed => rw [hpc] at hr; cases hr
    | top => exact ⟨.start, rfl, by simp only [step, hpc]; rfl⟩
    | sleeping0 => exact ⟨.resumeSleep, rfl, by simp only [step, hpc]; rfl⟩
    | blockedEmpty =>
      rw [hpc] at hr
      exact ⟨.resumeSet, rfl, by simp only [step, hpc, hr, if_true]; rfl⟩
    | waiting dl pk =>
      rw [hpc] at hr
      rcases Bool.or_eq_true_iff.mp hr with hev | hdl
      · exact ⟨.resumeSet, rfl, by simp only [step, hpc, hev, if_true]; rfl⟩
      · exact ⟨.resumeTimeout, rfl, by simp only [step, hpc, of_decide_eq_true hdl, if_true]; rfl⟩
  · rintro ⟨l, hl, hs⟩
    obtain ⟨s', hs⟩ := Option.isSome_iff_exists.mp hs
    exact (step_sched hl hs).1

theorem Loop.step_ok {s s' : St} (hi : Inv s) (h : Loop s s') :
    Inv s' ∧ s'.res = s.res ∧ (accOf s).runs s'.out.reverse = (.ok, accOf s') := by
  have hok : Ok s.clearOut s' := by
    cases h with
    | stay => exact top_ok hi.core.keep hi.pc.queue_ne_nil
    | pop hq hrest hd => exact top_pop_ok hi.core.keep hq hrest hd
  obtain ⟨new, ho, hr⟩ := hok.frame.runs
  refine ⟨hok.toInv, hok.frame.res, ?_⟩
  rw [ho, List.append_nil, List.reverse_reverse]
  exact hr

theorem step_runs {s s' : St} {l : Label} (hi : Inv s) (hs : step s l = some s') :
    Inv s' ∧ s'.res = s.res ∧ ((accOf s).apply s.res l).preCheck l = .ok ∧
      ((accOf s).apply s.res l).runs s'.out.reverse = (.ok, accOf s') ∧ (accOf s').postCheck l = .ok := by
  have hc0 : Core s.clearOut := hi.core.keep
  -- `PcInv` reads `pc`, `ev` and `queue` only
  have hp0 : PcInv s.clearOut := hi.pc
  cases l with
  | schedule d =>
    cases hs
    exact ⟨⟨hc0.schedule d, hp0.schedule d⟩, rfl, rfl, rfl, rfl⟩
  | cancel k =>
    obtain ⟨hk, hs⟩ := Option.ite_none_right_eq_some.mp hs
    cases hs
    exact ⟨⟨hc0.cancel k hk.2, hp0.cancel k⟩, rfl, checkCancel_ok (hc0.cancel k hk.2) List.mem_cons_self, rfl, rfl⟩
  | tick dt =>
    cases hs
    exact ⟨⟨hc0.tick dt, hp0⟩, rfl, rfl, rfl, rfl⟩
  | idle =>
    obtain ⟨hq, hs⟩ := Option.ite_none_left_eq_some.mp hs
    cases hs
    exact ⟨⟨hc0, hp0⟩, rfl, rfl, rfl, checkIdle_ok ⟨hc0, hp0⟩ (Bool.eq_false_iff.mpr hq)⟩
  | start | resumeSet | resumeTimeout | resumeSleep =>
    obtain ⟨hi', hres, hr⟩ := ((step_sched rfl hs).2 hi.pc).step_ok hi
    exact ⟨hi', hres, rfl, hr, rfl⟩

theorem step_ok {s s' : St} {l : Label} (hi : Inv s) (hs : step s l = some s') :
    Inv s' ∧ s'.res = s.res ∧ specStep s.res (accOf s) l (.st (obsOf s')) = (.ok, accOf s') :=
  have ⟨hi', hres, hpre, hruns, hpost⟩ := step_runs hi hs
  ⟨hi', hres, specStep_ok hpre hruns hpost⟩

/-- The order property of C10 for one transition of any state with the invariant.  `Frame.runs` records
    the runs of a transition only as runs the monitor accepts, so that the spawned entry was least among
    the pending records (`Core.head_least`, inside `Core.popRun`) is read back from the acceptance:
    `runs_split` gives the monitor state at the moment `k` ran, `Acc.checkRun_eq_ok_iff` its order clause. -/
theorem step_order {s s' : St} {l : Label} (hi : Inv s) (hs : step s l = some s')
    {pre post : List Nat} {k : Nat} (hsplit : s'.out.reverse = pre ++ k :: post)
    {rk r : Rec} (hrk : rk ∈ s'.recs) (hk : rk.seq = k) (hr : r ∈ s'.recs) (hne : r.seq ≠ k)
    (hnotran : r.seq ∉ s.ran.map (·.1)) (hnotpre : r.seq ∉ pre)
    (hnc : r.seq ∉ s'.cancels.map (·.1)) :
    rk.rd < r.rd ∨ (rk.rd = r.rd ∧ rk.seq < r.seq) := by
  obtain ⟨hi', _, _, hruns, _⟩ := step_runs hi hs
  rw [hsplit] at hruns
  obtain ⟨a1, hchk, hfg, hran⟩ := runs_split _ _ _ _ _ hruns
  have hfg' : a1.forget = (accOf s').forget :=
    hfg.trans ((congrArg (·.2.forget) hruns).symm.trans (runs_forget _ _)).symm
  have hrecs : a1.recs = s'.recs := congrArg Acc.recs hfg'
  have hcanc : a1.cancels = s'.cancels := congrArg Acc.cancels hfg'
  have hran0 : ((accOf s).apply s.res l).ran = s.ran := by cases l <;> rfl
  subst hk
  refine ((Acc.checkRun_eq_ok_iff (hrecs ▸ hi'.core.recs_nodup) (hrecs ▸ hrk)).mp hchk).2.2.2 r
    (hrecs ▸ hr) hne ?_ (hcanc ▸ hnc)
  rw [hran, hran0, List.mem_append, List.mem_reverse]
  exact not_or.mpr ⟨hnotpre, hnotran⟩

theorem runLabels_cons {s s' : St} {l : Label} {ls : List Label} :
    runLabels s (l :: ls) = some s' ↔ ∃ s1, step s l = some s1 ∧ runLabels s1 ls = some s' := by
  rw [runLabels]
  cases step s l with
  | none => exact ⟨nofun, fun h => h.elim fun _ h => nomatch h.1⟩
  | some s1 => exact ⟨fun h => ⟨s1, rfl, h⟩, fun h => h.elim fun _ h => Option.some.inj h.1 ▸ h.2⟩

theorem reach {s : St} (hi : Inv s) : ∀ (ls : List Label) {s' : St}, runLabels s ls = some s' →
    Inv s' ∧ s'.res = s.res ∧ (accOf s').forget = ls.foldl (Acc.apply s.res) (accOf s).forget := by
  intro ls
  induction ls generalizing s with
  | nil => intro s' h; cases h; exact ⟨hi, rfl, rfl⟩
  | cons l ls ih =>
    intro s' h
    obtain ⟨s1, hs1, h⟩ := runLabels_cons.mp h
    obtain ⟨hi1, hres1, _, hruns, _⟩ := step_runs hi hs1
    obtain ⟨hi', hres', hf⟩ := ih hi1 h
    have h1 := runs_forget ((accOf s).apply s.res l) s1.out.reverse
    rw [hruns, Acc.forget_apply] at h1
    exact ⟨hi', hres'.trans hres1, by rw [hf, hres1, h1, List.foldl_cons]⟩

theorem reach_init_inv (c : Cfg) (ls : List Label) (s : St) (h : runLabels (initSt c) ls = some s) : Inv s :=
  (reach (Inv.init c.res c.now0) ls h).1

theorem reach_init_res (c : Cfg) (ls : List Label) (s : St) (h : runLabels (initSt c) ls = some s) :
    s.res = c.res :=
  (reach (Inv.init c.res c.now0) ls h).2.1

theorem trace_ok : ∀ (ops : List Op) (c : Cfg) (s : St), Inv s → (runLabels s ops).isSome = true →
    specGo s.res (accOf s) (comp.trace c s ops) = .ok := by
  intro ops
  induction ops with
  | nil => intro c s _ _; rfl
  | cons l ls ih =>
    intro c s hi hrun
    obtain ⟨s', hrun⟩ := Option.isSome_iff_exists.mp hrun
    obtain ⟨s1, hs, hrun⟩ := runLabels_cons.mp hrun
    obtain ⟨hi1, hres1, hspec⟩ := step_ok hi hs
    rw [TComp.trace_cons comp stepT, specGo, stepT, hs, hspec, ← hres1]
    exact ih c s1 hi1 (Option.isSome_iff_exists.mpr ⟨_, hrun⟩)

/-- a bound on the number of scheduler labels that can still be taken without a new
    environment label -/
def mu (s : St) : Nat :=
  3 * s.queue.length + (if s.ev then 2 else 0) +
    (match s.pc with
     | .top => 2
     | .sleeping0 => 1
     | _ => 0)

theorem mu_le (s : St) : mu s ≤ 3 * s.queue.length + 4 := by
  unfold mu
  have h1 : (if s.ev = true then 2 else 0) ≤ 2 := by split <;> decide
  have h2 : (match s.pc with | .top => 2 | .sleeping0 => 1 | _ => 0) ≤ 2 := by split <;> decide
  show _ ≤ 3 * s.queue.length + 2 + 2
  exact Nat.add_le_add (Nat.add_le_add_left h1 _) h2

/-! Why these weights.  Going round the loop (`top`) from any state ends at a blocking point with the event
    clear and `mu ≤ 3·|queue|`, plus the 1 of `sleeping0` if the event was set (`mu_top`).  A label that pops
    an entry has that entry's 3 to spend (`mu_top_pop`).  A label that only goes round the loop starts above
    what it ends with (`mu_top_lt`): by the 2 of a set event (`resumeSet`), the 2 of the loop top (`start`),
    the 1 of `sleeping0` (`resumeSleep` on a live head in the future). -/

theorem mu_drain (q : List Item) : ∀ s : St, ¬ s.ev = true → mu (drain s q) ≤ 3 * q.length := by
  induction q with
  | nil => intro s hev; unfold mu; rw [drain, if_neg hev]; exact Nat.le_refl _
  | cons h rest ih =>
    intro s hev
    rw [drain_cons]
    split
    · exact Nat.le_trans (ih _ (pop_ev s h ▸ hev)) (Nat.mul_le_mul_left 3 (Nat.le_succ _))
    · unfold mu; rw [if_neg hev]; exact Nat.le_refl _

theorem mu_top (s : St) : mu (top s) ≤ 3 * s.queue.length + (if s.ev then 1 else 0) := by
  fun_cases top s with
  | case1 hev => rw [hev]; exact Nat.le_refl _
  | case2 hev => rw [if_neg hev]; exact mu_drain s.queue s hev

theorem le_mu (s : St) : 3 * s.queue.length ≤ mu s :=
  Nat.le_trans (Nat.le_add_right _ _) (Nat.le_add_right _ _)

theorem mu_top_pop {s : St} {h : Item} {rest : List Item} (hq : s.queue = h :: rest) :
    mu (top { pop s h with queue := rest }) < mu s := by
  have h3 : 3 * rest.length + 3 ≤ mu s := by
    have := le_mu s
    rwa [hq] at this
  have h1 : (if (pop s h).ev = true then 1 else 0) < 3 := by cases (pop s h).ev <;> decide
  exact Nat.lt_of_le_of_lt (mu_top _) (Nat.lt_of_lt_of_le (Nat.add_lt_add_left h1 _) h3)

theorem mu_top_lt {s : St} (hw : s.ev = true ∨ s.pc = .top ∨ s.pc = .sleeping0) :
    mu (top s.clearOut) < mu s := by
  refine Nat.lt_of_le_of_lt (mu_top _) ?_
  unfold mu
  rw [Nat.add_assoc]
  refine Nat.add_lt_add_left ?_ _
  show (if s.ev = true then 1 else 0) < _
  rcases hw with hev | hpc | hpc
  · rw [hev]; exact Nat.lt_add_right _ (by decide)
  · rw [hpc]; cases s.ev <;> decide
  · rw [hpc]; cases s.ev <;> decide

theorem Loop.mu_lt {s s' : St} (h : Loop s s') : mu s' < mu s := by
  cases h with
  | stay hw => exact mu_top_lt hw
  | pop hq => exact mu_top_pop (s := s.clearOut) hq

theorem mu_run : ∀ (ws : List Label) (s s' : St), Inv s → (∀ l ∈ ws, isSched l = true) →
    runLabels s ws = some s' → ws.length + mu s' ≤ mu s := by
  intro ws
  induction ws with
  | nil => intro s s' _ _ h; cases h; exact Nat.le_of_eq (Nat.zero_add _)
  | cons l ls ih =>
    intro s s' hi hall h
    obtain ⟨s1, hs1, h⟩ := runLabels_cons.mp h
    obtain ⟨hl, hls⟩ := List.forall_mem_cons.mp hall
    have h1 : mu s1 + 1 ≤ mu s := ((step_sched hl hs1).2 hi.pc).mu_lt
    have h2 := ih s1 s' (step_ok hi hs1).1 hls h
    rw [List.length_cons, Nat.add_right_comm]
    exact Nat.le_trans (Nat.add_le_add_right h2 1) h1

end Scales.TimerQ
