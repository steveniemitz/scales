import ScalesModel.Proofs.HeapSim
import ScalesModel.Proofs.VerdictLemmas
import ScalesModel.Proofs.RunLemmas

/-! Induction over the operation list: `Inv` and the simulation hold along every legal history,
    hence both executable specifications answer `ok` on the model's history; a node that left the
    heap never returns. -/
namespace Scales.Heap

theorem opsOk_cons (s : HS) (op : Op) (ops : List Op) :
    opsOk s (op :: ops) = (opsOk s [op] && opsOk (step () s op).1 ops) := by
  show (_ && _) = ((_ && true) && _)
  rw [Bool.and_true]

theorem getCount_cons (op : Op) (ops : List Op) : getCount (op :: ops) = getCount ops + opGets op := by
  cases op <;> rfl

def runOps (s : HS) : List Op → HS
  | [] => s
  | op :: ops => runOps (step () s op).1 ops

theorem run_cons {s : HS} {op : Op} {ops : List Op} (h : Inv s) (hok : opsOk s (op :: ops) = true)
    (hb : s.reqs.length + getCount (op :: ops) < maxReqs) :
    ∃ res, (step () s op).2 = obsOf (step () s op).1 res ∧ Eff s op (step () s op).1 res ∧ Inv (step () s op).1 ∧
      opsOk (step () s op).1 ops = true ∧ (step () s op).1.reqs.length + getCount ops < maxReqs := by
  rw [opsOk_cons, Bool.and_eq_true] at hok
  rw [getCount_cons] at hb
  obtain ⟨res, hobs, e, i⟩ := step_eff s op h hok.1 (by omega)
  have l1 := e.mono.1
  exact ⟨res, hobs, e, i, hok.2, by omega⟩

theorem run_induction (P : HS → Prop) (hP : ∀ s op s' res, Inv s → Eff s op s' res → P s → P s')
    (ops : List Op) : ∀ (s : HS), Inv s → opsOk s ops = true → s.reqs.length + getCount ops < maxReqs → P s →
    Inv (runOps s ops) ∧ (runOps s ops).reqs.length ≤ s.reqs.length + getCount ops ∧ P (runOps s ops) := by
  induction ops with
  | nil => intro s h _ _ hp; exact ⟨h, Nat.le_refl _, hp⟩
  | cons op ops ih =>
    intro s h hok hb hp
    obtain ⟨res, _, e, i1, hok', hb'⟩ := run_cons h hok hb
    obtain ⟨i2, l2, p2⟩ := ih _ i1 hok' hb' (hP s op _ res h e hp)
    refine ⟨i2, Nat.le_trans l2 ?_, p2⟩
    rw [getCount_cons, Nat.add_comm (getCount ops), ← Nat.add_assoc]
    exact Nat.add_le_add_right e.mono.1 _

theorem run_removed (ops : List Op) (s : HS) (h : Inv s) (hok : opsOk s ops = true)
    (hb : s.reqs.length + getCount ops < maxReqs) (id : Nat) (hl : id < s.nodes.length) (hn : ¬ InHeap s id) :
    Inv (runOps s ops) ∧ id < (runOps s ops).nodes.length ∧ ¬ InHeap (runOps s ops) id := by
  obtain ⟨i, _, p⟩ := run_induction (fun s => id < s.nodes.length ∧ ¬ InHeap s id)
    (fun s op s' res _ e hp => ⟨Nat.lt_of_lt_of_le hp.1 e.mono.2.1, fun x => hp.2 (e.mono.2.2 id hp.1 x)⟩)
    ops s h hok hb ⟨hl, hn⟩
  exact ⟨i, p⟩

theorem init_bound {ops : List Op} (hb : getCount ops < 2147483647) : HS.init.reqs.length + getCount ops < maxReqs := by
  show 0 + getCount ops < 2147483647
  rw [Nat.zero_add]; exact hb

theorem wfOps_iff (ops : List Op) : wfOps ops = true ↔ opsOk HS.init ops = true ∧ getCount ops < 2147483647 := by
  unfold wfOps
  rw [Bool.and_eq_true, decide_eq_true_eq]

theorem run_init (ops : List Op) (hok : opsOk HS.init ops = true) (hb : getCount ops < 2147483647) :
    Inv (runOps HS.init ops) ∧ (runOps HS.init ops).reqs.length ≤ getCount ops := by
  obtain ⟨i, l, _⟩ := run_induction (fun _ => True) (fun _ _ _ _ _ _ _ => trivial) ops HS.init Inv_init hok
    (init_bound hb) trivial
  exact ⟨i, Nat.zero_add (getCount ops) ▸ l⟩

/-- what holds of the model state and the rebuilt abstract state along a legal history -/
structure Sim (a : A0) (s : HS) : Prop where
  inv : Inv s
  sim : Sim0 a s
  prev : PrevOk a s

theorem Sim.init : Sim {} HS.init := by
  have hlen : ∀ id, ¬ id < HS.init.nodes.length := fun id => Nat.not_lt_zero id
  have htab : ∀ d f, Tab [] d HS.init.nodes.length f := fun d f => ⟨rfl, fun id hl => absurd hl (hlen id)⟩
  refine ⟨Inv_init, ⟨rfl, fun id ep => ⟨fun h => (nomatch h), ?_⟩, htab _ _, htab _ _, rfl, htab _ _⟩,
    fun id hl => absurd hl (hlen id)⟩
  rintro ⟨⟨p, h1, h2, _⟩, _⟩
  exact absurd (Nat.le_trans h1 h2) (Nat.not_succ_le_zero 0)

theorem Sim.eff {a : A0} {s s' : HS} {op : Op} {res : Option GetRes} (h : Sim a s) (e : Eff s op s' res)
    (hi : Inv s') : Sim (a.after op (obsOf s' res)) s' := by
  refine ⟨hi, ?_, fun id hl => ⟨_, by cases op <;> rfl, penalisedIn_obsOf _ res id hl⟩⟩
  cases op with
  | join ep => exact sim_join e h.inv h.sim _
  | leave ep => exact sim_leave e h.inv h.sim h.prev _
  | get => exact sim_get e h.sim _ rfl
  | put r j => exact sim_put e h.inv h.sim _
  | chan nid st => exact sim_chan e h.sim _

theorem spec_ok (which : Nat) (ops : List Op) : ∀ (s : HS) (a : A0) (idx : Nat), Sim a s →
    opsOk s ops = true → s.reqs.length + getCount ops < maxReqs →
    specGo which a idx ((comp which).trace () s ops) = .ok := by
  induction ops with
  | nil => intro s a idx _ _ _; rfl
  | cons op ops ih =>
    intro s a idx h hok hb
    obtain ⟨res, hobs, e, i1, hok', hb'⟩ := run_cons h.inv hok hb
    have h1 := h.eff e i1
    rw [TComp.trace_cons (comp which) step, hobs]
    unfold specGo
    refine Verdict.and_ok ?_ (Verdict.and_ok ?_ (ih _ _ (idx + 1) h1 hok' hb'))
    · by_cases hw : which = 3
      · rw [if_pos hw]
        cases op with
        | get => exact c03_ok e h.inv h.sim idx
        | _ => rfl
      · rw [if_neg hw]
    · by_cases hw : which = 4
      · rw [if_pos hw]; exact c04_ok _ _ h1.inv h1.sim idx res
      · rw [if_neg hw]

end Scales.Heap
